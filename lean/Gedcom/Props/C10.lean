/-
  C10 — Merging documents accounts for every person and keeps links valid.
  Property theorems about `Gedcom.MergeG.mergeG` (the function the driver runs): the composition
  of the individual matching (an input, C11), `IndividualNodes.Merge`, `MergeNodeSlices` on the
  other records and `NewDocumentWithNodes`, at the level of records, pointers and reference lines.
  Not here: the inside of `MergeNodes` on fact subtrees ("holds the facts of both", C09) and the
  re-decodability of the output (C01) — both are in Props/C10Compose, which composes this file with
  the C09 merge model, the C11 matching model and the decoder.
-/
import Gedcom.Model.MergeGraph
import Gedcom.Lemmas.Basics
namespace Gedcom.C10
open Gedcom.MergeG

/-- the input individuals one comparison accounts for (`false` = left, `true` = right) -/
def srcs : M → List (Bool × Nat)
  | .both i j => [(false, i), (true, j)]
  | .left i => [(false, i)]
  | .right j => [(true, j)]

def allSources (nl nr : Nat) : List (Bool × Nat) :=
  (List.range nl).map (fun i => (false, i)) ++ (List.range nr).map (fun j => (true, j))

/-- what C11 guarantees about `IndividualNodes.Compare`: every left and every right individual
    occurs in exactly one comparison (decidable) -/
def ValidMatching (m : List M) (nl nr : Nat) : Prop := (m.flatMap srcs).Perm (allSources nl nr)

instance (m : List M) (nl nr : Nat) : Decidable (ValidMatching m nl nr) := by
  unfold ValidMatching; exact inferInstance

theorem mem_allSources {nl nr : Nat} {b : Bool} {k : Nat} :
    (b, k) ∈ allSources nl nr ↔ k < bif b then nr else nl := by
  cases b <;> simp [allSources]

theorem nodup_allSources (nl nr : Nat) : (allSources nl nr).Nodup := by
  unfold allSources
  rw [List.nodup_append]
  refine ⟨?_, ?_, ?_⟩
  · exact nodup_map (fun a b e => by simpa using e) List.nodup_range
  · exact nodup_map (fun a b e => by simpa using e) List.nodup_range
  · intro a ha b hb e
    simp only [List.mem_map] at ha hb
    obtain ⟨_, _, rfl⟩ := ha
    obtain ⟨_, _, rfl⟩ := hb
    simp at e

theorem of_mem_srcs_left {i : Nat} {x : M} (h : (false, i) ∈ srcs x) :
    x = .left i ∨ ∃ j, x = .both i j := by
  cases x with
  | both i' j =>
    rcases List.mem_cons.mp h with e | e
    · cases e; exact Or.inr ⟨j, rfl⟩
    · cases List.mem_singleton.mp e
  | left i' => cases List.mem_singleton.mp h; exact Or.inl rfl
  | right j => cases List.mem_singleton.mp h

theorem of_mem_srcs_right {j : Nat} {x : M} (h : (true, j) ∈ srcs x) :
    x = .right j ∨ ∃ i, x = .both i j := by
  cases x with
  | both i j' =>
    rcases List.mem_cons.mp h with e | e
    · cases e
    · cases List.mem_singleton.mp e; exact Or.inr ⟨i, rfl⟩
  | left i => cases List.mem_singleton.mp h
  | right j' => cases List.mem_singleton.mp h; exact Or.inl rfl

namespace ValidMatching
variable {m : List M} {nl nr : Nat}

theorem left_iff (h : ValidMatching m nl nr) {i : Nat} : (∃ x ∈ m, (false, i) ∈ srcs x) ↔ i < nl := by
  rw [← List.mem_flatMap, h.mem_iff, mem_allSources]
  rfl

theorem right_iff (h : ValidMatching m nl nr) {j : Nat} : (∃ x ∈ m, (true, j) ∈ srcs x) ↔ j < nr := by
  rw [← List.mem_flatMap, h.mem_iff, mem_allSources]
  rfl

theorem left_covered {i : Nat} (hv : ValidMatching m nl nr) (hi : i < nl) :
    M.left i ∈ m ∨ ∃ j, M.both i j ∈ m := by
  obtain ⟨x, hx, hs⟩ := hv.left_iff.mpr hi
  rcases of_mem_srcs_left hs with rfl | ⟨j, rfl⟩
  · exact Or.inl hx
  · exact Or.inr ⟨j, hx⟩

theorem right_covered {j : Nat} (hv : ValidMatching m nl nr) (hj : j < nr) :
    M.right j ∈ m ∨ ∃ i, M.both i j ∈ m := by
  obtain ⟨x, hx, hs⟩ := hv.right_iff.mpr hj
  rcases of_mem_srcs_right hs with rfl | ⟨i, rfl⟩
  · exact Or.inl hx
  · exact Or.inr ⟨i, hx⟩

theorem unique (hv : ValidMatching m nl nr) {x y : M} (hx : x ∈ m) (hy : y ∈ m) {s : Bool × Nat}
    (hsx : s ∈ srcs x) (hsy : s ∈ srcs y) : x = y :=
  have hn : (m.flatMap srcs).Nodup := (List.Perm.nodup_iff hv).mpr (nodup_allSources nl nr)
  eq_of_pairwise (List.pairwise_flatMap.mp hn).2 hx hy (fun d => d s hsx s hsy rfl)
    (fun d => d s hsy s hsx rfl)

end ValidMatching

/-- `Out l r x o`: comparison `x` yields the output individual `o` -/
inductive Out (l r : List Rcd) : M → Rcd → Prop
  | both {i j : Nat} {a b : Rcd} : l[i]? = some a → r[j]? = some b →
      Out l r (.both i j) ⟨a.ptr, mergeRefs a.refs b.refs⟩
  | left {i : Nat} {a : Rcd} : l[i]? = some a → Out l r (.left i) a
  | right {j : Nat} {b : Rcd} : r[j]? = some b → Out l r (.right j) b

theorem mergeOne_eq_some {l r : List Rcd} {x : M} {o : Rcd} {ss : List (Bool × Nat)} :
    mergeOne l r x = some (o, ss) ↔ Out l r x o ∧ ss = srcs x := by
  constructor
  · intro h
    cases x with
    | both i j =>
      simp only [mergeOne] at h
      split at h
      · rename_i a b ha hb
        cases h
        exact ⟨.both ha hb, rfl⟩
      · cases h
    | left i =>
      obtain ⟨a, ha, he⟩ := Option.map_eq_some_iff.mp h
      cases he
      exact ⟨.left ha, rfl⟩
    | right j =>
      obtain ⟨b, hb, he⟩ := Option.map_eq_some_iff.mp h
      cases he
      exact ⟨.right hb, rfl⟩
  · rintro ⟨h, rfl⟩
    cases h with
    | both ha hb => simp only [mergeOne, ha, hb, srcs]
    | left ha => simp only [mergeOne, ha, Option.map_some, srcs]
    | right hb => simp only [mergeOne, hb, Option.map_some, srcs]

theorem mem_mergeIndis {m : List M} {l r : List Rcd} {o : Rcd} :
    o ∈ mergeIndis m l r ↔ ∃ x ∈ m, Out l r x o := by
  simp only [mergeIndis, mergeIndisSrc, List.mem_map, List.mem_filterMap, Prod.exists,
    mergeOne_eq_some]
  constructor
  · rintro ⟨_, _, ⟨x, hx, h, _⟩, rfl⟩
    exact ⟨x, hx, h⟩
  · rintro ⟨x, hx, h⟩
    exact ⟨o, _, ⟨x, hx, h, rfl⟩, rfl⟩

namespace Out

theorem of_valid {m : List M} {l r : List Rcd} (hv : ValidMatching m l.length r.length) {x : M}
    (hx : x ∈ m) : ∃ o, Out l r x o := by
  cases x with
  | both i j =>
    exact ⟨_, .both (List.getElem?_eq_getElem (hv.left_iff.mp ⟨_, hx, List.mem_cons_self⟩))
      (List.getElem?_eq_getElem (hv.right_iff.mp ⟨_, hx, List.mem_cons_of_mem _ List.mem_cons_self⟩))⟩
  | left i => exact ⟨_, .left (List.getElem?_eq_getElem (hv.left_iff.mp ⟨_, hx, List.mem_cons_self⟩))⟩
  | right j => exact ⟨_, .right (List.getElem?_eq_getElem (hv.right_iff.mp ⟨_, hx, List.mem_cons_self⟩))⟩

end Out

theorem sources_eq {l r : List Rcd} {m : List M} (hb : ∀ x ∈ m, ∃ o, Out l r x o) :
    (mergeIndisSrc m l r).map (·.2) = m.map srcs := by
  induction m with
  | nil => rfl
  | cons x m ih =>
    obtain ⟨o, ho⟩ := hb x List.mem_cons_self
    have := ih fun y hy => hb y (List.mem_cons_of_mem _ hy)
    simp only [mergeIndisSrc] at this
    simp only [mergeIndisSrc, List.filterMap_cons, mergeOne_eq_some.mpr ⟨ho, rfl⟩, List.map_cons, this]

/-- For a valid matching, the output individuals — one per comparison — account
    for every individual of either input exactly once (the sources of the output list are a
    permutation of all inputs), and no output individual holds two individuals of the same side. -/
theorem accounting (m : List M) (l r : List Rcd) (h : ValidMatching m l.length r.length) :
    (mergeIndisSrc m l r).length = m.length ∧
    ((mergeIndisSrc m l r).flatMap (·.2)).Perm (allSources l.length r.length) ∧
    ∀ o ∈ mergeIndisSrc m l r, o.2 ≠ [] ∧ (o.2.filter (fun s => s.1 == false)).length ≤ 1 ∧
      (o.2.filter (fun s => s.1 == true)).length ≤ 1 := by
  have hs : (mergeIndisSrc m l r).map (·.2) = m.map srcs := sources_eq fun x hx => Out.of_valid h hx
  refine ⟨?_, ?_, ?_⟩
  · simpa using congrArg List.length hs
  · have : (mergeIndisSrc m l r).flatMap (·.2) = m.flatMap srcs := by
      rw [List.flatMap_def, hs, ← List.flatMap_def]
    rw [this]
    exact h
  · intro o ho
    have : o.2 ∈ (mergeIndisSrc m l r).map (·.2) := List.mem_map_of_mem ho
    rw [hs, List.mem_map] at this
    obtain ⟨x, _, hx⟩ := this
    rw [← hx]
    cases x with
    | both i j => exact ⟨List.cons_ne_nil _ _, Nat.le_refl 1, Nat.le_refl 1⟩
    | left i => exact ⟨List.cons_ne_nil _ _, Nat.le_refl 1, Nat.zero_le 1⟩
    | right j => exact ⟨List.cons_ne_nil _ _, Nat.zero_le 1, Nat.le_refl 1⟩

theorem mem_mergeRefs {x : Ref} {l r : List Ref} : x ∈ mergeRefs l r ↔ x ∈ l ∨ x ∈ r := by
  induction r generalizing l with
  | nil => simp [mergeRefs]
  | cons y r ih =>
    have : mergeRefs l (y :: r) = mergeRefs (if l.contains y then l else l ++ [y]) r := rfl
    rw [this, ih, List.mem_cons]
    by_cases hc : l.contains y = true
    · have hy : y ∈ l := List.contains_iff_mem.mp hc
      rw [if_pos hc]
      constructor
      · rintro (h | h)
        · exact Or.inl h
        · exact Or.inr (Or.inr h)
      · rintro (h | rfl | h)
        · exact Or.inl h
        · exact Or.inl hy
        · exact Or.inr h
    · rw [if_neg hc, List.mem_append, List.mem_singleton, or_assoc]

theorem indi_refs_from_inputs {m : List M} {l r : List Rcd} {o : Rcd} (ho : o ∈ mergeIndis m l r)
    {x : Ref} (hx : x ∈ o.refs) : (∃ a ∈ l, x ∈ a.refs) ∨ (∃ b ∈ r, x ∈ b.refs) := by
  obtain ⟨c, _, hc⟩ := mem_mergeIndis.mp ho
  cases hc with
  | @both _ _ a b ha hb =>
    rcases mem_mergeRefs.mp hx with h | h
    · exact Or.inl ⟨a, List.mem_of_getElem? ha, h⟩
    · exact Or.inr ⟨b, List.mem_of_getElem? hb, h⟩
  | left ha => exact Or.inl ⟨o, List.mem_of_getElem? ha, hx⟩
  | right hb => exact Or.inr ⟨o, List.mem_of_getElem? hb, hx⟩

theorem fam_refs_from_inputs {lf rf : List Rcd} {o : Rcd} (ho : o ∈ mergeFams lf rf)
    {x : Ref} (hx : x ∈ o.refs) : (∃ a ∈ lf, x ∈ a.refs) ∨ (∃ b ∈ rf, x ∈ b.refs) := by
  simp only [mergeFams, List.mem_append, List.mem_map, List.mem_filter] at ho
  rcases ho with ⟨f, hf, rfl⟩ | ⟨ho, _⟩
  · split at hx
    · rename_i g hg
      rcases mem_mergeRefs.mp hx with h | h
      · exact Or.inl ⟨f, hf, h⟩
      · exact Or.inr ⟨g, List.mem_of_find?_eq_some hg, h⟩
    · exact Or.inl ⟨f, hf, hx⟩
  · exact Or.inr ⟨o, ho, hx⟩

theorem fam_ptrs_kept {lf rf : List Rcd} {p : Nat}
    (h : p ∈ lf.map (·.ptr) ∨ p ∈ rf.map (·.ptr)) : p ∈ (mergeFams lf rf).map (·.ptr) := by
  have left : ∀ f ∈ lf, f.ptr ∈ (mergeFams lf rf).map (·.ptr) := by
    intro f hf
    rw [mergeFams, List.map_append, List.map_map]
    refine List.mem_append_left _ (List.mem_map.mpr ⟨f, hf, ?_⟩)
    simp only [Function.comp_apply]
    split <;> rfl
  rcases h with h | h
  · obtain ⟨f, hf, rfl⟩ := List.mem_map.mp h
    exact left f hf
  · obtain ⟨g, hg, rfl⟩ := List.mem_map.mp h
    cases hany : lf.any (fun f => f.ptr == g.ptr) with
    | true =>
      obtain ⟨f, hf, he⟩ := List.any_eq_true.mp hany
      exact beq_iff_eq.mp he ▸ left f hf
    | false =>
      rw [mergeFams, List.map_append]
      exact List.mem_append_right _ (List.mem_map_of_mem (List.mem_filter.mpr ⟨hg, by rw [hany]; rfl⟩))

/-- every matched pair carries the same pointer on both sides -/
def SamePointers (m : List M) (l r : List Rcd) : Prop :=
  ∀ i j, M.both i j ∈ m → ∀ a b, l[i]? = some a → r[j]? = some b → a.ptr = b.ptr

theorem out_ptr_iff {m : List M} {l r : List Rcd} (hv : ValidMatching m l.length r.length) (p : Nat) :
    p ∈ (mergeIndis m l r).map (·.ptr) ↔
      p ∈ l.map (·.ptr) ∨ ∃ j b, r[j]? = some b ∧ b.ptr = p ∧ M.right j ∈ m := by
  constructor
  · intro h
    obtain ⟨o, ho, rfl⟩ := List.mem_map.mp h
    obtain ⟨c, hc, hco⟩ := mem_mergeIndis.mp ho
    cases hco with
    | @both _ _ a _ ha _ => exact Or.inl (List.mem_map.mpr ⟨a, List.mem_of_getElem? ha, rfl⟩)
    | left ha => exact Or.inl (List.mem_map_of_mem (List.mem_of_getElem? ha))
    | @right j _ hb => exact Or.inr ⟨j, o, hb, rfl, hc⟩
  · rintro (h | ⟨j, b, hb, rfl, hm⟩)
    · obtain ⟨a, ha, rfl⟩ := List.mem_map.mp h
      obtain ⟨i, hia⟩ := List.mem_iff_getElem?.mp ha
      rcases hv.left_covered (lt_of_getElem? hia) with hx | ⟨j, hx⟩
      · exact List.mem_map_of_mem (mem_mergeIndis.mpr ⟨_, hx, .left hia⟩)
      · -- the merged record keeps the left pointer
        obtain ⟨_, ho⟩ := Out.of_valid hv hx
        cases ho with
        | both _ hj => exact List.mem_map.mpr ⟨_, mem_mergeIndis.mpr ⟨_, hx, .both hia hj⟩, rfl⟩
    · exact List.mem_map_of_mem (mem_mergeIndis.mpr ⟨_, hm, .right hb⟩)

/-- FAMS / FAMC lines of the output individuals resolve whenever
    they did in the inputs — for any matching and any pointers: no family pointer is ever lost. -/
theorem fam_refs_always_resolve (m : List M) (l r : G) (hl : resolves l) (hr : resolves r) :
    ∀ i ∈ (mergeG m l r).indis, ∀ x ∈ i.refs, x.2 ∈ famPtrs (mergeG m l r) := by
  intro i hi x hx
  apply fam_ptrs_kept
  rcases indi_refs_from_inputs hi hx with ⟨a, ha, hxa⟩ | ⟨b, hb, hxb⟩
  · exact Or.inl (hl.2 a ha x hxa)
  · exact Or.inr (hr.2 b hb x hxb)

/-! Full statement (kept visible, **false of the code**, DESIGN defect 10):
      `resolves l → resolves r → ValidMatching m … → resolves (mergeG m l r)`
    `MergeNodes` keeps the left pointer and nothing rewrites the references of the right document. -/

/-- the two-family witness: the same husband and child as `@1@`, `@2@` on the left and `@3@`,
    `@4@` on the right, in family `@10@` on both sides -/
def witnessL : G := ⟨[⟨1, [(3, 10)]⟩, ⟨2, [(4, 10)]⟩], [⟨10, [(0, 1), (2, 2)]⟩]⟩
def witnessR : G := ⟨[⟨3, [(3, 10)]⟩, ⟨4, [(4, 10)]⟩], [⟨10, [(0, 3), (2, 4)]⟩]⟩
def witnessM : List M := [.both 0 0, .both 1 1]

/-- Both inputs resolve, the matching is valid, and the merged
    family keeps `HUSB @3@` / `CHIL @4@`, which name no record (replayed on the implementation by
    the harness: known finding `merge-does-not-rewrite-pointers`). -/
theorem dangling_counterexample :
    resolves witnessL ∧ resolves witnessR ∧ ValidMatching witnessM 2 2 ∧
    (mergeG witnessM witnessL witnessR).fams = [⟨10, [(0, 1), (2, 2), (0, 3), (2, 4)]⟩] ∧
    indiPtrs (mergeG witnessM witnessL witnessR) = [1, 2] ∧
    ¬ resolves (mergeG witnessM witnessL witnessR) := by
  decide +kernel

/-! Non-vacuity (tests, not the property): a same-pointer edited copy meets the guards. -/
def copyR : G := ⟨[⟨2, [(4, 10)]⟩, ⟨1, [(3, 10), (3, 11)]⟩, ⟨5, [(2, 11)]⟩], [⟨10, [(0, 1), (2, 2)]⟩, ⟨11, [(0, 1), (2, 5)]⟩]⟩
def copyM : List M := [.both 0 1, .both 1 0, .right 2]
example : ValidMatching copyM 2 3 ∧ resolves copyR := by decide +kernel
example : SamePointers copyM witnessL.indis copyR.indis := by
  intro i j h a b ha hb
  simp only [copyM, List.mem_cons, M.both.injEq, List.not_mem_nil, or_false, reduceCtorEq] at h
  rcases h with ⟨rfl, rfl⟩ | ⟨rfl, rfl⟩
  · obtain rfl := Option.some.inj ha
    obtain rfl := Option.some.inj hb
    rfl
  · obtain rfl := Option.some.inj ha
    obtain rfl := Option.some.inj hb
    rfl
example : resolves (mergeG copyM witnessL copyR) ∧
    indiPtrs (mergeG copyM witnessL copyR) = [1, 2, 5] := by decide +kernel

end Gedcom.C10

/-
  C02 — Decoding attaches every line exactly where its level says.
  The property theorems, with the lemmas that serve only them.  `Dec.decode` is the frame-stack
  model of `Decoder.Decode` that the driver executes (tied to the Go decoder by correspondence on
  generated and mutated texts × the four option combinations).  `Dec.scan` is the stack-free
  reference: one pass over the lines that yields the preorder listing (level, tag, value, pointer)
  the line grammar dictates, including the documented leniency.  No bound on file size, line
  length or nesting.
-/
import Gedcom.Lemmas.Listing
import Gedcom.Lemmas.Legal
import Gedcom.Props.C01
import Gedcom.Lemmas.Regex
import Gedcom.Lemmas.MultiLineLegal
import Gedcom.Lemmas.RegexSound
import Gedcom.Generated.LineRegex
import Gedcom.Generated.DecodeLogic
import Gedcom.Generated.DecodeCont
import Gedcom.Generated.Tags
namespace Gedcom.C02
open Gedcom Gedcom.Dec

/-- **Refinement.** For every byte string and every option combination the decoder's outcome,
    seen through the preorder listing of the document it builds, *is* the reference's outcome:
    same error line, same panic, and on success the same BOM flag and the same sequence of
    (level, header) entries in file order — so no line is dropped, duplicated or re-parented,
    values are trimmed exactly when the reference trims them, record lines carry no value,
    continuation lines extend the previous node, over-deep lines hang one below the previous
    node. -/
theorem decode_eq_spec (o : Opts) (s : Str) : (decode o s).listing = scan o s := by
  obtain ⟨hrun, hfresh⟩ := run_sim o ⟨[], [], false⟩ 1 (splitLines (stripBOM s).2) nofun
  unfold decode scan
  simp only
  rw [show (⟨[], none, false⟩ : ScanSt) = St.abs ⟨[], [], false⟩ from rfl, hrun]
  cases h1 : run o ⟨[], [], false⟩ 1 (splitLines (stripBOM s).2) with
  | inl out => rfl
  | inr st => exact congrArg (ScanOutcome.ok _) (abs_end (hfresh st h1))

/-- on success the reference's listing is the document's -/
theorem scan_of_decode {o : Opts} {s : Str} {d : Doc} (h : decode o s = .ok d) :
    scan o s = .ok d.hasBOM (listingF 0 d.nodes) := by
  rw [← decode_eq_spec, h]; rfl

/-- **The listing determines the tree.** Two forests with the same preorder listing are the
    same forest (`rebuild` recovers it), so `decode_eq_spec` pins down parent, order and nesting
    of every node, not just the sequence of nodes. -/
theorem listing_injective (f g : Forest) (h : listingF 0 f = listingF 0 g) : f = g := by
  rw [← rebuild_listing f, ← rebuild_listing g, h]

/-- **Descendants.** In a preorder listing, the descendants of a node at level `n` are exactly
    the maximal block of deeper entries that follows its entry (up to the next entry at level
    `≤ n`) … -/
theorem descendants_are_following_block (lvl : Nat) (t v p : Str) (ks : List Node) (rest : List Entry)
    (hrest : ∀ e, rest.head? = some e → e.level ≤ lvl) :
    ((listingT lvl (.mk t v p ks) ++ rest).tail).takeWhile (fun e => decide (lvl < e.level)) =
      listingF (lvl + 1) ks := by
  have : (listingT lvl (.mk t v p ks) ++ rest).tail = listingF (lvl + 1) ks ++ rest := by
    simp [listingT]
  rw [this]
  refine (takeWhile_append_stop _ _ _ ?_ ?_).1
  · intro e he
    have := listingF_levels_ge (lvl + 1) ks e he
    simp; omega
  · intro e he
    have := hrest e he
    simp; omega

/-- … and its children are exactly the entries of level `n+1` in that block, in file order:
    a node at level `n+1` is a child of the nearest preceding node at level `n`, and becomes its
    last child so far. -/
theorem children_are_next_level_entries (lvl : Nat) (ks : List Node) :
    (listingF (lvl + 1) ks).filter (fun e => e.level == lvl + 1) =
      ks.map (fun k => ⟨lvl + 1, ⟨k.tag, k.value, k.ptr⟩⟩) :=
  listingF_roots (lvl + 1) ks

/-- on success, the document *is* the forest rebuilt from the reference's listing -/
theorem decode_is_rebuilt_reference (o : Opts) (s : Str) (d : Doc) (h : decode o s = .ok d) :
    ∃ l, scan o s = .ok d.hasBOM l ∧ d.nodes = rebuild l :=
  ⟨_, scan_of_decode h, (rebuild_listing d.nodes).symm⟩

/-- every node of the document corresponds to exactly one entry of the reference's listing:
    the number of nodes is the number of entries -/
theorem nodes_account (o : Opts) (s : Str) (d : Doc) (h : decode o s = .ok d) :
    ∃ l, scan o s = .ok d.hasBOM l ∧ Forest.size d.nodes = l.length :=
  ⟨_, scan_of_decode h, (listingF_length 0 d.nodes).symm⟩

/-- the decoder rejects (error or panic) exactly when the reference does -/
theorem accepts_iff (o : Opts) (s : Str) :
    (∃ d, decode o s = .ok d) ↔ (∃ b l, scan o s = .ok b l) := by
  constructor
  · rintro ⟨d, hd⟩; exact ⟨_, _, scan_of_decode hd⟩
  · rintro ⟨b, l, hs⟩
    have := decode_eq_spec o s
    rw [hs] at this
    cases hd : decode o s with
    | ok d => exact ⟨d, rfl⟩
    | error n => rw [hd] at this; simp [Outcome.listing] at this
    | panic c => rw [hd] at this; simp [Outcome.listing] at this

/-- no INDI or FAM node carries a value (what the property says of record lines; the known finding
    is the one way the decoder can break it: a continuation line directly after a record line) -/
def NoRecordValue (d : Doc) : Prop :=
  ∀ e ∈ listingF 0 d.nodes, isRecordTag e.hdr.tag = true → e.hdr.value = []

/-- **What the decoder returns is legal, with continuation lines too.** For every byte string and
    every option combination, an accepted stream gives a document that satisfies `legalMLDocB` —
    tags, pointers, role order as in `Legal`; every value in trimmed form without CR; and every
    part of a value after a line feed is a line the loop would again take for a continuation at
    that position — provided no record node has a value.  The invariant carried through the
    reference pass is `ScanInvML`; the idea is at the head of Lemmas/MultiLineLegal. -/
theorem decode_legalML (o : Opts) (s : Str) (d : Doc) (h : decode o s = .ok d)
    (hrec : NoRecordValue d) : legalMLDocB d = true := by
  obtain ⟨st, hinv, hfin⟩ := scan_ok_inv o ScanInvML (scanStep_invML o) ScanInvML_init (scan_of_decode h)
  unfold legalMLDocB
  rw [legalMLF_listing false 0 d.nodes, ← hfin]
  exact finish_legalML st hinv (hfin ▸ hrec)

/-- whatever the decoder accepts without multi-line continuation is a legal document in the
    sense of C01: word tags, trimmed break-free values, pointers without `@`, record lines
    without value, role nodes after a family -/
theorem decode_legal (o : Opts) (hm : o.allowMultiLine = false) (s : Str) (d : Doc)
    (h : decode o s = .ok d) : C01.Legal d := by
  obtain ⟨st, hleg, hfin⟩ := scan_ok_inv o (fun sc => ∀ e ∈ sc.finish, LegalE e) (scanStep_legal o hm)
    (fun _ he => nomatch he) (scan_of_decode h)
  rw [hfin] at hleg
  exact ⟨legalF_of_listing 0 d.nodes hleg, rolesOKF_of_legalML false d.nodes
    (decode_legalML o s d h fun e he => (hleg e he).record_no_value)⟩

theorem normal_of_round_trip {o' : Opts} {d : Doc} (hd : decode o' (encode d) = .ok d) :
    decode o' (encode d) = .ok d ∧
    (∀ d', decode o' (encode d) = .ok d' → encode d' = encode d) :=
  ⟨hd, fun d' h' => by rw [hd] at h'; cases h'; rfl⟩

/-- **Normal form.** Re-encoding a decoded document gives text that decodes (under any
    options) to the same tree, and hence re-encodes to the same bytes.  Proved for decoding
    without `AllowMultiLine`; for decoding with it see `normal_form_multiline_partial`. -/
theorem normal_form (o : Opts) (hm : o.allowMultiLine = false) (s : Str) (d : Doc)
    (h : decode o s = .ok d) (o' : Opts) :
    decode o' (encode d) = .ok d ∧
    (∀ d', decode o' (encode d) = .ok d' → encode d' = encode d) :=
  normal_of_round_trip (C01.decode_encode d (decode_legal o hm s d h) o')

/-- **Normal form under `AllowMultiLine`.** Whatever options the stream was decoded with, if the
    document has no record node with a value then re-encoding it gives text that decodes with
    `AllowMultiLine` (with or without `AllowInvalidIndents`) to the same tree and re-encodes to the
    same bytes — including all values that continuation lines made multi-line.  Together with
    `normal_form` (decoding without `AllowMultiLine`, re-decoding under any options) this is the
    property's last sentence for all four option combinations, except on the known finding, where
    it is false (`NoRecordValue` fails there, see the example below); hence `_partial`. -/
theorem normal_form_multiline_partial (o : Opts) (s : Str) (d : Doc) (h : decode o s = .ok d)
    (hrec : NoRecordValue d) (o' : Opts) (hm' : o'.allowMultiLine = true) :
    decode o' (encode d) = .ok d ∧
    (∀ d', decode o' (encode d) = .ok d' → encode d' = encode d) :=
  normal_of_round_trip (C01.decode_encode_multiline d (decode_legalML o s d h hrec) o' hm')

/-- **The excluded case is real** (the known finding, replayed on the model): the text
    `0 @I1@ INDI` / `foo` is accepted with `AllowMultiLine`, the INDI node gets the value `foo`,
    and the re-encoded text `0 @I1@ INDI foo` decodes to an INDI node *without* value — the normal
    form is not a fixpoint there. -/
theorem normal_form_multiline_counterexample :
    ∃ d, decode ⟨true, false⟩ [48,32,64,73,49,64,32,73,78,68,73,10,102,111,111,10] = .ok d ∧
      decode ⟨true, false⟩ (encode d) ≠ .ok d := by
  -- the loop runs by unfolding; `trimSpace` and the encoder's `natToDec` (well-founded
  -- recursions, which do not unfold) are evaluated apart
  have t1 : trimSpace [10,102,111,111,10] = [102,111,111] := by decide +kernel
  have t2 : trimSpace [10] = [] := by decide +kernel
  have he : encode ⟨false, [.mk [73,78,68,73] [102,111,111] [73,49] []]⟩ =
      [48,32,64,73,49,64,32,73,78,68,73,32,102,111,111,10] := by decide +kernel
  refine ⟨⟨false, [.mk [73,78,68,73] [102,111,111] [73,49] []]⟩, ?_, ?_⟩
  · exact Eq.trans (b := .ok ⟨false, [.mk [73,78,68,73] (trimSpace [10,102,111,111,10]) [73,49] []]⟩)
      rfl (by rw [t1])
  · have : decode ⟨true, false⟩ [48,32,64,73,49,64,32,73,78,68,73,32,102,111,111,10] =
        .ok ⟨false, [.mk [73,78,68,73] (trimSpace [10]) [73,49] []]⟩ := rfl
    rw [he, this, t2]
    intro h
    cases h

/-- the finding's shape is outside the hypothesis: a record line with a value -/
example : legalMLDocB ⟨false, [.mk [73, 78, 68, 73] [102, 111, 111] [73, 49] []]⟩ = false := by
  decide +kernel

/-! ## The line grammar is the regular expression in the source

`Generated.lineRegex` is translated on every run from the literal given to `regexp.MustCompile`
in decoder.go (regexp/syntax parse tree → `Regex.Re`); `Regex.find` is the backtracking
(leftmost-first) semantics of that fragment.  The model's `parseLine`, which every theorem above
is about, is a deterministic parser with no backtracking; the next theorems show it is the
same function. -/

/-- **Obligation on the regenerated pattern**: it is anchored at the start of the text, it is
    term for term the expression the stage lemmas are proved for, and every class in it is
    ASCII-only or contains all of U+0080…U+10FFFF (so consuming bytes and consuming runes are
    the same thing). -/
theorem line_pattern_is_expected :
    Generated.lineRegexAnchored = true ∧ Generated.lineRegex = Regex.expected ∧
    Generated.lineRegex.byteSafe = true := by decide +kernel

/-- **Obligation on the regenerated go/ast facts**: `parseLine` starts from
    `lineRegexp.FindStringSubmatch(line)`, answers "no match" with an error, and reads the
    indent from group 1, the pointer from group 2 without its first byte and its last two, only
    when the group is not empty, the tag from group 3 and the value from group 4. -/
theorem parseLine_uses_submatches :
    Generated.parseLineUsesFind = true ∧ Generated.parseLineErrorOnNoMatch = true ∧
    Generated.indentGroup = 1 ∧ Generated.pointerGroup = 2 ∧ Generated.pointerLo = 1 ∧
    Generated.pointerHi = 2 ∧ Generated.pointerGuarded = true ∧ Generated.tagGroup = 3 ∧
    Generated.valueGroup = 4 := by decide +kernel

/-- **The line grammar.** For every line without a line feed, matching the source's regular
    expression (backtracking semantics, all submatches) and extracting the fields the way
    `parseLine` does gives exactly the model's `parseLine`: same lines rejected, same level,
    pointer, tag and value on the others.  No bound on the length of the line. -/
theorem parseLine_is_the_source_regexp (l : Str) (h : LF ∉ l) :
    (Regex.find Generated.lineRegex l).map Regex.fields = parseLine l := by
  rw [line_pattern_is_expected.2.1, Regex.find_expected l h, Regex.fields_lineRes]

/-- **The matcher used above decides the declarative language of the fragment**: the
    backtracking semantics answers "match" exactly when some prefix of the text is in the
    language of the pattern given by the usual inductive rules (`Regex.Matches`; for the line
    pattern, which ends in `$`, the whole text).  So acceptance by `parseLine` is acceptance by
    the source's regular expression in the textbook sense; what remains trusted about the
    semantics is only which submatches leftmost-first priority reports. -/
theorem line_pattern_acceptance (l : Str) :
    (Regex.find Generated.lineRegex l).isSome = true ↔ ∃ r, Regex.Matches Generated.lineRegex l r :=
  Regex.find_isSome_iff Generated.lineRegex l

/-- the hypothesis of `parseLine_is_the_source_regexp` holds for every line the decoder's line
    reader produces, whatever the input bytes -/
theorem decoder_lines_have_no_break (s : Str) : ∀ l ∈ splitLines s, LF ∉ l ∧ CR ∉ l := by
  intro l hl
  have := splitLines_nobreak s l hl
  exact ⟨fun hm => (this LF hm).1 rfl, fun hm => (this CR hm).2 rfl⟩

/-- non-vacuity: `0 @I1@ NAME  a b` through the regular expression -/
example :
    (Regex.find Generated.lineRegex [48, 32, 64, 73, 49, 64, 32, 78, 65, 77, 69, 32, 32, 97, 32, 98]).map
        Regex.fields
      = some ⟨0, [73, 49], [78, 65, 77, 69], [32, 97, 32, 98]⟩ := by decide +kernel

/-- non-vacuity: `1 @@ X` is rejected (empty pointer; `\w+` cannot start at `@`) -/
example : (Regex.find Generated.lineRegex [49, 32, 64, 64, 32, 88]).map Regex.fields = none := by
  decide +kernel

/-! ## Where a line goes: the level arithmetic is the source's

`Generated/DecodeLogic.lean` is translated on every run from the go/ast expressions of
`Decoder.Decode`: the root test, the over-deep test with its clamp / error / panic branches, the
parent index, and the three cases of the switch with their slice operations
(`append(indents, node)`, `indents[:indent+1]`, `indents[indent] = node`).
`DecodeLogic.srcDecide` interprets them in source order on the numbers `indent`, `len(indents)`. -/

def sourcePieces : DecodeLogic.Pieces :=
  ⟨Generated.rootCond, Generated.overCond, Generated.clampCond, Generated.clampValue,
   Generated.errorCond, Generated.panicOtherwise, Generated.parentIndex, Generated.switchCases,
   Generated.switchDefault⟩

/-- **Obligation**: every expression and slice operation was inside the translator's fragment, and
    the over-deep branch ends in the documented panic -/
theorem decode_logic_translated : sourcePieces.ok = true := by decide +kernel

/-- for a level `i` at most one below the `len` open ones, whichever case of the source's switch
    is taken, `indents` ends up with `i + 1` entries and the node is stored at index `i` -/
theorem switch_places (i len : Int) (allow : Bool) (h1 : 1 ≤ i) (h2 : i ≤ len) :
    DecodeLogic.runOps i
      (DecodeLogic.selectOps i len allow Generated.switchDefault Generated.switchCases) (len, none) =
      some (i + 1, some i) := by
  by_cases a : i ≥ len
  · -- one below the deepest open level: append
    obtain rfl : len = i := by omega
    simp only [Generated.switchCases, DecodeLogic.selectOps, DecodeLogic.BExp.eval,
      DecodeLogic.IExp.eval, ge_iff_le, Int.le_refl, decide_true, ↓reduceIte, DecodeLogic.runOps,
      DecodeLogic.Op.run, Option.bind_some]
  · by_cases b : i < len - 1
    · -- back to an outer level: truncate, then replace
      have hb0 : 0 ≤ i + 1 ∧ i + 1 ≤ len := by omega
      have hb1 : 0 ≤ i ∧ i < i + 1 := by omega
      simp only [Generated.switchCases, DecodeLogic.selectOps, DecodeLogic.BExp.eval,
        DecodeLogic.IExp.eval, a, b, decide_true, decide_false, ↓reduceIte, DecodeLogic.runOps,
        DecodeLogic.Op.run, Option.bind_some, hb0, hb1, and_self, Bool.false_eq_true]
    · -- the deepest open level: replace
      have hb : 0 ≤ i ∧ i < len := by omega
      have : i + 1 = len := by omega
      simp only [Generated.switchCases, Generated.switchDefault, DecodeLogic.selectOps,
        DecodeLogic.BExp.eval, DecodeLogic.IExp.eval, a, b, decide_false, ↓reduceIte,
        DecodeLogic.runOps, DecodeLogic.Op.run, Option.bind_some, hb, and_self, this,
        Bool.false_eq_true]

/-- **The three cases of the switch are one rule.** For every level `indent ≥ 0` and every number
    `len ≥ 0` of open levels, interpreting the source's conditions and slice operations gives: a
    root record at level 0; for an over-deep line the clamp to `len` (node stored at index `len`
    below parent `len - 1`), the error when nothing is open, or the panic, according to the
    option; otherwise the node is stored at index `indent`, its parent is `indents[indent-1]`, and
    `indents` ends up with `indent + 1` entries — whether the source appended, truncated or
    replaced.  No slice operation is ever out of bounds. -/
theorem srcDecide_eq_model (indent len : Int) (allow : Bool) (hi : 0 ≤ indent) (hl : 0 ≤ len) :
    DecodeLogic.srcDecide sourcePieces indent len allow = DecodeLogic.modelDecide indent len allow := by
  unfold DecodeLogic.srcDecide DecodeLogic.modelDecide sourcePieces
  by_cases h0 : indent = 0
  · simp [Generated.rootCond, DecodeLogic.BExp.eval, DecodeLogic.IExp.eval, h0]
  · by_cases hov : indent - 1 ≥ len
    · cases allow
      · simp [Generated.rootCond, Generated.overCond, Generated.clampCond, Generated.errorCond,
          DecodeLogic.BExp.eval, DecodeLogic.IExp.eval, h0, hov]
      · by_cases hl0 : len = 0
        · have h1i : 1 ≤ indent := by omega
          simp [Generated.rootCond, Generated.overCond, Generated.clampCond, Generated.errorCond,
            DecodeLogic.BExp.eval, DecodeLogic.IExp.eval, h0, hl0, h1i]
        · have hpos : 0 < len := by omega
          -- the parent index `len - 1` is in bounds
          have h1 : 1 ≤ len := hpos
          have hpar : 0 ≤ len - 1 ∧ len - 1 < len := by omega
          simp [Generated.rootCond, Generated.overCond, Generated.clampCond, Generated.clampValue,
            Generated.parentIndex, DecodeLogic.BExp.eval, DecodeLogic.IExp.eval, h0, hov, hl0, hpos,
            h1, hpar, switch_places len len true h1 (Int.le_refl _), DecodeLogic.finish]
    · -- the parent index `indent - 1` is in bounds
      have h1 : 1 ≤ indent := by omega
      have hpar : 0 ≤ indent - 1 ∧ indent - 1 < len := by omega
      simp [Generated.rootCond, Generated.overCond, Generated.parentIndex, DecodeLogic.BExp.eval,
        DecodeLogic.IExp.eval, h0, hov, h1, hpar, switch_places indent len allow h1 (by omega),
        DecodeLogic.finish]

/-- **… and it is the model's `place`.** On the numbers, the model's `place` is `modelDecide`:
    same root / error / panic verdicts, and on success the open-node stack has exactly the number
    of entries the source's `indents` slice has. -/
theorem place_is_modelDecide (o : Opts) (s : St) (l : Line) :
    match DecodeLogic.modelDecide l.level s.stack.length o.allowInvalidIndents with
    | .root => ∃ s', place o s l = .next s' ∧ s'.stack.length = 1
    | .error => place o s l = .error
    | .panic => place o s l = .panic .indentTooLarge
    | .place n _ _ => ∃ s', place o s l = .next s' ∧ (s'.stack.length : Int) = n
    | .outOfBounds => False := by
  unfold DecodeLogic.modelDecide place
  by_cases h0 : l.level = 0
  · rw [if_pos (show ((l.level : Nat) : Int) = 0 by omega), if_pos h0]
    exact ⟨_, rfl, by simp [push, closeTo_len 0 (trimTop s) (Nat.zero_le _)]⟩
  · rw [if_neg (show ¬ ((l.level : Nat) : Int) = 0 by omega), if_neg h0]
    by_cases hov : l.level - 1 ≥ s.stack.length
    · rw [if_pos (show ((l.level : Nat) : Int) - 1 ≥ (s.stack.length : Int) by omega), if_pos hov]
      cases o.allowInvalidIndents
      · exact rfl
      · rw [if_pos rfl, if_pos rfl]
        cases hs : s.stack with
        | nil => exact rfl
        | cons f fs =>
          rw [if_neg (show ¬ (((f :: fs).length : Nat) : Int) = 0 by simp; omega), if_neg (by simp)]
          exact ⟨_, rfl, by simp [push, hs]⟩
    · rw [if_neg (show ¬ ((l.level : Nat) : Int) - 1 ≥ (s.stack.length : Int) by omega), if_neg hov]
      exact ⟨_, rfl, by simp [push, closeTo_len l.level (trimTop s) (by simp; omega)]⟩

/-! ## Continuation lines and role tags: the source's rules

`Generated/DecodeCont.lean` is translated on every run from `Decoder.Decode` and `parseLine`: the
condition under which a blank line / a rejected line continues the previous value, what is
appended, the error otherwise, and the tags whose lines need a family. -/

/-- **Obligation**: the translated conditions and appended pieces were inside the translator's
    fragment, both continuation branches `continue`, the other branch returns the error whose
    format starts with the line number, and the family cursor is set from FAM nodes -/
theorem decode_cont_translated :
    Generated.blankCond.ok = true ∧ Generated.contCond.ok = true ∧
    Generated.blankAppend.all (· != .bad) = true ∧ Generated.contAppend.all (· != .bad) = true ∧
    Generated.blankContinues = true ∧ Generated.contContinues = true ∧
    Generated.errorReturns = true ∧ Generated.errorFormat = "line %d: %s" ∧
    Generated.familyCursorSet = true := by decide +kernel

/-- **Blank lines.** The model's step on a blank line is the source's rule: when the translated
    condition holds (`previousNode != nil` is "some node is open") the translated bytes are
    appended to the deepest open node's value, otherwise nothing happens; the loop goes on. -/
theorem step_blank_is_source (o : Opts) (s : St) :
    step o s [] = .next
      (if Generated.blankCond.eval o.allowMultiLine (!s.stack.isEmpty) then
        appendTop (DecodeLogic.evalAppend [] Generated.blankAppend) s else s) := by
  rw [step_act, lineAct_nil, ← isEmpty_stack, show Generated.blankCond.eval o.allowMultiLine
    (!s.stack.isEmpty) = (o.allowMultiLine && !s.stack.isEmpty) from rfl]
  cases o.allowMultiLine && !s.stack.isEmpty <;> rfl

theorem contCond_eval (m p : Bool) : Generated.contCond.eval m p = (m && p) := rfl
theorem contAppend_eval (line : Str) : DecodeLogic.evalAppend line Generated.contAppend = LF :: line := by
  simp [Generated.contAppend, DecodeLogic.evalAppend, DecodeLogic.SPiece.eval, LF]

/-- **Rejected lines.** A non-blank line that is not in the line grammar continues the previous
    value with exactly the bytes the source appends (`"\n" + line`) under the source's condition,
    and is the error otherwise. -/
theorem step_unparsable_is_source (o : Opts) (s : St) (line : Str) (hne : line ≠ [])
    (hp : parseLine line = none) :
    step o s line =
      if Generated.contCond.eval o.allowMultiLine (!s.stack.isEmpty) then
        .next (appendTop (DecodeLogic.evalAppend line Generated.contAppend) s)
      else .error := by
  rw [step_act, lineAct_notNode o _ hne (Or.inl hp), contAct, ← isEmpty_stack, contCond_eval, contAppend_eval]
  cases o.allowMultiLine && !s.stack.isEmpty <;> rfl

/-- **Role tags.** The tags whose lines `parseLine` refuses without a family are exactly the
    model's role tags, and such a line before any family is treated like a rejected line. -/
theorem role_tags_are_source (t : Str) : isRoleTag t = Generated.roleTags.contains t := by
  simp only [isRoleTag, Generated.roleTags, tHUSB, tWIFE, tCHIL, List.contains_cons,
    List.contains_nil, Bool.or_false]
  exact Bool.or_comm _ _

theorem step_role_without_family_is_source (o : Opts) (s : St) (line : Str) (l : Line)
    (hne : line ≠ []) (hp : parseLine line = some l)
    (hr : Generated.roleTags.contains l.tag = true) (hf : s.seenFam = false) :
    step o s line =
      if Generated.contCond.eval o.allowMultiLine (!s.stack.isEmpty) then
        .next (appendTop (DecodeLogic.evalAppend line Generated.contAppend) s)
      else .error := by
  rw [step_act, lineAct_notNode o _ hne (Or.inr ⟨l, hp, (role_tags_are_source l.tag).trans hr, hf⟩),
    contAct, ← isEmpty_stack, contCond_eval, contAppend_eval]
  cases o.allowMultiLine && !s.stack.isEmpty <;> rfl

/-- **Record lines carry no value — and only they.** A decode probe of every registered tag and
    an unregistered one (as a root line with and without pointer, and as a child line) finds that
    exactly the INDI and FAM nodes come back without the value written on their line; these are
    the model's record tags (`hdrOf`). -/
theorem record_tags_are_source :
    Generated.valueDroppedTags = ["FAM", "INDI"] ∧
    tFAM = [70, 65, 77] ∧ tINDI = [73, 78, 68, 73] ∧
    ∀ t : Str, isRecordTag t = (t == tINDI || t == tFAM) := by
  refine ⟨by decide, rfl, rfl, fun t => rfl⟩

end Gedcom.C02

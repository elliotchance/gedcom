/-
  C17 — the statistics page, the source list, the source pages and the header counts
  (`Gedcom.Model.PagesStats`) under the hide-mode non-interference of `Props/C17Pages`, and what
  these pages do read from living people: their number (Individuals badge) and, at the current fact
  `statsEventsHideLiving = false`, which events they have — never a name, a date or a place.
-/
import Gedcom.Model.PagesStats
import Gedcom.Props.C17Pages
namespace Gedcom.C17
open Gedcom.Living Gedcom.Pages

def gsf : SFlags := generatedSFlags

/-- the regenerated fact the hide-mode Individuals card rests on -/
theorem generated_stats_flags_safe : gsf.individualsHideLiving = true := by decide

def eraseX (x : DocX) : DocX := { x with d := erase x.d }

/-- two extended documents differ only in the private strings of living people -/
structure SameDocX (x x' : DocX) : Prop where
  d : SameDoc x.d x'.d
  famEv : x.famEv = x'.famEv
  sources : x.sources = x'.sources

theorem eraseX_eq_of_same {x x' : DocX} (h : SameDocX x x') : eraseX x = eraseX x' := by
  cases x
  cases x'
  obtain ⟨hd, rfl, rfl⟩ := h
  exact congrArg (DocX.mk · _ _) (erase_eq_of_same hd)

/-- the Individuals card reads the living flags only -/
theorem individualStats_erase (sf : SFlags) (d : DocA) (v : Vis) :
    individualStats sf (erase d).people v = individualStats sf d.people v := by
  simp only [individualStats, nLiving, erase_people, List.filter_map, List.length_map, Function.comp_def, eraseP_pub]

/-- the Events card reads the living flags and which events exist, no private string -/
theorem eventStats_erase (sf : SFlags) (d : DocA) (v : Vis) :
    eventStats sf (erase d).people v = eventStats sf d.people v := by
  have e : eventTags sf (erase d).people v = eventTags sf d.people v :=
    filter_flatMap_map eraseP _ _ (fun p => by rw [eraseP_pub]) (fun p _ => by rw [eraseP_st]) _
  rw [eventStats, e]
  rfl

theorem nPlacesOf_erase (d : DocA) (o : Opts) : nPlacesOf gf (erase d) .hide o = nPlacesOf gf d .hide o := by
  rw [nPlacesOf, places_erase]
  rfl

theorem statisticsPage_erase (sf : SFlags) (x : DocX) (o : Opts) :
    statisticsPage gf sf (eraseX x) .hide o = statisticsPage gf sf x .hide o := by
  simp only [statisticsPage, familyStats, sourceStats, eraseX, erase_fams, header_erase, nPlacesOf_erase,
    individualStats_erase, eventStats_erase]

theorem sourceListPage_erase (x : DocX) (o : Opts) :
    sourceListPage gf (eraseX x) .hide o = sourceListPage gf x .hide o := by
  simp only [sourceListPage, eraseX, header_erase, nPlacesOf_erase]

theorem sourcePage_erase (x : DocX) (o : Opts) (s : SrcA) :
    sourcePage gf (eraseX x) .hide o s = sourcePage gf x .hide o s := by
  simp only [sourcePage, eraseX, header_erase, nPlacesOf_erase]

theorem extraSite_erase (sf : SFlags) (x : DocX) (o : Opts) :
    extraSite gf sf (eraseX x) .hide o = extraSite gf sf x .hide o := by
  simp only [extraSite, statisticsPage_erase, sourceListPage_erase, sourcePage_erase]
  rfl

theorem fullSite_erase (sf : SFlags) (x : DocX) (o : Opts) :
    fullSite gf sf (eraseX x) .hide o = fullSite gf sf x .hide o := by
  rw [fullSite, extraSite_erase]
  exact congrArg (· ++ _) (site_erase x.d o)

/-- In hide mode the statistics page, the source list and every source page — header counts
    included — are the same for two documents that differ only in the private strings of living
    people (for all values of the two statistics facts). -/
theorem extra_pages_hide_independent {x x' : DocX} (h : SameDocX x x') (sf : SFlags) (o : Opts) :
    statisticsPage gf sf x' .hide o = statisticsPage gf sf x .hide o ∧
    sourceListPage gf x' .hide o = sourceListPage gf x .hide o ∧
    (∀ s, sourcePage gf x' .hide o s = sourcePage gf x .hide o s) := by
  have he := eraseX_eq_of_same h
  refine ⟨?_, ?_, ?_⟩
  · rw [← statisticsPage_erase sf x', ← statisticsPage_erase sf x, he]
  · rw [← sourceListPage_erase x', ← sourceListPage_erase x, he]
  · intro s; rw [← sourcePage_erase x', ← sourcePage_erase x, he]

/-- The whole hide-mode site — every file `sendFiles` writes: list pages, individual pages, place
    list and place pages, family list, surname list, source list, source pages, statistics — does
    not depend on the living people's private strings, for every choice of page groups. -/
theorem fullSite_hide_independent {x x' : DocX} (h : SameDocX x x') (sf : SFlags) (o : Opts) :
    fullSite gf sf x' .hide o = fullSite gf sf x .hide o := by
  rw [← fullSite_erase sf x', ← fullSite_erase sf x, eraseX_eq_of_same h]

/-- Below the header, the source list and the source pages read the SOUR records only: two
    documents with the same sources whose headers agree have the same source list and source pages
    — whatever their individuals are, in every mode. -/
theorem source_pages_read_no_individual (fl : Flags) (x x' : DocX) (v : Vis) (o : Opts)
    (hs : x.sources = x'.sources)
    (hh : ∀ extra, headerAtoms fl x.d v o (nPlacesOf fl x.d v o) extra = headerAtoms fl x'.d v o (nPlacesOf fl x'.d v o) extra) :
    sourceListPage fl x v o = sourceListPage fl x' v o ∧
    ∀ s, sourcePage fl x v o s = sourcePage fl x' v o s := by
  constructor
  · simp [sourceListPage, hs, hh]
  · intro s; simp [sourcePage, hh]

/-! ## what the statistics do read from living people -/

theorem length_sub_nLiving (ps : List PPerson) :
    ps.length - nLiving ps = (ps.filter (fun p => !p.pub.living)).length := by
  have h := List.length_eq_countP_add_countP (fun p : PPerson => p.pub.living) (l := ps)
  simp only [List.countP_eq_length_filter, Bool.not_eq_true, Bool.decide_eq_false] at h
  rw [nLiving]
  omega

theorem nLiving_dead (ps : List PPerson) : nLiving (ps.filter (fun p => !p.pub.living)) = 0 := by
  simp [nLiving, List.filter_filter]

/-- `IndividualStatistics` in hide mode "pretends there were never any living individuals": the
    card is the one of the document with the living people removed. -/
theorem individualStats_hide_drops_living (sf : SFlags) (h : sf.individualsHideLiving = true) (ps : List PPerson) :
    individualStats sf ps .hide = individualStats sf (ps.filter (fun p => !p.pub.living)) .hide := by
  simp [individualStats, h, nLiving_dead, length_sub_nLiving]

/-- the document with the INDI records of living people removed (links are not followed here: only
    functions that read the people as a list are stated about it) -/
def dropLiving (d : DocA) : DocA := { d with people := d.people.filter (fun p => !p.pub.living) }

/-- **What a hide-mode site counts.**  Every number of the header and of the statistics that is
    computed from the individuals — the index letters (which list pages exist), the Surnames badge,
    the Places badge and card, the Individuals card — is, in hide mode, the number of the document
    with the living people removed.  The two exceptions are the Individuals badge
    (`living_count_revealed_by_badge`) and the Events card
    (`eventStats_counts_living_events_counterexample`). -/
theorem hide_counts_drop_living (sf : SFlags) (h : sf.individualsHideLiving = true) (d : DocA) (o : Opts) :
    indexLetters gf (dropLiving d) .hide = indexLetters gf d .hide ∧
    surnames gf (dropLiving d) .hide = surnames gf d .hide ∧
    nPlacesOf gf (dropLiving d) .hide o = nPlacesOf gf d .hide o ∧
    individualStats sf (dropLiving d).people .hide = individualStats sf d.people .hide := by
  have hc := hide_lists_congr (d := dropLiving d) (d' := d) (by simp [dropLiving, List.filter_filter]) rfl rfl
  exact ⟨hc.1, hc.2.1, by rw [nPlacesOf, nPlacesOf, hc.2.2.2],
    (individualStats_hide_drops_living sf h d.people).symm⟩

/-- a living person with no events recorded -/
def eraseEv (p : PPerson) : PPerson :=
  if p.pub.living then { p with st := { p.st with evTags := [] } } else p

/-- If `EventStatistics` skipped living people in hide mode (fact `statsEventsHideLiving`), the
    Events card would not depend on which events living people have. -/
theorem eventStats_hide_drops_living_events (sf : SFlags) (h : sf.eventsHideLiving = true) (ps : List PPerson) :
    eventStats sf (ps.map eraseEv) .hide = eventStats sf ps .hide := by
  have e : eventTags sf (ps.map eraseEv) .hide = eventTags sf ps .hide := by
    refine filter_flatMap_map eraseEv _ _ (fun p => ?_) (fun p hp => ?_) ps
    · unfold eraseEv; split <;> rfl
    · -- a person who is kept is not living
      have hd : p.pub.living = false := by simpa [h] using hp
      simp [eraseEv, hd]
  unfold eventStats
  rw [e]

def pLivEv (tags : List Str) : PPerson := { pLiv [76] [80] with st := { evTags := tags } }
def docEv (tags : List Str) : DocX := ⟨⟨[pLivEv tags, pDead], [], [], []⟩, [], []⟩

/-- The current tree (`statsEventsHideLiving = false`): the hide-mode statistics page counts the
    events of living people — two documents that differ only in *which events* a living person has
    (no name, date or place involved) publish different statistics.  This is why `evTags` belongs to
    the structure of a record (`Rel`) and is held fixed by `SameDoc`. -/
theorem eventStats_counts_living_events_counterexample :
    statisticsPage gf ⟨true, false⟩ (docEv [bs "Birth"]) .hide oAll ≠
      statisticsPage gf ⟨true, false⟩ (docEv [bs "Birth", bs "Emigration"]) .hide oAll :=
  -- the second page has a row for the other tag name: the lengths differ already
  fun h => absurd (congrArg List.length h) (by decide +kernel)

/-- … and with the fact true they publish the same page -/
example : statisticsPage gf ⟨true, true⟩ (docEv [bs "Birth"]) .hide oAll =
    statisticsPage gf ⟨true, true⟩ (docEv [bs "Birth", bs "Emigration"]) .hide oAll := rfl

/-- What a hide-mode site says about the *number* of living people: the statistics show
    `Total = Dead =` the people who are not living and `Living = 0`, while the Individuals badge of
    every header (when there is a list page to link to) counts all INDI records — the difference is
    the number of living people. -/
theorem living_count_revealed_by_badge (fl : Flags) (sf : SFlags) (h : sf.individualsHideLiving = true)
    (d : DocA) (o : Opts) (n : Nat) (hb : (counts fl sf d .hide o).individualsBadge = some n) :
    (counts fl sf d .hide o).statsLiving = 0 ∧
    (counts fl sf d .hide o).statsTotal = (d.people.filter (fun p => !p.pub.living)).length ∧
    (counts fl sf d .hide o).statsDead = (counts fl sf d .hide o).statsTotal ∧
    n - (counts fl sf d .hide o).statsTotal = nLiving d.people := by
  have hle : nLiving d.people ≤ d.people.length := by
    unfold nLiving; exact List.length_filter_le _ _
  have hn : n = d.people.length := by
    simp only [counts] at hb
    split at hb
    · exact (Option.some.inj hb).symm
    · cases hb
  subst hn
  simp only [counts, h, Bool.and_true, beq_self_eq_true, ↓reduceIte, true_and, ← length_sub_nLiving]
  omega

/-- the hide-mode site is *not* independent of whether a living person exists: the header badge
    counts them (the property speaks of their personal data, not of their number) -/
theorem badge_counts_living_counterexample :
    fullSite gf gsf ⟨⟨[pDead], [], [], []⟩, [], []⟩ .hide oAll ≠
      fullSite gf gsf ⟨⟨[pLiv [76] [80], pDead], [], [], []⟩, [], []⟩ .hide oAll := by
  decide +kernel

def xA : DocX := ⟨docA, [(true, false)], [⟨bs "S1", bs "Register", [(bs "Title", bs "Register")]⟩]⟩
def xB : DocX := ⟨docB, [(true, false)], [⟨bs "S1", bs "Register", [(bs "Title", bs "Register")]⟩]⟩

theorem docsX_same : SameDocX xA xB := ⟨docs_same, rfl, rfl⟩

example : fullSite gf gsf xA .show oAll ≠ fullSite gf gsf xB .show oAll := by decide +kernel
example : (extraSite gf gsf xA .hide oAll).map (·.1) = [bs "sources.html", bs "S1.html", bs "statistics.html"] := by decide +kernel
example : individualStats gsf docA.people .hide =
    [lit "Individuals", lit "Total", lit "1", lit "Living", lit "0", lit "Dead", lit "1"] := rfl
example : individualStats gsf docA.people .placeholder =
    [lit "Individuals", lit "Total", lit "2", lit "Living", lit "1", lit "Dead", lit "1"] := rfl
example : numStr 1234567 = bs "1,234,567" ∧ numStr 999 = bs "999" ∧ numStr 1000 = bs "1,000" ∧ numStr 0 = bs "0" := by decide +kernel

end Gedcom.C17

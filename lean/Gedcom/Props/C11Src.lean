/-
  C11 — the decisions of the matching passes are the decisions of the Go source.
  `Generated.MatchSrc` is written on every run by harness/extract_matchsrc.go from the go/ast of
  `calculateWinners` and `createPointerJobs` (individual_nodes.go): the comparator handed to
  `sort.SliceStable`, the threshold tests, and the statements of the two loops in source order.
  The obligation pins the statement order and rejects anything outside the fragment; the
  theorems prove that the model's stable insertion, winner loop and pointer pass make exactly
  the translated comparisons, in that order, for all scores and thresholds.
-/
import Gedcom.Model.Match
import Gedcom.Generated.MatchSrc
namespace Gedcom.C11
open Gedcom.Match Gedcom.MatchSrc

/-- the translated facts lie inside the fragment, the sort is the stable one, and the loops have
    exactly the statement sequences the model was written against: winner loop = threshold test
    with `break`, then the `found` test on both sides with `continue`, then send and the two
    marks; pointer pass = (in the worker pool, per left index) sentA guard, ByPointer look-up,
    nil guard, sentB guard, forced score, acceptance test, which stores the certain pair at its
    left index; then, sequentially in the order of the left slice, nil / sentA / sentB guards,
    adjust, send, store both pointers (since the fix "a right individual is matched by pointer
    only once, whatever the number of jobs") -/
theorem match_source_shape :
    Generated.srcSortIsStable = true ∧ Generated.srcLess.ok = true ∧ Generated.srcBreak.ok = true ∧
    Generated.srcAccept.ok = true ∧
    Generated.srcWinnerLoop = ["let:minW", "break-if", "skip-if-found:Left|Right", "send", "mark:Left", "mark:Right"] ∧
    Generated.srcPointerLoop = ["bind:a", "skip-if-sentA(a)", "lookup:b=ByPointer(a)", "skip-if-nil(b)",
      "skip-if-sentB(b)", "score:forced", "accept-if"] ∧
    Generated.srcAcceptBody = ["store-match:certain(a,b)@leftI"] ∧
    Generated.srcPointerEmit = ["skip-if-nil(match)", "skip-if-sentA(match.Left)", "skip-if-sentB(match.Right)",
      "adjust", "send:match", "storeA(match.Left)", "storeB(match.Right)"] :=
  ⟨rfl, rfl, rfl, rfl, rfl, rfl, rfl, rfl⟩

def envSort (i j : Rat) : Operand → Rat
  | .scoreI => i | .scoreJ => j | _ => 0

theorem srcLess_eval (i j : Rat) : Generated.srcLess.eval (envSort i j) = decide (j < i) := rfl

/-- the model's stable insertion moves a result behind an already placed one exactly when the
    source comparator sorts the placed one first -/
theorem sort_comparator_is_the_source (c d : Job) (ds : List Job) :
    insertDesc c (d :: ds) =
      if Generated.srcLess.eval (envSort d.score c.score) then d :: insertDesc c ds else c :: d :: ds := by
  rw [srcLess_eval, insertDesc]
  simp only [decide_eq_true_eq]

def envWin (score minW : Rat) : Operand → Rat
  | .score => score | .minW => minW | _ => 0

theorem srcBreak_eval (w minW : Rat) : Generated.srcBreak.eval (envWin w minW) = decide (w < minW) := rfl

/-- one iteration of the model's winner loop is the source's: the translated threshold test ends
    the loop, then the `found` test on either side skips, else the pair is sent and both sides
    are marked -/
theorem winner_loop_is_the_source (minW : Rat) (j : Job) (js : List Job) (found : List Nat) :
    greedy minW (j :: js) found =
      if Generated.srcBreak.eval (envWin j.score minW) then []
      else if found.contains j.l || found.contains j.r then greedy minW js found
      else j :: greedy minW js (j.l :: j.r :: found) := by
  rw [srcBreak_eval, greedy]
  simp only [decide_eq_true_eq]

def envPtr (score prefer : Rat) : Operand → Rat
  | .score => score | .prefer => prefer | _ => 0

theorem srcAccept_eval (w prefer : Rat) :
    Generated.srcAccept.eval (envPtr w prefer) = decide (prefer ≤ w) := rfl

/-- one iteration of the model's pointer pass is the source's: sentA guard, look-up by pointer,
    nil guard, sentB guard, then the translated `>= PreferPointerAbove` test on the forced score.
    The model's pass is sequential in the order of the left list with the sent sets threaded
    through; the source tests the guards in the pool against the sets the pass started with and
    again — against the current sets, with the stores — when it emits the stored matches in
    left-slice order.  The current sets contain the initial ones, so the emitted pairs are those
    of the model's single pass, for every number of jobs. -/
theorem pointer_pass_is_the_source (R : List Person) (scoreT : Nat → Nat → Rat) (prefer : Rat)
    (a : Person) (as : List Person) (s : Sent) :
    pointerJobs R scoreT prefer (a :: as) s =
      if s.a.contains a.ptr then pointerJobs R scoreT prefer as s else
      match R.find? (fun b => b.ptr == a.ptr) with
      | none => pointerJobs R scoreT prefer as s
      | some b =>
        if s.b.contains b.ptr then pointerJobs R scoreT prefer as s
        else if Generated.srcAccept.eval (envPtr (scoreT a.id b.id) prefer) then
          (⟨a.id, b.id, true, scoreT a.id b.id⟩ :: (pointerJobs R scoreT prefer as ⟨a.ptr :: s.a, b.ptr :: s.b⟩).1,
           (pointerJobs R scoreT prefer as ⟨a.ptr :: s.a, b.ptr :: s.b⟩).2)
        else pointerJobs R scoreT prefer as s := by
  rw [pointerJobs]
  simp only [srcAccept_eval, decide_eq_true_eq]
  rfl

end Gedcom.C11

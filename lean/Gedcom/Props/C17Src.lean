/-
  C17 — the decision logic of the model is the decision logic of the source: `Generated/LivingSrc.lean`
  is written on every run by a go/ast translator (harness/extract_livingsrc.go) from
  individual_node.go and html/*.go; what it produced is inside the target language, and interpreting
  it is `Living.isLiving` and the components and filters of Model/Living.lean, Model/Pages.lean.
-/
import Gedcom.Model.Pages
import Gedcom.Generated.LivingSrc
namespace Gedcom.C17
open Gedcom.Living Gedcom.LivingSrc Gedcom.Generated

def code : Vis → Nat
  | .show => 0
  | .hide => 1
  | .placeholder => 2

/-- the i-th translated switch of a function (a missing one has a `default`, i.e. is rejected) -/
def swAt (l : List Sw) (i : Nat) : Sw := l.getD i ⟨false, [], true⟩

def allSwitches : List (List Sw × Nat) :=
  [(srcNameSwitches, 1), (srcLinkSwitches, 1), (srcButtonSwitches, 2), (srcPageIndividualSwitches, 1),
   (srcPlaceEventSwitches, 1), (srcListPageSwitches, 1), (srcSurnameIndexSwitches, 1), (srcSendIndividualSwitches, 1),
   (srcPartnersSwitches, 1), (srcPartnerSectionSwitches, 1), (srcIndexLettersSwitches, 1)]

/-- Everything the translator produced is inside the fragment: `IsLiving` has the expected shape and
    conditions, every function has the expected number of visibility switches, none has a
    `default`, no case has an unknown constant or body, each visibility is handled by exactly one
    case, and the `if`s of IndividualDates / Publisher.Places are recognised. -/
theorem living_source_in_fragment :
    srcIsLivingShape = true ∧ srcIsLivingGuards.all (fun g => g.1.ok) = true ∧ srcIsLivingFinal.ok = true ∧
    allSwitches.all (fun e => e.1.length == e.2 && e.1.all (fun s => s.ok && s.exhaustive)) = true ∧
    (srcDatesConds.length == 2 && srcDatesConds.all (fun c => c.1.ok && c.2 != .bad)) = true ∧
    (srcPlacesFilterConds.length == 1 && srcPlacesFilterConds.all (fun c => c.1.ok && c.2 != .bad)) = true := by
  decide +kernel

/-! The comparisons of the target language are written with truncated subtraction; what they mean: -/

theorem eval_gt (a b : Int) : Cmp.eval .gt a b = decide (b < a) := by
  rw [Bool.eq_iff_iff]
  simp [Cmp.eval]

theorem eval_le (a b : Int) : Cmp.eval .le a b = decide (a ≤ b) := by
  rw [Bool.eq_iff_iff]
  simp [Cmp.eval]
  omega

theorem eval_eq (a b : Int) : Cmp.eval .eq a b = decide (a = b) := by
  rw [Bool.eq_iff_iff]
  simp [Cmp.eval]

/-- Running `IsLiving` as written — `if node == nil`, `if len(deaths) > 0`, `if maxLivingAge == 0`,
    `return birthYear == 0 || age <= maxLivingAge`, in that order — is the model's `isLiving`, for
    every number of deaths, birth year (millionths), current year and maximum living age. -/
theorem isLiving_is_the_source (deaths birthMicro now maxAge : Nat) :
    runReturns { nodeNil := false, deaths := deaths, maxAge := maxAge, birthMicro := birthMicro, now := now }
      srcIsLivingGuards srcIsLivingFinal = isLiving (decide (deaths > 0)) birthMicro now maxAge := by
  -- the source compares integers, the model natural numbers
  have h1 : (0 < (deaths : Int)) ↔ deaths > 0 := Int.natCast_pos
  have h2 : ((maxAge : Int) * 1000000 = 0) ↔ maxAge = 0 := by rw [Int.mul_eq_zero]; simp
  have h3 : ((birthMicro : Int) = 0) ↔ birthMicro = 0 := Int.natCast_eq_zero
  have h4 : ((now : Int) * 1000000 - birthMicro ≤ maxAge * 1000000) ↔
      now * 1000000 ≤ maxAge * 1000000 + birthMicro := by omega
  simp only [srcIsLivingGuards, srcIsLivingFinal, runReturns, Cond.eval, Num.eval, eval_gt, eval_le,
    eval_eq, isLiving, Bool.beq_eq_decide_eq, h1, h2, h3, h4]
  -- an early return for a death, one for `maxAge = 0`, else the final condition
  cases decide (deaths > 0) <;> cases decide (maxAge = 0) <;> rfl

/-- a nil individual is not living (`node == nil` is the first test) -/
theorem isLiving_nil_is_the_source (e : Env) (h : e.nodeNil = true) :
    runReturns e srcIsLivingGuards srcIsLivingFinal = false := by
  simp only [srcIsLivingGuards, runReturns, Cond.eval, h, if_true]

/-- `IndividualName`: under `isLiving`, the case of the visibility decides — nothing, the literal, or
    carry on to the name. -/
theorem name_is_the_source (p : Person) (v : Vis) :
    individualName (some p) v =
      (if (swAt srcNameSwitches 0).underLiving && p.pub.living then
        match (swAt srcNameSwitches 0).act (code v) with
        | .nothing => .nothing
        | .lit s => .raw s
        | _ => individualName (some p) .show
      else individualName (some p) .show) := by
  -- both sides are tables over the living flag and the three visibilities; the strings ride along
  obtain ⟨⟨living, sex⟩, priv⟩ := p
  cases living <;> cases v <;> rfl

/-- `PageIndividual`: "#" exactly in the cases that return it. -/
theorem pageIndividual_is_the_source (p : Person) (v : Vis) :
    pageIndividual (some p) v =
      (if (swAt srcPageIndividualSwitches 0).underLiving && p.pub.living &&
          (swAt srcPageIndividualSwitches 0).act (code v) == .hash then hashHref else p.priv.page) := by
  obtain ⟨⟨living, sex⟩, priv⟩ := p
  cases living <;> cases v <;> rfl

/-- `IndividualLink`: nothing exactly in the case that returns `writeNothing()`. -/
theorem link_is_the_source (p : Person) (v : Vis) :
    individualLink (some p) v =
      (if (swAt srcLinkSwitches 0).underLiving && p.pub.living && (swAt srcLinkSwitches 0).act (code v) == .nothing
       then .nothing
       else .link (pageIndividual (some p) v) [.dot p.pub.sex, individualName (some p) v]) := by
  obtain ⟨⟨living, sex⟩, priv⟩ := p
  cases living <;> cases v <;> rfl

/-- `IndividualButton`: its two switches. -/
theorem button_is_the_source (p : Person) (v : Vis) :
    individualButton (some p) v =
      (if (swAt srcButtonSwitches 0).underLiving && p.pub.living && (swAt srcButtonSwitches 0).act (code v) == .nothing
       then .nothing
       else if (swAt srcButtonSwitches 1).underLiving && p.pub.living then
        match (swAt srcButtonSwitches 1).act (code v) with
        | .nothing => .nothing
        | .hiddenButton => .button p.pub.sex none (.raw "<em>Hidden</em>") (individualDates (some p) v)
        | _ => .button p.pub.sex (some (pageIndividual (some p) v)) (individualName (some p) v) (individualDates (some p) v)
       else .button p.pub.sex (some (pageIndividual (some p) v)) (individualName (some p) v) (individualDates (some p) v)) := by
  obtain ⟨⟨living, sex⟩, priv⟩ := p
  cases living <;> cases v <;> rfl

/-- `PlaceEvent`: no row, the row without the person, or the row with the link. -/
theorem placeEvent_is_the_source (p : Person) (date : Str) (descr : String) (v : Vis) :
    placeEvent (some p) date descr v =
      (if (swAt srcPlaceEventSwitches 0).underLiving && p.pub.living then
        match (swAt srcPlaceEventSwitches 0).act (code v) with
        | .nothing => .nothing
        | .emptyPerson => .row [.text date, .raw descr, .raw "&nbsp;"]
        | _ => .row [.text date, .raw descr, individualLink (some p) v]
      else .row [.text date, .raw descr, individualLink (some p) v]) := by
  obtain ⟨⟨living, sex⟩, priv⟩ := p
  cases living <;> cases v <;> rfl

/-- the two `if`s of `IndividualDates` -/
theorem dates_is_the_source (p : Person) (v : Vis) :
    individualDates (some p) v =
      (let e : Env := { living := p.pub.living, vis := code v }
       match srcDatesConds.find? (fun c => c.1.eval e) with
       | some (_, .nothing) => .nothing
       | some (_, .lit s) => .raw s
       | _ => .text p.priv.dates) := by
  obtain ⟨⟨living, sex⟩, priv⟩ := p
  cases living <;> cases v <;> rfl

/-- a living person is skipped by a loop exactly in the cases whose body is `continue` -/
def skips (s : Sw) (living : Bool) (v : Vis) : Bool :=
  s.underLiving && living && (s.act (code v) == .skip || s.act (code v) == .skipCounted)

/-- The row loop of the list page, `sendIndividualFiles` and the surname pills leave a living person
    out unless they are shown … -/
theorem skips_unless_shown (living : Bool) (v : Vis) :
    skips (swAt srcListPageSwitches 0) living v = (living && v != .show) ∧
    skips (swAt srcSendIndividualSwitches 0) living v = (living && v != .show) ∧
    skips (swAt srcSurnameIndexSwitches 0) living v = (living && v != .show) := by
  cases living <;> cases v <;> decide

/-- … the two loops of `PartnersAndChildren` only in hide mode. -/
theorem skips_in_hide (living : Bool) (v : Vis) :
    skips (swAt srcPartnerSectionSwitches 0) living v = (living && v == .hide) ∧
    skips (swAt srcPartnersSwitches 0) living v = (living && v == .hide) := by
  cases living <;> cases v <;> decide

/-- the row loop of `IndividualListPage` -/
theorem listRows_is_the_source (ps : List Person) (v : Vis) :
    listRows ps v = (ps.filter (fun p => !skips (swAt srcListPageSwitches 0) p.pub.living v)).map (fun p => listRow p v) := by
  simp only [listRows, hidden, (skips_unless_shown _ v).1]

/-- `sendIndividualFiles`: who gets a page -/
theorem individualPages_is_the_source (ps : List Person) (v : Vis) :
    individualPages ps v =
      (ps.filter (fun p => !skips (swAt srcSendIndividualSwitches 0) p.pub.living v)).map (fun p => p.priv.page) := by
  simp only [individualPages, hidden, (skips_unless_shown _ v).2.1]

/-- `SurnameIndex`: whose surname becomes a pill -/
theorem surnameIndex_is_the_source (ps : List Person) (v : Vis) (sel : Person → Bool) :
    surnameIndex ps v sel =
      (((ps.filter (fun p => !skips (swAt srcSurnameIndexSwitches 0) p.pub.living v)).filter sel).map
        (fun p => p.priv.surname)).eraseDups := by
  simp only [surnameIndex, hidden, (skips_unless_shown _ v).2.2]

/-- `partnerSection`: which children get a button -/
theorem partnerChildren_is_the_source (cs : List Person) (v : Vis) :
    partnerChildren cs v =
      (cs.filter (fun c => !skips (swAt srcPartnerSectionSwitches 0) c.pub.living v)).map (fun c => individualButton (some c) v) := by
  simp only [partnerChildren, (skips_in_hide _ v).1]

/-- `PartnersAndChildren` (page model): which partners and children are kept -/
theorem keepChild_is_the_source (c : Pages.PPerson) (v : Vis) :
    Pages.keepChild v (some c) = !skips (swAt srcPartnersSwitches 0) c.pub.living v := by
  simp only [Pages.keepChild, (skips_in_hide _ v).2]

/-- `GetIndexLetters`: who contributes a letter — everybody, or (hide) the people who are not living -/
theorem lettersFrom_is_the_source (ps : List Person) (v : Vis) :
    lettersFrom generatedFlags ps v =
      (match (swAt srcIndexLettersSwitches 0).act (code v) with
       | .addLetter => ps
       | .addLetterIfDead => ps.filter (fun p => !p.pub.living)
       | _ => []) := by
  cases v <;> rfl

/-- `Publisher.Places`: an event is left out exactly when the translated condition holds
    (hide mode and the owner is living) -/
theorem placeFilter_is_the_source (living : Bool) (v : Vis) :
    (generatedFlags.placesRespectHide && living && v == .hide) =
      srcPlacesFilterConds.any (fun c => c.2 == .skip && c.1.eval { ownerLiving := living, vis := code v }) := by
  cases living <;> cases v <;> rfl

end Gedcom.C17

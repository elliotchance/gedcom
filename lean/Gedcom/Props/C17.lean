/-
  C17 — Published sites reveal nothing about living people when told not to: per component and for
  the lists computed from all people, non-interference in the living people's private strings, at
  the regenerated facts (`generated_flags_safe`); the leaks with the facts of the unrepaired tree.
  Labelled partial (DESIGN §8 C17): which component each page uses where is tied by execution
  (marker search and hide-mode byte comparison of whole sites).
-/
import Gedcom.Model.Living
namespace Gedcom.C17
open Gedcom.Living

def withPriv (p : Person) (q : Priv) : Person := { p with priv := q }

/-- `ps'` differs from `ps` only in the private strings of living people -/
inductive SameButLiving : List Person → List Person → Prop
  | nil : SameButLiving [] []
  | dead (p : Person) {ps ps'} : p.pub.living = false → SameButLiving ps ps' → SameButLiving (p :: ps) (p :: ps')
  | living (p : Person) (q : Priv) {ps ps'} : p.pub.living = true → SameButLiving ps ps' →
      SameButLiving (p :: ps) (withPriv p q :: ps')

/-- The facts regenerated from the source are those of the repaired code (the surname list, the
    place list and the hide-mode index letters respect the visibility). -/
theorem generated_flags_safe : generatedFlags.Safe := by decide

/-- A recorded death always makes a person not living; without one, a person with no usable birth
    date is living, and otherwise exactly those at most `maxAge` years old are. -/
theorem isLiving_spec (hasDeath : Bool) (birthMicro now maxAge : Nat) :
    isLiving hasDeath birthMicro now maxAge = true ↔
      hasDeath = false ∧ (maxAge = 0 ∨ birthMicro = 0 ∨ now * 1000000 ≤ maxAge * 1000000 + birthMicro) := by
  unfold isLiving
  cases hasDeath <;> simp [or_assoc]

/-- Living status is monotone in the birth date: born later ⇒ still living. -/
theorem isLiving_mono (b b' now maxAge : Nat) (h : b ≤ b') (hb : b ≠ 0)
    (hl : isLiving false b now maxAge = true) : isLiving false b' now maxAge = true := by
  rw [isLiving_spec] at *
  obtain ⟨_, hl⟩ := hl
  refine ⟨rfl, ?_⟩
  rcases hl with h0 | h0 | h0
  · exact Or.inl h0
  · exact absurd h0 hb
  · right; right; omega

/-! For a living person who is not shown each component writes a fragment that is a function of the
visibility and the sex alone; the statements about such a person are read off these equations. -/

theorem hide_or_placeholder {v : Vis} (hv : v ≠ .show) : v = .hide ∨ v = .placeholder := by
  cases v
  · exact absurd rfl hv
  · exact .inl rfl
  · exact .inr rfl

theorem hidden_eq_living (p : Person) {v : Vis} (hv : v ≠ .show) : hidden p v = p.pub.living := by
  rcases hide_or_placeholder hv with rfl | rfl <;> exact Bool.and_true _

section hiddenPerson
variable {p : Person} {v : Vis} (hl : p.pub.living = true) (hv : v ≠ .show)
include hl hv

theorem name_hidden : individualName (some p) v = if v = .hide then .nothing else .raw "<em>Hidden</em>" := by
  obtain ⟨⟨_, _⟩, _⟩ := p
  subst hl
  rcases hide_or_placeholder hv with rfl | rfl <;> rfl

theorem dates_hidden : individualDates (some p) v = if v = .hide then .nothing else .raw "living" := by
  obtain ⟨⟨_, _⟩, _⟩ := p
  subst hl
  rcases hide_or_placeholder hv with rfl | rfl <;> rfl

theorem link_hidden : individualLink (some p) v =
    if v = .hide then .nothing else .link hashHref [.dot p.pub.sex, .raw "<em>Hidden</em>"] := by
  obtain ⟨⟨_, _⟩, _⟩ := p
  subst hl
  rcases hide_or_placeholder hv with rfl | rfl <;> rfl

theorem button_hidden : individualButton (some p) v =
    if v = .hide then .nothing else .button p.pub.sex none (.raw "<em>Hidden</em>") (.raw "living") := by
  obtain ⟨⟨_, _⟩, _⟩ := p
  subst hl
  rcases hide_or_placeholder hv with rfl | rfl <;> rfl

theorem placeEvent_hidden (date : Str) (descr : String) : placeEvent (some p) date descr v =
    if v = .hide then .nothing else .row [.text date, .raw descr, .raw "&nbsp;"] := by
  obtain ⟨⟨_, _⟩, _⟩ := p
  subst hl
  rcases hide_or_placeholder hv with rfl | rfl <;> rfl

end hiddenPerson

/-- `PageIndividual`: the link target of a living person is "#" -/
theorem link_is_inert (p : Person) (v : Vis) (hl : p.pub.living = true) (hv : v ≠ .show) :
    pageIndividual (some p) v = hashHref := by
  simp only [pageIndividual, hidden_eq_living p hv, hl, if_true]

theorem name_hidden_independent (p : Person) (q : Priv) (v : Vis) (hl : p.pub.living = true) (hv : v ≠ .show) :
    individualName (some (withPriv p q)) v = individualName (some p) v := by
  rw [name_hidden hl hv, name_hidden (p := withPriv p q) hl hv]

theorem dates_hidden_independent (p : Person) (q : Priv) (v : Vis) (hl : p.pub.living = true) (hv : v ≠ .show) :
    individualDates (some (withPriv p q)) v = individualDates (some p) v := by
  rw [dates_hidden hl hv, dates_hidden (p := withPriv p q) hl hv]

theorem link_hidden_independent (p : Person) (q : Priv) (v : Vis) (hl : p.pub.living = true) (hv : v ≠ .show) :
    individualLink (some (withPriv p q)) v = individualLink (some p) v := by
  rw [link_hidden hl hv, link_hidden (p := withPriv p q) hl hv]
  rfl

/-- every link that is rendered for a living person points to "#" -/
theorem link_href_inert (p : Person) (v : Vis) (href : Str) (body : List Frag) (hl : p.pub.living = true)
    (hv : v ≠ .show) (h : individualLink (some p) v = .link href body) : href = hashHref := by
  rw [link_hidden hl hv] at h
  split at h
  · cases h
  · cases h; rfl

theorem button_hidden_independent (p : Person) (q : Priv) (v : Vis) (hl : p.pub.living = true) (hv : v ≠ .show) :
    individualButton (some (withPriv p q)) v = individualButton (some p) v := by
  rw [button_hidden hl hv, button_hidden (p := withPriv p q) hl hv]
  rfl

/-- the button of a living person has no click target -/
theorem button_is_inert (p : Person) (v : Vis) (s : Sex) (oc : Option Str) (n d : Frag) (hl : p.pub.living = true)
    (hv : v ≠ .show) (h : individualButton (some p) v = .button s oc n d) : oc = none := by
  rw [button_hidden hl hv] at h
  split at h
  · cases h
  · cases h; rfl

/-- `PlaceEvent` in hide mode … -/
theorem placeEvent_hide_independent (p : Person) (q : Priv) (date date' : Str) (descr descr' : String)
    (hl : p.pub.living = true) :
    placeEvent (some (withPriv p q)) date' descr' .hide = placeEvent (some p) date descr .hide := by
  rw [placeEvent_hidden (v := .hide) hl nofun, placeEvent_hidden (p := withPriv p q) (v := .hide) hl nofun]
  rfl

/-- … and in placeholder mode: the row keeps the event's date and type but nothing of the person. -/
theorem placeEvent_placeholder_independent (p : Person) (q : Priv) (date : Str) (descr : String)
    (hl : p.pub.living = true) :
    placeEvent (some (withPriv p q)) date descr .placeholder = placeEvent (some p) date descr .placeholder := by
  rw [placeEvent_hidden (v := .placeholder) hl nofun,
    placeEvent_hidden (p := withPriv p q) (v := .placeholder) hl nofun]

/-- The full statement "a place-page row of a living person does not depend on their event
    dates" is false in placeholder mode: the date column is written (the property asks placeholder
    mode to withhold pages, links and names, which `placeEvent_placeholder_independent` gives). -/
theorem placeEvent_placeholder_date_counterexample :
    (placeEvent (some ⟨⟨true, .unknown⟩, default⟩) [49] "Birth" .placeholder).texts ≠
    (placeEvent (some ⟨⟨true, .unknown⟩, default⟩) [50] "Birth" .placeholder).texts := by
  decide +kernel

/-- What is written for a living person when they are not shown contains no string from the file at
    all, except the inert link target "#". -/
theorem hidden_writes_no_private_text (p : Person) (v : Vis) (hl : p.pub.living = true) (hv : v ≠ .show) :
    (individualName (some p) v).texts = [] ∧ (individualDates (some p) v).texts = [] ∧
    (individualButton (some p) v).texts = [] ∧
    ((individualLink (some p) v).texts = [] ∨ (individualLink (some p) v).texts = [hashHref]) := by
  rw [name_hidden hl hv, dates_hidden hl hv, button_hidden hl hv, link_hidden hl hv]
  rcases hide_or_placeholder hv with rfl | rfl
  · exact ⟨rfl, rfl, rfl, .inl rfl⟩
  · exact ⟨rfl, rfl, rfl, .inr rfl⟩

theorem filter_not_hidden (ps : List Person) {v : Vis} (hv : v ≠ .show) :
    ps.filter (fun p => !hidden p v) = ps.filter (fun p => !p.pub.living) := by
  simp only [hidden_eq_living _ hv]

/-- no page is generated for a living person: the generated pages are those of the others -/
theorem no_page_for_living (ps : List Person) (v : Vis) (hv : v ≠ .show) :
    individualPages ps v = (ps.filter (fun p => !p.pub.living)).map (fun p => p.priv.page) := by
  rw [individualPages, filter_not_hidden ps hv]

/-- no row is listed for a living person -/
theorem no_row_for_living (ps : List Person) (v : Vis) (hv : v ≠ .show) :
    listRows ps v = (ps.filter (fun p => !p.pub.living)).map (fun p => listRow p v) := by
  rw [listRows, filter_not_hidden ps hv]

/-- of a living person who is selected, only `pub` is read -/
theorem filter_map_same {β} {ps ps' : List Person} (h : SameButLiving ps ps') (P : Pub → Bool)
    (f : Person → β) (hf : ∀ p q, p.pub.living = true → P p.pub = true → f (withPriv p q) = f p) :
    (ps'.filter (P ·.pub)).map f = (ps.filter (P ·.pub)).map f := by
  induction h with
  | nil => rfl
  | dead p _ _ ih => simp only [List.filter_cons, apply_ite (List.map f), List.map_cons, ih]
  | living p q hl _ ih =>
    simp only [List.filter_cons, withPriv, apply_ite (List.map f), List.map_cons, ih]
    split
    · rw [← withPriv, hf p q hl ‹_›]
    · rfl

theorem filter_dead_same {ps ps' : List Person} (h : SameButLiving ps ps') :
    ps'.filter (fun p => !p.pub.living) = ps.filter (fun p => !p.pub.living) := by
  simpa using filter_map_same h (fun b => !b.living) id fun p q hl hd => by simp [hl] at hd

theorem pages_hidden_independent {ps ps' : List Person} (h : SameButLiving ps ps') (v : Vis) (hv : v ≠ .show) :
    individualPages ps' v = individualPages ps v := by
  rw [no_page_for_living ps' v hv, no_page_for_living ps v hv, filter_dead_same h]

theorem rows_hidden_independent {ps ps' : List Person} (h : SameButLiving ps ps') (v : Vis) (hv : v ≠ .show) :
    listRows ps' v = listRows ps v := by
  rw [no_row_for_living ps' v hv, no_row_for_living ps v hv, filter_dead_same h]

/-- the surname pills of a list page do not depend on the living people's data -/
theorem surnameIndex_hidden_independent {ps ps' : List Person} (h : SameButLiving ps ps') (v : Vis) (hv : v ≠ .show)
    (sel : Person → Bool) : surnameIndex ps' v sel = surnameIndex ps v sel := by
  rw [surnameIndex, surnameIndex, filter_not_hidden ps' hv, filter_not_hidden ps hv, filter_dead_same h]

/-- the number of people hidden on a placeholder list page depends on how many are living, not on
    who they are -/
theorem hiddenCount_hidden_independent {ps ps' : List Person} (h : SameButLiving ps ps') (v : Vis) :
    hiddenCount ps' v = hiddenCount ps v := by
  have e := congrArg List.length
    (filter_map_same h (fun b => b.living && v != .show) (fun _ => ()) fun _ _ _ _ => rfl)
  rw [List.length_map, List.length_map] at e
  unfold hiddenCount hidden
  rw [e]

/-- children buttons on a person's page (`partnerSection`) -/
theorem partnerChildren_hidden_independent {cs cs' : List Person} (h : SameButLiving cs cs') (v : Vis)
    (hv : v ≠ .show) : partnerChildren cs' v = partnerChildren cs v :=
  filter_map_same h (fun b => !(b.living && v == .hide)) _ fun p q hl _ => button_hidden_independent p q v hl hv

/-! The surname list, the surname counts, the place list and the index letters respect the visibility
by regenerated facts (`generated_flags_safe`). -/

theorem surnameList_hidden_independent {ps ps' : List Person} (h : SameButLiving ps ps') (v : Vis) (hv : v ≠ .show) :
    surnameList generatedFlags ps' v = surnameList generatedFlags ps v := by
  rw [generated_flags_safe]
  simp only [surnameList, Bool.true_and, filter_not_hidden _ hv, filter_dead_same h]

theorem surnameCount_hidden_independent {ps ps' : List Person} (h : SameButLiving ps ps') (v : Vis) (hv : v ≠ .show)
    (s : Str) : surnameCount generatedFlags ps' v s = surnameCount generatedFlags ps v s := by
  rw [generated_flags_safe]
  simp only [surnameCount, Bool.true_and, filter_not_hidden _ hv, filter_dead_same h]

theorem placeList_hide_independent {ps ps' : List Person} (h : SameButLiving ps ps') :
    placeList generatedFlags ps' .hide = placeList generatedFlags ps .hide := by
  rw [generated_flags_safe]
  simp only [placeList, Bool.true_and, beq_self_eq_true, Bool.and_true, filter_dead_same h]

theorem letters_hide_independent {ps ps' : List Person} (h : SameButLiving ps ps') :
    lettersFrom generatedFlags ps' .hide = lettersFrom generatedFlags ps .hide :=
  filter_dead_same h

/-- In hide mode everything the site computes from the people — which pages exist, the list rows,
    the surname pills, the surname list, the place list, the people that contribute index
    letters — is the same whatever the living people's names, dates and places are. -/
theorem site_hide_independent {ps ps' : List Person} (h : SameButLiving ps ps') :
    site generatedFlags ps' .hide = site generatedFlags ps .hide := by
  unfold site
  rw [pages_hidden_independent h .hide (by decide), rows_hidden_independent h .hide (by decide),
    surnameIndex_hidden_independent h .hide (by decide), surnameList_hidden_independent h .hide (by decide),
    placeList_hide_independent h, letters_hide_independent h]

/-- With the facts of the unrepaired tree the same model leaks: a living person's surname is on the
    surname list in hide mode … -/
theorem surname_leak_counterexample :
    surnameList unrepairedFlags [⟨⟨true, .unknown⟩, { (default : Priv) with surname := [76] }⟩] .hide = [[76]] := by
  decide +kernel

/-- … and their birth place gets a place page. -/
theorem place_leak_counterexample :
    placeList unrepairedFlags [⟨⟨true, .unknown⟩, { (default : Priv) with places := [[80]] }⟩] .hide = [[80]] := by
  decide +kernel

/-- People who are not living remain fully published in every mode: every component renders them
    exactly as in show mode … -/
theorem dead_fully_published (p : Person) (v : Vis) (hd : p.pub.living = false) (date : Str) (descr : String) :
    individualName (some p) v = individualName (some p) .show ∧
    individualDates (some p) v = individualDates (some p) .show ∧
    pageIndividual (some p) v = p.priv.page ∧
    individualLink (some p) v = individualLink (some p) .show ∧
    individualButton (some p) v = individualButton (some p) .show ∧
    listRow p v = listRow p .show ∧
    placeEvent (some p) date descr v = placeEvent (some p) date descr .show := by
  simp [individualName, individualDates, pageIndividual, individualLink, individualButton, listRow, placeEvent,
    hidden, hd]

/-- … they get their page and their list row, keep their surname on the surname list, their places
    on the place list, and (with the repaired index letters) their index letter, in every mode -/
theorem dead_listed_everywhere (ps : List Person) (p : Person) (v : Vis) (hp : p ∈ ps) (hd : p.pub.living = false) :
    p.priv.page ∈ individualPages ps v ∧ listRow p v ∈ listRows ps v ∧
    (p.priv.surname ≠ [] → p.priv.surname ∈ surnameList generatedFlags ps v) ∧
    (∀ pl ∈ p.priv.places, pl ∈ placeList generatedFlags ps v) ∧
    p ∈ lettersFrom generatedFlags ps v := by
  have hh : hidden p v = false := by simp [hidden, hd]
  have hkept : p ∈ ps.filter (fun p => !hidden p v) := List.mem_filter.mpr ⟨hp, by simp [hh]⟩
  refine ⟨List.mem_map_of_mem hkept, List.mem_map_of_mem hkept, fun hne => ?_, fun pl hpl => ?_, ?_⟩
  · have hk : p ∈ ps.filter (fun p => !(generatedFlags.surnamesRespectVisibility && hidden p v)) :=
      List.mem_filter.mpr ⟨hp, by simp [hh]⟩
    exact List.mem_eraseDups.mpr (List.mem_filter.mpr ⟨List.mem_map_of_mem hk, by simpa using hne⟩)
  · exact List.mem_eraseDups.mpr (List.mem_flatMap.mpr ⟨p, List.mem_filter.mpr ⟨hp, by simp [hd]⟩, hpl⟩)
  · cases v
    · exact hp
    · exact List.mem_filter.mpr ⟨hp, by simp [hd]⟩
    · exact hp

def liv : Person := ⟨⟨true, .female⟩, ⟨[[76, 105, 118]], [98, 46], [108, 105, 118], [[49]], [73, 110, 103], [[80]]⟩⟩
def ded : Person := ⟨⟨false, .male⟩, ⟨[[79, 108, 100]], [100, 46], [111, 108, 100], [[50]], [84, 105, 109], [[81]]⟩⟩

example : SameButLiving [liv, ded] [withPriv liv default, ded] :=
  .living liv default rfl (.dead ded rfl .nil)
example : individualPages [liv, ded] .hide = [[111, 108, 100]] := rfl
example : individualPages [liv, ded] .show = [[108, 105, 118], [111, 108, 100]] := rfl
example : (individualLink (some liv) .placeholder).texts = [[35]] := rfl
example : (individualLink (some liv) .show).texts = [[108, 105, 118], [76, 105, 118]] := rfl
example : surnameList generatedFlags [liv, ded] .placeholder = [[84, 105, 109]] := rfl
example : isLiving false 1990000000 2026 100 = true ∧ isLiving false 1900000000 2026 100 = false ∧
    isLiving true 1990000000 2026 100 = false ∧ isLiving false 0 2026 100 = true ∧
    isLiving false 1926000000 2026 100 = true := by decide +kernel

end Gedcom.C17

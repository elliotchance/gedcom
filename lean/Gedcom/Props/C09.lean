/-
  C09 — Merging nodes loses nothing, invents nothing and copies.

  Property theorems only.  They are about the functions the driver runs for `mnodes` / `mslice`:
  `mergeNodes` (MergeNodes), `mergeNodeSlicesO` (MergeNodeSlices = `mergeNodeSlicesP` + the panic /
  fuel outcome) with `eqMergeF` (EqualityMergeFunction), `alwaysMerge`, `neverMerge`, over
  identity-carrying trees (Gedcom/Model/Ident.lean), with the flags `codeFlags` that `gvh extract`
  regenerates from the code by probing object identity (Generated/Merge.lean).

  The loop-structure theorems hold for every merge function and the identity theorems for the
  flags of the repaired code (`flags_ok`), without guard.  "Nothing lost" holds under an explicit
  decidable guard and is false of the code without it (the two counterexamples below: known
  findings, replayed on the implementation); self-merge holds under the RESI / EVEN half of that
  guard and the property's own `noEqSib`.
-/
import Gedcom.Lemmas.MergeInvent
import Gedcom.Lemmas.MergeFresh
import Gedcom.Lemmas.MergeFuel
import Gedcom.Lemmas.MergeSelf
import Gedcom.Lemmas.MergePath
import Gedcom.Lemmas.DateGuard
namespace Gedcom.C09

/-! ## the tie: the flags read off the code are those of the code that was proved -/

/-- the three places of merge.go that are documented to copy do copy (regenerated by a behavioural
    probe on every run; `decide` over three booleans) -/
theorem flags_ok : codeFlags = ⟨true, true, true⟩ := by decide

/-- the date half of the guards of `nothing_lost_*` / `self_merge` (`dateTrans D`) holds for every
    set of DATE values without a before / after constraint (C07's plain class: values that do not
    parse to a valid range, exact and about dates and ranges of them) -/
theorem dateTrans_of_plain (D : List Str) (h : D.all plainDateValue = true) : dateTrans D = true :=
  dateTrans_of_dateEquiv (dateEquiv_of_plain D h)

/-- … and outside it the date relation does fail: when `DateNode.Equals` is symmetric but not
    transitive on `D` there are three values of `D` that witness it (the shape of the
    counterexample below) -/
theorem dateTrans_false_witness (D : List Str) (h : dateTrans D = false) :
    ∃ a ∈ D, ∃ b ∈ D, ∃ c ∈ D, dateValueEquals a b = true ∧ dateValueEquals b c = true ∧
      dateValueEquals a c = false := by
  apply Classical.byContradiction
  intro hn
  have : dateTrans D = true := by
    simp only [dateTrans, List.all_eq_true, Bool.or_eq_true, Bool.not_eq_true', Bool.and_eq_false_iff]
    intro a ha b hb c hc
    cases hab : dateValueEquals a b
    · exact Or.inl (Or.inl rfl)
    · cases hbc : dateValueEquals b c
      · exact Or.inl (Or.inr rfl)
      · cases hac : dateValueEquals a c
        · exact absurd ⟨a, ha, b, hb, c, hc, hab, hbc, hac⟩ hn
        · exact Or.inr rfl
  rw [this] at h; cases h

/-- all existing objects have ids below the allocation counter -/
def Below (next : Nat) (t : INode) : Prop := ∀ i ∈ t.ids, i < next

theorem mergeNodeSlicesO_ok {fl : MergeFlags} {f : MergeFn} {l r : List INode} {st st' : MSt}
    {es : List Elem} (h : mergeNodeSlicesO fl f l r st = .ok es st') :
    es = (mergeNodeSlicesP fl f l r st).1 ∧ st' = (mergeNodeSlicesP fl f l r st).2 := by
  unfold mergeNodeSlicesO at h
  simp only at h
  split at h
  · cases h
  · split at h
    · cases h
    · injection h with h1 h2; exact ⟨h1.symm, h2.symm⟩

/-- FULL.  Termination of `for len(right) > 0`: a sweep over the slice that reports a merge has
    removed a node from `right` (so every iteration consumes a right node; the `else` branch of
    the model's guarded recursion is dead). -/
theorem loop_consumes (f : MergeFn) (slice : List Elem) (right : List (Nat × INode))
    (merged : List Nat) (st : MSt) (h : (pass f [] slice right merged st false).found = true) :
    (pass f [] slice right merged st false).right.length < right.length :=
  pass_found_lt f slice right merged st h

/-- FULL.  Guarantees 1 and 2: `max |l| |r| ≤ |MergeNodeSlices l r| ≤ |l| + |r|`, for every merge
    function and whatever it returns. -/
theorem length_bounds (fl : MergeFlags) (f : MergeFn) (l r : List INode) (st : MSt) :
    max l.length r.length ≤ (mergeNodeSlicesP fl f l r st).1.length ∧
    (mergeNodeSlicesP fl f l r st).1.length ≤ l.length + r.length :=
  mergeNodeSlicesP_length fl f l r st

/-- FULL.  Guarantees 4 and 5: every input position goes into exactly one result element (the
    provenances of the result are a permutation of all left and all right positions), an element
    is made of one left node, one right node, or one left node merged with one right node — never
    two of a side, never merged twice — and the provenance is truthful (`Faithful`). -/
theorem merged_at_most_once (fl : MergeFlags) (f : MergeFn) (l r : List INode) (st : MSt) :
    ((mergeNodeSlicesP fl f l r st).1.flatMap (·.prov)).Perm
      ((List.range l.length).map .L ++ (List.range r.length).map .R) ∧
    ∀ e ∈ (mergeNodeSlicesP fl f l r st).1, ProvOK e.prov ∧ Faithful f l r e :=
  mergeNodeSlicesP_prov fl f l r st

/-- FULL.  The nesting MergeNodes → MergeNodeSlices → EqualityMergeFunction → MergeNodes is
    modelled with a budget; the budget the driver uses (`mergeFuel`, heights of the inputs) is never
    exhausted: the `outOfFuel` outcome of the model is dead, for MergeNodes and for MergeNodeSlices
    with the equality merge function. -/
theorem never_out_of_fuel (fl : MergeFlags) (st : MSt) (h : st.oof = false) :
    (∀ l r : INode, mergeNodes fl l r st ≠ .outOfFuel) ∧
    (∀ l r : List INode, ∀ es st', mergeNodeSlicesO fl (eqMergeF fl (mergeFuel l r)) l r st ≠ .outOfFuel ∧
      (mergeNodeSlicesO fl (eqMergeF fl (mergeFuel l r)) l r st = .ok es st' → st'.oof = false)) := by
  constructor
  · intro l r
    rcases mergeNodesF_mergeFuel fl l r st with ⟨m, st', h1, _⟩ | h1
    · rw [mergeNodes_of_ok h h1]
      split
      · exact fun h' => by cases h'
      · exact fun h' => by cases h'
    · unfold mergeNodes; rw [h1]; exact fun h' => by cases h'
  · intro l r es st'
    have hg := mergeFuel_ge l r
    have := mergeNodeSlices_height fl (mergeFuel l r) (eqMergeF fl (mergeFuel l r))
      (eqMergeWith_height _ (Nat.le_refl _) (mergeNodesF_fuel fl _)) l r st hg.1 hg.2
    have ho : (mergeNodeSlicesP fl (eqMergeF fl (mergeFuel l r)) l r st).2.oof = false := by
      rw [← h]; exact this.1
    refine ⟨?_, fun h' => by rw [(mergeNodeSlicesO_ok h').2]; exact ho⟩
    unfold mergeNodeSlicesO
    simp only [ho]
    split
    · exact fun h' => by cases h'
    · exact fun h' => by simp at h'

/-- FULL.  MergeNodes: no node of the merged tree is a node of either input. -/
theorem fresh (l r m : INode) (st st' : MSt) (hl : Below st.next l) (hr : Below st.next r)
    (h : mergeNodes codeFlags l r st = .ok m st') : ∀ i ∈ m.ids, i ∉ l.ids ∧ i ∉ r.ids := by
  rw [flags_ok] at h
  have hf := (mergeNodesF_fresh _ l r st m st' (mergeNodes_ok h)).2
  intro i hi
  have := hf i hi
  exact ⟨fun h' => by have := hl i h'; omega, fun h' => by have := hr i h'; omega⟩

/-- FULL.  MergeNodes never modifies its inputs: every `AddNode` / `SetNodes` of the call goes to
    an object created by the call. -/
theorem inputs_unchanged (l r m : INode) (st st' : MSt) (hl : Below st.next l)
    (hr : Below st.next r) (h : mergeNodes codeFlags l r st = .ok m st') :
    ∀ w ∈ st'.writes, w ∈ st.writes ∨ (w ∉ l.ids ∧ w ∉ r.ids) := by
  rw [flags_ok] at h
  have hf := (mergeNodesF_fresh _ l r st m st' (mergeNodes_ok h)).1
  intro w hw
  rcases hf.2 w hw with h' | h'
  · exact Or.inl h'
  · exact Or.inr ⟨fun h'' => by have := hl w h''; omega, fun h'' => by have := hr w h''; omega⟩

/-- FULL.  Later changes to the result never show through: a mutation (`AddNode`, `DeleteNode`,
    `SetNodes`) of any object of the merged tree leaves both inputs exactly as they were. -/
theorem result_mutation_frame (l r m : INode) (st st' : MSt) (hl : Below st.next l)
    (hr : Below st.next r) (h : mergeNodes codeFlags l r st = .ok m st') (mu : Mut)
    (ht : mu.target ∈ m.ids) : applyMut mu l = l ∧ applyMut mu r = r := by
  have := fresh l r m st st' hl hr h _ ht
  exact ⟨applyMut_of_not_mem mu l this.1, applyMut_of_not_mem mu r this.2⟩

/-- FULL.  MergeNodeSlices, for every merge function that itself returns new nodes and writes to
    new objects only (`FreshFn`: the equality merge function — `eqMergeF_fresh` — and the never
    merging one — `neverMerge_fresh`): every node of the result is new, every write goes to a new
    object, and a mutation of the result leaves every input node as it was. -/
theorem fresh_slices (f : MergeFn) (hf : FreshFn f) (l r : List INode) (st : MSt)
    (hl : ∀ x ∈ l ++ r, Below st.next x) :
    (∀ e ∈ (mergeNodeSlicesP codeFlags f l r st).1, ∀ i ∈ e.node.ids, ∀ x ∈ l ++ r, i ∉ x.ids) ∧
    (∀ w ∈ (mergeNodeSlicesP codeFlags f l r st).2.writes,
      w ∈ st.writes ∨ ∀ x ∈ l ++ r, w ∉ x.ids) ∧
    (∀ e ∈ (mergeNodeSlicesP codeFlags f l r st).1, ∀ mu : Mut, mu.target ∈ e.node.ids →
      ∀ x ∈ l ++ r, applyMut mu x = x) := by
  rw [flags_ok]
  have h := mergeNodeSlicesP_fresh ⟨true, true, true⟩ rfl rfl f hf l r st
  have h1 : ∀ e ∈ (mergeNodeSlicesP ⟨true, true, true⟩ f l r st).1, ∀ i ∈ e.node.ids,
      ∀ x ∈ l ++ r, i ∉ x.ids := by
    intro e he i hi x hx hix
    have := (h.2 e he i hi).1
    have := hl x hx i hix
    omega
  refine ⟨h1, ?_, ?_⟩
  · intro w hw
    rcases h.1.2 w hw with h' | h'
    · exact Or.inl h'
    · exact Or.inr fun x hx hwx => by have := hl x hx w hwx; omega
  · intro e he mu hmu x hx
    exact applyMut_of_not_mem mu x (h1 e he _ hmu x hx)

/-- the equality merge function at any nesting budget, and the never-merging function, satisfy
    the contract of `fresh_slices`, and so does the always-merging function of the harness -/
theorem eq_and_never_fresh (fuel : Nat) :
    FreshFn (eqMergeF codeFlags fuel) ∧ FreshFn neverMerge ∧ FreshFn alwaysMerge := by
  rw [flags_ok]; exact ⟨eqMergeF_fresh fuel, neverMerge_fresh, alwaysMerge_fresh⟩

/-- FULL.  Nothing invented, with ancestry.  Every node of the merged tree — taken together with
    the tags of its ancestors from the root down — is a node of the left or of the right input
    with the same tag, value, pointer and the same ancestor tags (`FromPaths`, for every common
    prefix).  Ancestor *tags*, because a merged node keeps the left node's value while nodes of
    the right input hang below it when the two are Equal; Equal nodes have the same tag
    (`equalsShallow_tag`, read off the regenerated kind table) and MergeNodes checks the root
    tags itself. -/
theorem nothing_invented_paths (fl : MergeFlags) (l r m : INode) (st st' : MSt)
    (h : mergeNodes fl l r st = .ok m st') : FromPaths [l.erase, r.erase] m.erase :=
  mergeNodesF_paths fl _ l r st m st' (mergeNodes_ok h)

/-- FULL.  The same for MergeNodeSlices with the equality merge function (any nesting budget) or
    the never-merging function. -/
theorem nothing_invented_paths_slices (fl : MergeFlags) (fuel : Nat) (l r : List INode) (st : MSt) :
    (∀ e ∈ (mergeNodeSlicesP fl (eqMergeF fl fuel) l r st).1,
      FromPaths ((l ++ r).map INode.erase) e.node.erase) ∧
    (∀ e ∈ (mergeNodeSlicesP fl neverMerge l r st).1,
      FromPaths ((l ++ r).map INode.erase) e.node.erase) := by
  have key : ∀ f, PathFn f → ∀ e ∈ (mergeNodeSlicesP fl f l r st).1,
      FromPaths ((l ++ r).map INode.erase) e.node.erase := fun f hf e he =>
    mergeNodeSlices_paths fl f hf l r st e.node (List.mem_map_of_mem he)
  exact ⟨key _ (eqMergeF_paths fl fuel), key _ neverMerge_paths⟩

/-- FULL.  MergeNodes: every node of the merged tree carries the tag, value and pointer of a
    node of the same depth of the left or the right input (the root: of the left root). -/
theorem nothing_invented (fl : MergeFlags) (l r m : INode) (st st' : MSt)
    (h : mergeNodes fl l r st = .ok m st') :
    FromNodes [l.erase, r.erase] m.erase ∧ sameHdr m.erase l.erase :=
  ⟨(nothing_invented_paths fl l r m st st' h).fromNodes,
    mergeNodesF_root (mergeNodes_ok h)⟩

/-- FULL.  MergeNodeSlices with the equality merge function (any nesting budget) or the
    never-merging function: every node of the merged list carries the tag, value and pointer of a
    node of the same depth of one of the two lists. -/
theorem nothing_invented_slices (fl : MergeFlags) (fuel : Nat) (l r : List INode) (st : MSt) :
    (∀ e ∈ (mergeNodeSlicesP fl (eqMergeF fl fuel) l r st).1,
      FromNodes ((l ++ r).map INode.erase) e.node.erase) ∧
    (∀ e ∈ (mergeNodeSlicesP fl neverMerge l r st).1,
      FromNodes ((l ++ r).map INode.erase) e.node.erase) :=
  ⟨fun e he => ((nothing_invented_paths_slices fl fuel l r st).1 e he).fromNodes,
    fun e he => ((nothing_invented_paths_slices fl fuel l r st).2 e he).fromNodes⟩

/-- FULL (corollary).  If every HUSB / WIFE / CHIL node of the inputs lies below a FAM node, so
    does every such node of the merged tree / of every element of the merged list; a list of such
    records satisfies the role-order condition of `C01.Legal` (`Dec.rolesOKF false`) in any
    order. -/
theorem roles_below_fam (fl : MergeFlags) :
    (∀ (l r m : INode) (st st' : MSt), mergeNodes fl l r st = .ok m st' →
      rolesBelowFam false l.erase = true → rolesBelowFam false r.erase = true →
      rolesBelowFam false m.erase = true) ∧
    (∀ (fuel : Nat) (l r : List INode) (st : MSt),
      (∀ x ∈ l ++ r, rolesBelowFam false x.erase = true) →
      ∀ e ∈ (mergeNodeSlicesP fl (eqMergeF fl fuel) l r st).1,
        rolesBelowFam false e.node.erase = true) ∧
    (∀ f : List Node, (∀ k ∈ f, rolesBelowFam false k = true) → Dec.rolesOKF false f = true) := by
  refine ⟨?_, ?_, rolesOKF_of_records⟩
  · intro l r m st st' h hl hr
    apply rolesBelowFam_fromPaths (nothing_invented_paths fl l r m st st' h)
    intro x hx
    simp only [List.mem_cons, List.not_mem_nil, or_false] at hx
    rcases hx with rfl | rfl
    · exact hl
    · exact hr
  · intro fuel l r st hx e he
    apply rolesBelowFam_fromPaths ((nothing_invented_paths_slices fl fuel l r st).1 e he)
    intro x hx'
    obtain ⟨n, hn, rfl⟩ := List.mem_map.mp hx'
    exact hx n hn

/- The full statement
     `mergeNodes fl l r st = .ok m st' →
        ∀ k ∈ l.erase.kids ++ r.erase.kids, ∃ k' ∈ m.erase.kids, covers k k' = true`
   is false of the code (`nothing_lost_counterexample`): it needs `Equals` to be transitive on the
   nodes involved, which fails for constraint-bearing DATE values, and to be independent of the
   children, which fails for RESI / EVEN. -/

/-- PARTIAL (guard).  MergeNodes: every node of either input is represented in the merged tree by
    an Equal node under an Equal parent, all the way down.  The merged root carries the left
    root's tag, value and pointer (MergeNodes compares only the tags of the two roots); when the
    roots are Equal the merged root represents the right root as well.
    Guard: `wideOK D` — every DATE value in `D`, every RESI / EVEN node has a DATE child (their
    Equals then goes by the dates; nodes with several dates are admitted) — and `dateTrans D`.
    The boundary is given by the two counterexamples below: a non-transitive date relation, and a
    dateless RESI whose Equals compares its children deeply. -/
theorem nothing_lost_wide (D : List Str) (hD : dateTrans D = true) (fl : MergeFlags)
    (l r m : INode) (st st' : MSt) (hl : wideOK D l.erase = true) (hr : wideOK D r.erase = true)
    (h : mergeNodes fl l r st = .ok m st') :
    (∀ k ∈ l.erase.kids ++ r.erase.kids, ∃ k' ∈ m.erase.kids, covers k k' = true) ∧
    covers l.erase m.erase = true ∧
    (equalsShallow l.erase r.erase = true → covers r.erase m.erase = true) ∧
    wideOK D m.erase = true := by
  have hmt := mergeNodesF_covers hD fl _ l r st m st' (mergeNodes_ok h) hl hr
  exact ⟨hmt.kids, hmt.left hl, fun hE => hmt.right hD hl hr hE, hmt.ok⟩

/-- PARTIAL (guard).  The same under the narrower guard `plainOK D` (no RESI / EVEN node at all),
    the form C10 `facts_of_both` is composed from. -/
theorem nothing_lost_partial (D : List Str) (hD : dateTrans D = true) (fl : MergeFlags)
    (l r m : INode) (st st' : MSt) (hl : plainOK D l.erase = true) (hr : plainOK D r.erase = true)
    (h : mergeNodes fl l r st = .ok m st') :
    (∀ k ∈ l.erase.kids ++ r.erase.kids, ∃ k' ∈ m.erase.kids, covers k k' = true) ∧
    covers l.erase m.erase = true ∧
    (equalsShallow l.erase r.erase = true → covers r.erase m.erase = true) := by
  have := nothing_lost_wide D hD fl l r m st st' (plainOK_wide _ hl) (plainOK_wide _ hr) h
  exact ⟨this.1, this.2.1, this.2.2.1⟩

/-- PARTIAL (guard).  MergeNodeSlices with the equality merge function (any nesting budget) or
    the never-merging function: every element of either list is represented by an element of the
    merged list.  Guard as for `nothing_lost_wide`. -/
theorem nothing_lost_slices_wide (D : List Str) (hD : dateTrans D = true) (fl : MergeFlags)
    (fuel : Nat) (l r : List INode) (st : MSt) (hl : ∀ x ∈ l ++ r, wideOK D x.erase = true) :
    (∀ x ∈ l ++ r, ∃ e ∈ (mergeNodeSlicesP fl (eqMergeF fl fuel) l r st).1,
      covers x.erase e.node.erase = true) ∧
    (∀ x ∈ l ++ r, ∃ e ∈ (mergeNodeSlicesP fl neverMerge l r st).1,
      covers x.erase e.node.erase = true) := by
  have key : ∀ f, CovFn D f → ∀ x ∈ l ++ r, ∃ e ∈ (mergeNodeSlicesP fl f l r st).1,
      covers x.erase e.node.erase = true := by
    intro f hf x hx
    obtain ⟨n, hn, hc⟩ := (mergeNodeSlices_covers fl f hf l r st hl).2 x hx
    obtain ⟨e, he, rfl⟩ := List.mem_map.mp hn
    exact ⟨e, he, hc⟩
  exact ⟨key _ (eqMergeF_cov hD fl fuel), key _ (neverMerge_cov D)⟩

/-- PARTIAL (guard).  The same under the narrower guard `plainOK D`. -/
theorem nothing_lost_slices_partial (D : List Str) (hD : dateTrans D = true) (fl : MergeFlags)
    (fuel : Nat) (l r : List INode) (st : MSt) (hl : ∀ x ∈ l ++ r, plainOK D x.erase = true) :
    (∀ x ∈ l ++ r, ∃ e ∈ (mergeNodeSlicesP fl (eqMergeF fl fuel) l r st).1,
      covers x.erase e.node.erase = true) ∧
    (∀ x ∈ l ++ r, ∃ e ∈ (mergeNodeSlicesP fl neverMerge l r st).1,
      covers x.erase e.node.erase = true) :=
  nothing_lost_slices_wide D hD fl fuel l r st (fun x hx => plainOK_wide _ (hl x hx))

/-- PARTIAL (guard: every RESI / EVEN node has a DATE child).  Merging a tree with itself — the
    same object or any tree of the same value — adds nothing as long as no two of its sibling
    nodes are Equal to each other (`noEqSib`): the call cannot fail or run out of budget, and what
    it returns is the tree with its children re-ordered (`Reorder`: same nodes, same parents;
    MergeNodeSlices moves merged nodes to the end, so `encode (merge t t) = encode t` of the
    design is false as stated).  `wideOK D` is used for any `D` containing the DATE values of the
    tree; DATE equality need not be transitive here. -/
theorem self_merge_wide (D : List Str) (l r : INode) (st : MSt) (heq : l.erase = r.erase)
    (hne : noEqSib l.erase = true) (hok : wideOK D l.erase = true) (hst : st.oof = false) :
    mergeNodes codeFlags l r st = .panic ∨
    ∃ m st', mergeNodes codeFlags l r st = .ok m st' ∧ Reorder l.erase m.erase := by
  rw [flags_ok]
  have hh : l.erase.hgt ≤ mergeFuel [l] [r] := by
    rw [← INode.height_erase]
    exact heightList_le.mp (mergeFuel_ge [l] [r]).1 l List.mem_cons_self
  obtain ⟨m, st', hm, hre⟩ := mergeNodesF_self (D := D) (mergeFuel [l] [r]) l r st heq hh hne hok
  rw [mergeNodes_of_ok hst hm]
  by_cases hp : st'.panicked = true
  · left; rw [if_pos hp]
  · right
    exact ⟨m, st', if_neg hp, hre⟩

/-- PARTIAL (guard).  The same under the narrower guard `plainOK D`. -/
theorem self_merge (D : List Str) (l r : INode) (st : MSt) (heq : l.erase = r.erase)
    (hne : noEqSib l.erase = true) (hok : plainOK D l.erase = true) (hst : st.oof = false) :
    mergeNodes codeFlags l r st = .panic ∨
    ∃ m st', mergeNodes codeFlags l r st = .ok m st' ∧ Reorder l.erase m.erase :=
  self_merge_wide D l r st heq hne (plainOK_wide _ hok) hst

/-! ## counterexample to the unguarded statement (known finding
    C09-date-equality-not-an-equivalence), replayed on the implementation by the harness -/

private def nd (t v : String) (ks : List Node) : Node := .mk (lit t) (lit v) [] ks
/-- `0 X / 1 N / 2 DATE 5 Sep 1943` -/
def lostLeft : Node := nd "X" "" [nd "N" "" [nd "DATE" "5 Sep 1943" []]]
/-- `0 X / 1 N / 2 DATE Bef. Oct 1943 / 1 N / 2 DATE 3 Sep 1943` -/
def lostRight : Node :=
  nd "X" "" [nd "N" "" [nd "DATE" "Bef. Oct 1943" []], nd "N" "" [nd "DATE" "3 Sep 1943" []]]

/-- the merged tree as the model computes it -/
def lostMerged : Option Node :=
  match mergeNodes codeFlags (labelNode 0 lostLeft).1 (labelNode 4 lostRight).1 { next := 9, writes := [], oof := false } with
  | .ok m _ => some m.erase
  | _ => none

/-- COUNTEREXAMPLE.  `5 Sep 1943` is merged into `Bef. Oct 1943` (Equal), which is then merged
    into `3 Sep 1943` (Equal to `Bef. Oct 1943`, not to `5 Sep 1943`): the merged tree is
    `X{N{DATE 3 Sep 1943}}` and the left input's date is represented by nothing. -/
theorem nothing_lost_counterexample :
    lostMerged.any (· == nd "X" "" [nd "N" "" [nd "DATE" "3 Sep 1943" []]]) = true ∧
    coversKids lostLeft.kids [nd "N" "" [nd "DATE" "3 Sep 1943" []]] = false := by
  constructor <;> decide +kernel

/-- the witness is excluded by the guard, as it must be -/
example : dateTrans [lit "5 Sep 1943", lit "Bef. Oct 1943", lit "3 Sep 1943"] = false := by
  decide +kernel

/-- `0 RESI home / 1 PLAC Wales / 1 PLAC Wales / 2 MAP / 3 LATI N1` -/
def resiWitness : Node :=
  nd "RESI" "home" [nd "PLAC" "Wales" [], nd "PLAC" "Wales" [nd "MAP" "" [nd "LATI" "N1" []]]]

/-- COUNTEREXAMPLE (why the guard excludes RESI / EVEN; known finding
    C09-equal-siblings-below-children-dependent-equality).  Merging the tree with itself folds the
    MAP of the second PLAC into the first PLAC as well (the two PLAC nodes are Equal); the merged
    RESI has two `PLAC Wales{MAP}` children and is not Equal to the RESI it was made from, because
    `ResidenceNode.Equals` compares the PLAC children deeply. -/
theorem nothing_lost_counterexample_resi :
    equalsShallow resiWitness resiWitness = true ∧
    (match mergeNodes codeFlags (labelNode 0 resiWitness).1 (labelNode 5 resiWitness).1 { next := 10, writes := [], oof := false } with
      | .ok m _ => m.erase.size == 7 && !equalsShallow m.erase resiWitness && !equalsShallow resiWitness m.erase
      | _ => false) = true := by
  constructor <;> decide +kernel

/-! ## non-vacuity (tests on literals) -/

private def exL : Node :=
  nd "INDI" "" [nd "NAME" "A /B/" [], nd "BIRT" "" [nd "DATE" "3 Sep 1943" []], nd "NOTE" "x" []]
private def exR : Node :=
  nd "INDI" "" [nd "BIRT" "" [nd "PLAC" "England" []], nd "NOTE" "y" [], nd "NAME" "A /B/" []]

/-- the guard is satisfiable by a non-trivial pair … -/
example : dateTrans [lit "3 Sep 1943"] = true ∧ plainOK [lit "3 Sep 1943"] exL = true ∧
    plainOK [lit "3 Sep 1943"] exR = true := by decide +kernel

/-- … on which the merge succeeds, merges BIRT and NAME, and appends the unmatched NOTE as a new
    object (ids 8.. are allocated by the call; 0..7 are the inputs) -/
example : (match mergeNodes codeFlags (labelNode 0 exL).1 (labelNode 5 exR).1 { next := 10, writes := [], oof := false } with
      | .ok m _ => m.erase.kids.length == 4 && m.ids.all (10 ≤ ·)
      | _ => false) = true := by decide +kernel
example : Below 10 (labelNode 0 exL).1 ∧ Below 10 (labelNode 5 exR).1 := by
  constructor <;> (unfold Below; decide +kernel)

/-- the wide guard admits RESI / EVEN nodes with DATE children (several, too), rejects the dateless
    RESI of the counterexample, and the narrow guard implies it -/
example : wideOK [lit "3 Sep 1943", lit "1900"]
    (nd "INDI" "" [nd "RESI" "home" [nd "DATE" "3 Sep 1943" [], nd "DATE" "1900" [], nd "PLAC" "x" []],
      nd "EVEN" "" [nd "DATE" "1900" []]]) = true ∧
    wideOK [] resiWitness = false ∧ plainOK [lit "3 Sep 1943"] exL = true ∧
    wideOK [lit "3 Sep 1943"] exL = true := by decide +kernel

/-- self-merge: the hypotheses hold of a non-trivial tree, and the merged tree has its size -/
example : noEqSib exL = true ∧ plainOK [lit "3 Sep 1943"] exL = true := by decide +kernel
example : (match mergeNodes codeFlags (labelNode 0 exL).1 (labelNode 5 exL).1 { next := 10, writes := [], oof := false } with
      | .ok m _ => m.erase.size == exL.size
      | _ => false) = true := by decide +kernel

/-- families: an unmatched HUSB of the right family is created for the merged family (no panic,
    nothing added to the destination), while a family nested below the merged root makes DeepCopy
    start below it: outcome `panic` in the unrepaired code; in the repaired code (`copySeeds`) the
    call returns and has added three empty `@F1@ FAM` records to the destination document (one
    per DeepCopy walk that copies the HUSB) -/
example : (match mergeNodes codeFlags (labelNode 0 (.mk (lit "FAM") [] (lit "F1") [])).1
      (labelNode 1 (.mk (lit "FAM") [] (lit "F1") [nd "HUSB" "@I1@" [nd "NOTE" "a" []]])).1 { next := 4, writes := [], oof := false } with
      | .ok m _ => m.erase.size == 3 && m.ids.all (4 ≤ ·)
      | _ => false) = true := by decide +kernel
example : (match mergeNodes codeFlags
      (labelNode 0 (nd "X" "" [.mk (lit "FAM") [] (lit "F1") [nd "HUSB" "@I1@" []]])).1
      (labelNode 3 (nd "X" "" [.mk (lit "FAM") [] (lit "F1") [nd "HUSB" "@I1@" []]])).1
      { next := 6, writes := [], oof := false, famOf := [(2, 2, lit "F1"), (5, 5, lit "F1")] } with
      | .panic => !copySeeds
      | .ok _ st => copySeeds && st.famAdds == [lit "F1", lit "F1", lit "F1"]
      | _ => false) = true := by decide +kernel

/-- ancestry: role nodes below / not below a FAM node, and a merged family keeps the property -/
example : rolesBelowFam false (.mk (lit "FAM") [] (lit "F1") [nd "HUSB" "@I1@" []]) = true ∧
    rolesBelowFam false (nd "X" "" [nd "HUSB" "@I1@" []]) = false := by decide +kernel
example : (tagPaths [] (nd "X" "" [nd "N" "a" [nd "DATE" "1900" []]])).map (·.1) =
    [[], [lit "X"], [lit "X", lit "N"]] := by decide +kernel

/-- slices: two lists with one Equal pair merge to 3 elements, one of them made of L1 and R0 -/
example : ((mergeNodeSlicesP codeFlags (eqMergeF codeFlags 5)
      (labelList 0 [nd "NOTE" "a" [], nd "NOTE" "b" []]).1
      (labelList 2 [nd "NOTE" "b" [], nd "NOTE" "c" []]).1 { next := 4, writes := [], oof := false }).1.map (·.prov))
    = [[.L 0], [.L 1, .R 0], [.R 1]] := by decide +kernel

end Gedcom.C09

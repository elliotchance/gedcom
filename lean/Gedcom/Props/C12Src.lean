/-
  C12 — the arithmetic of the scores is the arithmetic of the Go source.
  `Generated.SimilaritySrc` is written on every run by harness/extract_similaritysrc.go from the
  go/ast of `WeightedSimilarity`, `(*IndividualNode).Similarity`, `DateRange.Similarity`,
  `(*DateNode).Similarity` and `JaroWinkler`: statement kinds in order, nil guard, threshold
  guards and the returned expression, local definitions inlined.  The obligations fix the
  statement sequence and reject anything outside the fragment; the theorems prove, for all
  operand values, that interpreting the translated expressions over `Rat` is the hand-written
  model of Model/Similarity.lean (about which C12.lean proves bounds, symmetry, identity …).
-/
import Gedcom.Model.Similarity
import Gedcom.Generated.SimilaritySrc
import Gedcom.Lemmas.Basics
namespace Gedcom.C12
open Gedcom.Sim Gedcom.SimSrc

/-- every translated function lies inside the fragment (no `.bad` expression, no statement of an
    unknown kind) and has exactly the statement sequence the model was written against -/
theorem similarity_source_shape :
    Generated.srcWeighted.ok = true ∧ Generated.srcIndividual.ok = true ∧ Generated.srcDateRange.ok = true ∧
    Generated.srcDateNode.ok = true ∧ Generated.srcJaroWinkler.ok = true ∧
    Generated.srcWeighted.shape = ["let:individual", "let:parents", "let:spouses", "let:children", "let:total",
      "guard", "ret"] ∧
    Generated.srcIndividual.shape = ["nil-guard", "let:nameSimilarity", "loop:nameSimilarity",
      "input:leftEstimatedBirthDate,_", "input:rightEstimatedBirthDate,_", "input:birthSimilarity",
      "input:leftEstimatedDeathDate,_", "input:rightEstimatedDeathDate,_", "input:deathSimilarity",
      "let:nameSimilarityRatio", "let:avgBirthDeathSimilarity", "let:inverseRatio", "ret"] ∧
    Generated.srcDateRange.shape = ["input:leftYears", "input:rightYears", "let:yearsApart", "let:similarity", "guard", "ret"] ∧
    Generated.srcDateNode.shape = ["nil-guard", "ret"] ∧
    Generated.srcJaroWinkler.shape = ["input:j", "guard", "input:aLen", "input:bLen", "input:prefixSize",
      "decl:prefixMatch", "loop:prefixMatch", "ret"] := by
  decide +kernel

def envWeighted (s : SurrSim) : Var → Rat
  | .ind => s.individual | .par => s.parents | .spo => s.spouses | .chi => s.children
  | .wInd => s.opts.individualWeight | .wPar => s.opts.parentsWeight
  | .wSpo => s.opts.spousesWeight | .wChi => s.opts.childrenWeight
  | _ => 0

/-- `weightedSimilarity` is the translated `WeightedSimilarity`, for every component and weight -/
theorem weighted_is_the_source (s : SurrSim) :
    weightedSimilarityC s = Generated.srcWeighted.eval (envWeighted s) := by
  unfold weightedSimilarityC
  by_cases h : weightedSimilarity s > 1
  · have : (s.individual * s.opts.individualWeight + s.parents * s.opts.parentsWeight +
        s.spouses * s.opts.spousesWeight + s.children * s.opts.childrenWeight) > 1 := h
    simp [Generated.srcWeighted, Fn.eval, AExp.eval, envWeighted, Guard.fires, Cmp.holds, rat_div_one, h, this]
  · have : ¬ (s.individual * s.opts.individualWeight + s.parents * s.opts.parentsWeight +
        s.spouses * s.opts.spousesWeight + s.children * s.opts.childrenWeight) > 1 := h
    simp [Generated.srcWeighted, Fn.eval, AExp.eval, envWeighted, Guard.fires, Cmp.holds, rat_div_one, this,
      weightedSimilarity]

/-- in exact arithmetic the cut at one never applies when the sum is at most one (which
    `weighted_bounds` proves for valid options and components in [0,1]) -/
theorem weightedC_eq (s : SurrSim) (h : weightedSimilarity s ≤ 1) :
    weightedSimilarityC s = weightedSimilarity s := by
  unfold weightedSimilarityC
  have : ¬ weightedSimilarity s > 1 := Rat.not_lt.mpr h
  simp [this]

def envIndividual (name birth death ratio : Rat) : Var → Rat
  | .name => name | .birth => birth | .death => death | .ratio => ratio | _ => 0

/-- the name/date mix of `indiSimilarity` is the translated return expression of
    `(*IndividualNode).Similarity`, and the score of a missing individual is its nil guard -/
theorem individual_is_the_source (x y : Option Indi) (o : SimOpts) :
    some (individualSimilarity x y o) =
      match x, y with
      | some x, some y => some (Generated.srcIndividual.eval (envIndividual (nameSimilarity x.names y.names o)
          (dateSimilarity x.birth y.birth o.maxYears) (dateSimilarity x.death y.death o.maxYears) o.nameToDateRatio))
      | _, _ => Generated.srcIndividual.nilEval (fun _ => 0) := by
  cases x <;> cases y <;>
    simp [individualSimilarity, indiSimilarity, Generated.srcIndividual, Fn.eval, Fn.nilEval, AExp.eval, envIndividual,
      rat_div_one]

def envDate (l r m : Rat) : Var → Rat
  | .left => l | .right => r | .maxYears => m | _ => 0

/-- `yearsSimilarity` is the translated `DateRange.Similarity`: parabola, `> 1 → 0` cut-off in
    source order, for all year values and every MaxYears -/
theorem date_parabola_is_the_source (l r m : Rat) :
    yearsSimilarity l r m = Generated.srcDateRange.eval (envDate l r m) := by
  unfold yearsSimilarity
  by_cases h : (l - r) / m * ((l - r) / m) > 1
  · simp [Generated.srcDateRange, Fn.eval, Guard.fires, Cmp.holds, AExp.eval, envDate, rat_div_one, h]
  · simp [Generated.srcDateRange, Fn.eval, List.find?, Guard.fires, Cmp.holds, AExp.eval, envDate, rat_div_one, h]

/-- `dateSimilarity` is the translated `(*DateNode).Similarity`: the nil guard (one half), else
    the delegated range similarity -/
theorem date_node_is_the_source (l r : Option DateR) (m : Rat) :
    some (dateSimilarity l r m) =
      match l, r with
      | some l, some r => some (Generated.srcDateNode.eval (fun _ => rangeSimilarity l r m))
      | _, _ => Generated.srcDateNode.nilEval (fun _ => 0) := by
  cases l <;> cases r <;> simp [dateSimilarity, Generated.srcDateNode, Fn.eval, Fn.nilEval, AExp.eval]

def envJW (j boost pm : Rat) : Var → Rat
  | .j => j | .boost => boost | .pm => pm | _ => 0

/-- `jaroWinkler` is the translated `JaroWinkler`: the `j <= boostThreshold` test first, then
    `j + 0.1*prefixMatch*(1.0-j)`, for all strings, thresholds and prefix sizes -/
theorem jaroWinkler_is_the_source (a b : Str) (boost : Rat) (p : Nat) :
    jaroWinkler a b boost p =
      Generated.srcJaroWinkler.eval (envJW (jaro a b) boost (prefixMatches p a b : Rat)) := by
  unfold jaroWinkler
  by_cases h : jaro a b ≤ boost
  · simp [Generated.srcJaroWinkler, Fn.eval, Guard.fires, Cmp.holds, AExp.eval, envJW, h]
  · simp [Generated.srcJaroWinkler, Fn.eval, List.find?, Guard.fires, Cmp.holds, AExp.eval, envJW, rat_div_one, h]

end Gedcom.C12

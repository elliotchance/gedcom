/-
  C10 — accounting, end to end.  `accounting_composed` (Props/C10Compose.lean) is about
  `mergeIndis … (winners …)`; here the statement is made about the function the driver runs for
  the `mergecomposed` requests, `MergeD.mergeComposed`, and about the Boolean `accountedB` the
  driver evaluates on the result of every case.
-/
import Gedcom.Props.C10Compose
namespace Gedcom.C10
open Gedcom.Match Gedcom.MergeD

/-- Persons `Lp`, `Rp` describe the individuals of the two documents
    (same node ids), the scores are any functions of two individuals, `arrival` any order of
    arrival of C11's jobs, C11's guards hold.  If the composed pipeline delivers a document, its
    individuals are — one per comparison, in order — the comparisons of C11's `winners`, every
    individual of either input is accounted for exactly once, and the check the driver runs on
    the result (`accountedB`) says so. -/
theorem accounting_end_to_end (Lp Rp : List Person) (Ld Rd : List INode)
    (hL : Lp.map (·.id) = (indisOf Ld).map INode.id) (hR : Rp.map (·.id) = (indisOf Rd).map INode.id)
    (scoreT scoreF : Nat → Nat → Rat) (prefer minW : Rat)
    (ch : Person → Option Person) (s0 : Sent) (arrival : List Job)
    (hperm : arrival.Perm (jobsFrom ch s0 Lp Rp scoreT scoreF prefer)) (hadm : Admissible Rp ch)
    (hids : IdsOK Lp Rp) (hp : PtrsOK Lp Rp)
    (st st' : MSt) (indis : List (Res × INode)) (others : List INode)
    (h : mergeComposed Lp Rp minW arrival Ld Rd st = .ok indis others st') :
    indis.map (·.1) = winners Lp Rp minW arrival ∧
    (∀ x ∈ (indisOf Ld).map INode.id, leftCount x (indis.map (·.1)) = 1) ∧
    (∀ y ∈ (indisOf Rd).map INode.id, rightCount y (indis.map (·.1)) = 1) ∧
    accountedB (indisOf Ld) (indisOf Rd) indis = true := by
  obtain ⟨s1, hind, _⟩ := mergeDocs_ok h
  obtain ⟨h1, h2, h3⟩ := accounting_composed Lp Rp (indisOf Ld) (indisOf Rd) hL hR scoreT scoreF prefer
    minW ch s0 arrival hperm hadm hids hp st s1 indis hind
  refine ⟨h1, h2, h3, ?_⟩
  simp only [accountedB, Bool.and_eq_true, List.all_eq_true, beq_iff_eq]
  exact ⟨fun x hx => h2 x hx, fun y hy => h3 y hy⟩

end Gedcom.C10

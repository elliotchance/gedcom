/-
  C17 — no dependence on earlier publishes: with the memo keyed by (document, visibility) every
  publish of every history of publishers of one document is given `Living.surnameList` of the
  document and its own visibility, as a fresh process would be.  With the key reduced to the
  document this is false (one of the trial changes kept under `seeded/`).
-/
import Gedcom.Model.PublishHistory
namespace Gedcom.C17
open Gedcom.Living Gedcom.History

/-- the regenerated fact the theorem rests on -/
theorem generated_history_flags_safe : generatedHFlags.cacheKeyedByVisibility = true := by decide

/-- everything that is remembered is what would be collected now -/
def Coherent (fl : Flags) (ps : List Person) (c : Cache) : Prop :=
  ∀ v s, lookup c v = some s → s = surnameList fl ps v

theorem coherent_nil (fl : Flags) (ps : List Person) : Coherent fl ps [] := by
  intro v s h; simp [lookup] at h

theorem coherent_cons {fl : Flags} {ps : List Person} {c : Cache} (hc : Coherent fl ps c) (v : Vis) :
    Coherent fl ps ((v, surnameList fl ps v) :: c) := by
  intro v' s' h'
  simp only [lookup] at h'
  split at h'
  · rename_i heq
    obtain rfl : v = v' := by simpa using heq
    exact (Option.some.inj h').symm
  · exact hc v' s' h'

theorem getSurnames_spec (hf : HFlags) (hk : hf.cacheKeyedByVisibility = true) (fl : Flags) (ps : List Person)
    (c : Cache) (hc : Coherent fl ps c) (v : Vis) :
    (getSurnames hf fl ps c v).2 = surnameList fl ps v ∧ Coherent fl ps (getSurnames hf fl ps c v).1 := by
  unfold getSurnames
  have hkey : key hf v = v := by simp [key, hk]
  rw [hkey]
  cases hl : lookup c v with
  | some s => exact ⟨hc v s hl, hc⟩
  | none => exact ⟨rfl, coherent_cons hc v⟩

/-- the surname sets a history must produce: one per publish, each of its own visibility -/
def expected (fl : Flags) (ps : List Person) : List Op → List (List Str)
  | [] => []
  | .new :: ops => expected fl ps ops
  | .pub v :: ops => surnameList fl ps v :: expected fl ps ops

/-- **No dependence on earlier publishes.**  For every history of publishers and publishes on one
    document, started from any coherent memo, each publish is given exactly
    `surnameList fl ps v` for its own visibility `v`. -/
theorem history_independent (hf : HFlags) (hk : hf.cacheKeyedByVisibility = true) (fl : Flags) (ps : List Person)
    (ops : List Op) (c : Cache) (hc : Coherent fl ps c) :
    run hf fl ps c ops = expected fl ps ops := by
  induction ops generalizing c with
  | nil => rfl
  | cons op ops ih =>
    cases op with
    | new =>
      simp only [run, step, expected]
      apply ih
      split
      · exact coherent_nil fl ps
      · exact hc
    | pub v =>
      have h := getSurnames_spec hf hk fl ps c hc v
      simp only [run, step, expected, h.1]
      rw [ih _ h.2]

theorem expected_append (fl : Flags) (ps : List Person) (a b : List Op) :
    expected fl ps (a ++ b) = expected fl ps a ++ expected fl ps b := by
  induction a with
  | nil => rfl
  | cons op a ih => cases op <;> simp [expected, ih]

theorem fresh_eq (hf : HFlags) (hk : hf.cacheKeyedByVisibility = true) (fl : Flags) (ps : List Person) (v : Vis) :
    fresh hf fl ps v = [surnameList fl ps v] :=
  history_independent hf hk fl ps _ [] (coherent_nil fl ps)

/-- … in particular what a fresh process publishes -/
theorem history_matches_fresh (hf : HFlags) (hk : hf.cacheKeyedByVisibility = true) (fl : Flags) (ps : List Person)
    (pre : List Op) (v : Vis) :
    run hf fl ps [] (pre ++ [.pub v]) = expected fl ps pre ++ fresh hf fl ps v := by
  rw [history_independent hf hk fl ps _ [] (coherent_nil fl ps), fresh_eq hf hk, expected_append]
  rfl

/-- hence a hide-mode publish anywhere in a history hands out the same surnames for two lists of people
    whose hide-mode `surnameList`s agree (`hs`: `surnameList_hidden_independent`); `h` is not used -/
theorem history_hide_independent (fl : Flags) (h : fl.surnamesRespectVisibility = true)
    (hf : HFlags) (hk : hf.cacheKeyedByVisibility = true) (ps ps' : List Person)
    (hs : surnameList fl ps .hide = surnameList fl ps' .hide) (pre : List Op) :
    (run hf fl ps [] (pre ++ [.pub .hide])).getLast? = (run hf fl ps' [] (pre ++ [.pub .hide])).getLast? := by
  have _ := h
  rw [history_matches_fresh hf hk fl ps pre .hide, history_matches_fresh hf hk fl ps' pre .hide,
    fresh_eq hf hk, fresh_eq hf hk, hs, List.getLast?_concat, List.getLast?_concat]

def hLiv : Person := ⟨⟨true, .female⟩, { (default : Priv) with surname := [76] }⟩
def hDead : Person := ⟨⟨false, .male⟩, { (default : Priv) with surname := [68] }⟩

/-- With the memo keyed by the document alone, two publishers constructed up front and the show
    site published first hand the living person's surname to the hide site. -/
theorem history_leak_counterexample :
    run ⟨false, true⟩ ⟨true, true, true⟩ [hLiv, hDead] [] [.new, .new, .pub .show, .pub .hide] = [[[76], [68]], [[76], [68]]] ∧
    run ⟨true, true⟩ ⟨true, true, true⟩ [hLiv, hDead] [] [.new, .new, .pub .show, .pub .hide] = [[[76], [68]], [[68]]] := by
  decide +kernel

/-- … while publishers used strictly one after the other hide it even then (why single publishes
    stay right under that change) -/
example : run ⟨false, true⟩ ⟨true, true, true⟩ [hLiv, hDead] [] [.new, .pub .show, .new, .pub .hide] = [[[76], [68]], [[68]]] := by
  decide +kernel

end Gedcom.C17

/-
  C03 — Decoding never crashes: any input yields a document or an error.
  Property theorems (with the lemmas that serve only them), about `Dec.decode` (the byte-level
  model the driver executes and the correspondence ties to `Decoder.Decode` on arbitrary bytes ×
  both options).
  Totality and termination are Lean's acceptance of `decode` as a total function
  (structural recursion over the line list; no fuel).
-/
import Gedcom.Model.Decoder
import Gedcom.Generated.DecodeShape
import Gedcom.Generated.ReadLineProgram
import Gedcom.Lemmas.ReadLine
import Gedcom.Lemmas.LineAct
namespace Gedcom.C03
open Gedcom Gedcom.Dec

theorem run_stops (o : Opts) (st : St) (k : Nat) (ls : List Str) (out : Outcome)
    (h : run o st k ls = .inl out) :
    ∃ pre l post st', ls = pre ++ l :: post ∧ run o st k pre = .inr st' ∧
      ((step o st' l = .error ∧ out = .error (k + pre.length)) ∨
        ∃ c, step o st' l = .panic c ∧ out = .panic c) := by
  induction ls generalizing st k with
  | nil => cases h
  | cons l ls ih =>
    rw [run] at h
    cases hs : step o st l with
    | next s' =>
      rw [hs] at h
      obtain ⟨pre, l', post, st', h1, h2, h3⟩ := ih s' (k + 1) h
      refine ⟨l :: pre, l', post, st', by rw [h1]; rfl, by rw [run, hs]; exact h2, ?_⟩
      rwa [List.length_cons, Nat.add_comm pre.length 1, ← Nat.add_assoc]
    | error =>
      rw [hs] at h
      cases h
      exact ⟨[], l, ls, st, rfl, rfl, Or.inl ⟨hs, rfl⟩⟩
    | panic c =>
      rw [hs] at h
      cases h
      exact ⟨[], l, ls, st, rfl, rfl, Or.inr ⟨c, hs, rfl⟩⟩

theorem decode_stops (o : Opts) (s : Str) (out : Outcome) (h : decode o s = out)
    (hne : ∀ d, out ≠ .ok d) : run o ⟨[], [], false⟩ 1 (splitLines (stripBOM s).2) = .inl out := by
  rw [decode_eq] at h
  split at h
  · rename_i out' hrun; rw [hrun, h]
  · exact absurd h.symm (hne _)

theorem step_panic {o : Opts} {st : St} {l : Str} {c : PanicClass} (h : step o st l = .panic c) :
    ∃ pl, parseLine l = some pl ∧ pl.level ≠ 0 ∧ st.stack.length ≤ pl.level - 1 ∧
      o.allowInvalidIndents = false := by
  rw [step_act] at h
  have ha := lineAct_spec o st.seenFam st.stack.length l
  generalize lineAct o st.seenFam st.stack.length l = a at ha h
  cases ha with
  | panic pl hp hd hi => exact ⟨pl, hp, by omega, by omega, hi⟩
  | _ => cases h

/-- **Where the tolerated panic comes from.** When decoding panics there is a first line at which
    it does; every line before it was consumed without error, and that line is a well-formed
    GEDCOM line (inside the line grammar, not a family-role line before any family) whose level
    is more than one deeper than the number of open levels, read while invalid indents are not
    allowed.  Nothing else — no byte, no blank or malformed line, no option — makes the decoder
    panic. -/
theorem panic_line_cause (o : Opts) (s : Str) (c : PanicClass) (h : decode o s = .panic c) :
    ∃ pre l post st pl, splitLines (stripBOM s).2 = pre ++ l :: post ∧
      run o ⟨[], [], false⟩ 1 pre = .inr st ∧
      parseLine l = some pl ∧ pl.level ≠ 0 ∧ st.stack.length ≤ pl.level - 1 ∧
      o.allowInvalidIndents = false := by
  obtain ⟨pre, l, post, st, h1, h2, ⟨_, h3⟩ | ⟨c', h3, _⟩⟩ :=
    run_stops o _ 1 _ _ (decode_stops o s _ h (fun _ => Outcome.noConfusion))
  · cases h3
  · obtain ⟨pl, hpl⟩ := step_panic h3
    exact ⟨pre, l, post, st, pl, h1, h2, hpl⟩

/-- **No crash.** For every byte string and every option combination the decoder returns a
    document, an error, or the documented "indent is too large" panic — and that panic only
    while invalid indents are not allowed. -/
theorem no_unexpected_panic (o : Opts) (s : Str) (c : PanicClass) (h : decode o s = .panic c) :
    c = .indentTooLarge ∧ o.allowInvalidIndents = false := by
  obtain ⟨_, _, _, _, _, _, _, _, _, _, hi⟩ := panic_line_cause o s c h
  exact ⟨by cases c; rfl, hi⟩

/-- with `AllowInvalidIndents` decoding never panics at all -/
theorem lenient_never_panics (o : Opts) (s : Str) (h : o.allowInvalidIndents = true) (c : PanicClass) :
    decode o s ≠ .panic c := by
  intro hp
  have := (no_unexpected_panic o s c hp).2
  rw [h] at this; cases this

/-- **The error names the offending line.** When decoding fails with `line n`, `n` is the
    1-based number (counting as the code counts: every CR and every LF ends a line) of the
    first line at which the loop fails; all lines before it were consumed without error. -/
theorem error_names_line (o : Opts) (s : Str) (n : Nat) (h : decode o s = .error n) :
    ∃ pre l post st, splitLines (stripBOM s).2 = pre ++ l :: post ∧ n = pre.length + 1 ∧
      run o ⟨[], [], false⟩ 1 pre = .inr st ∧ step o st l = .error := by
  obtain ⟨pre, l, post, st, h1, h2, ⟨h3, hn⟩ | ⟨_, _, h3⟩⟩ :=
    run_stops o _ 1 _ _ (decode_stops o s _ h (fun _ => Outcome.noConfusion))
  · cases hn
    exact ⟨pre, l, post, st, h1, Nat.add_comm 1 _, h2, h3⟩
  · cases h3

/-- what makes a line the offending one: it is not blank and either is outside the line
    grammar (or is a HUSB/WIFE/CHIL line before any family) while it cannot continue a previous
    value, or it is an indented line with no open node at all -/
theorem error_line_cause (o : Opts) (st : St) (l : Str) (h : step o st l = .error) :
    l ≠ [] ∧
    (((parseLine l = none ∨ ∃ pl, parseLine l = some pl ∧ isRoleTag pl.tag = true ∧ st.seenFam = false) ∧
        (o.allowMultiLine = false ∨ st.stack = [])) ∨
     (∃ pl, parseLine l = some pl ∧ pl.level ≠ 0 ∧ st.stack = [] ∧ o.allowInvalidIndents = true)) := by
  rw [step_act] at h
  have ha := lineAct_spec o st.seenFam st.stack.length l
  generalize lineAct o st.seenFam st.stack.length l = a at ha h
  cases ha with
  | reject hne hwhy hc => exact ⟨hne, Or.inl ⟨hwhy, hc.imp_right List.eq_nil_of_length_eq_zero⟩⟩
  | orphan pl hp h0 he hi =>
    exact ⟨fun e => (by subst e; cases hp), Or.inr ⟨pl, hp, h0, List.eq_nil_of_length_eq_zero he, hi⟩⟩
  | _ => cases h

theorem run_ok_steps (o : Opts) (st st' : St) (k : Nat) (ls : List Str)
    (h : run o st k ls = .inr st') :
    ∀ pre l post, ls = pre ++ l :: post → ∃ s1 s2, run o st k pre = .inr s1 ∧ step o s1 l = .next s2 := by
  induction ls generalizing st k with
  | nil => intro pre l post hls; simp at hls
  | cons x xs ih =>
    intro pre l post hls
    rw [run] at h
    cases hs : step o st x with
    | next s1 =>
      rw [hs] at h
      cases pre with
      | nil =>
        obtain ⟨rfl, _⟩ := List.cons.inj hls
        exact ⟨st, s1, rfl, hs⟩
      | cons p ps =>
        obtain ⟨rfl, hxs⟩ := List.cons.inj hls
        obtain ⟨a, b, h1, h2⟩ := ih s1 (k + 1) h ps l post hxs
        exact ⟨a, b, by rw [run, hs]; exact h1, h2⟩
    | error => rw [hs] at h; cases h
    | panic c => rw [hs] at h; cases h

/-- **A document is returned exactly when every line is consumed.** `decode` answers `.ok`
    if and only if no line of the input makes the loop fail: the three outcome classes are
    decided line by line, in order, and nothing after the last line can fail. -/
theorem ok_iff_every_line_consumed (o : Opts) (s : Str) :
    (∃ d, decode o s = .ok d) ↔
    ∃ st, run o ⟨[], [], false⟩ 1 (splitLines (stripBOM s).2) = .inr st := by
  rw [decode_eq]
  cases hrun : run o ⟨[], [], false⟩ 1 (splitLines (stripBOM s).2) with
  | inl out =>
    simp only [reduceCtorEq, exists_false, iff_false, not_exists]
    intro d hd
    subst hd
    obtain ⟨_, _, _, _, _, _, ⟨_, h⟩ | ⟨_, _, h⟩⟩ := run_stops o _ _ _ _ hrun <;> cases h
  | inr st => simp

/-- **Obligation on the regenerated control skeleton of the decoder.** The loop of
    `Decoder.Decode`, `parseLine` and `consumeOptionalBOM` still have, in source order,
    exactly the conditions (and branch exits: return / continue / break / panic) that the model's
    `step`, `place`, `parseLine` and `stripBOM` were written from (`readLine` is translated:
    `lines_are_the_source_readLine` below).  This pins *where*
    the decoder can return an error, continue a previous value or panic; what each branch computes
    is tied by the correspondence.  decoder.go starts no goroutine, uses no channel and defers no
    call (the model's loop is sequential; a producer/consumer read-ahead would add exits the model
    does not have).  A rewritten loop breaks this obligation and the run then
    searches for a failing input with every stream. -/
theorem decode_source_shape :
    Generated.conditionsOfDecode =
      ["for !finished",
       "if err != nil",
       "if err != io.EOF => return",
       "if line == \"\" => continue",
       "if dec.AllowMultiLine && previousNode != nil",
       "if err != nil => return",
       "if dec.AllowMultiLine && previousNode != nil => continue",
       "if f, ok := node.(*FamilyNode); ok",
       "if indent == 0 => continue",
       "if indent-1 >= len(indents)",
       "if dec.AllowInvalidIndents && len(indents) > 0",
       "if dec.AllowInvalidIndents => return",
       "else of dec.AllowInvalidIndents => panic",
       "case indent >= len(indents)",
       "case indent < len(indents)-1",
       "default"] ∧
    Generated.conditionsOfParseLine =
      ["if len(parts) == 0 => return",
       "if parts[2] != \"\"",
       "case TagChild, TagHusband, TagWife",
       "if family == nil => return"] ∧
    Generated.conditionsOfConsumeOptionalBOM = ["if hasBOM"] ∧
    Generated.decoderConcurrency = [] := ⟨rfl, rfl, rfl, rfl⟩

/-- **The line reader is the source's.** `Generated.readLineProgram` is translated on every run,
    clause by clause, from the byte loop of `Decoder.readLine` (error check, stop test, append;
    `if … { break }` and `switch { case …: return }` spellings alike).  It has the understood
    shape, its stop bytes are LF and CR, and calling it until the reader reports the end of the
    input — as the `Decode` loop does, processing the last, unterminated line too — yields
    exactly the lines `splitLines` gives the model, for every byte string. -/
theorem lines_are_the_source_readLine (s : Str) :
    ReadLine.stops Generated.readLineProgram = some [LF, CR] ∧
    ∀ bs, ReadLine.stops Generated.readLineProgram = some bs →
      ReadLine.allLines bs (s.length + 1) s = splitLines s := by
  have h : ReadLine.stops Generated.readLineProgram = some [LF, CR] := by decide
  refine ⟨h, ?_⟩
  intro bs hbs
  rw [h] at hbs
  cases hbs
  exact ReadLine.allLines_eq_go (s.length + 1) s (by omega)

/-! Non-vacuity (a test on a literal): the tolerated panic occurs. -/
example : decode ⟨false, false⟩ [49, 32, 78] = .panic .indentTooLarge := rfl

end Gedcom.C03

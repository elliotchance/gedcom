/-
  C14 — totality of the root-package partial operations modelled in Model/Totality.lean,
  and the obligations on the regenerated table of partial operations (Generated/PartialOps.lean).
-/
import Gedcom.Model.Totality
import Gedcom.Model.PartialOpsTable
import Gedcom.Props.C14
namespace Gedcom.C14
open Gedcom.Totality

theorem idx_ok_of_lt {α} (op : Op) (xs : List α) (i : Nat) (h : i < xs.length) :
    idx op xs (i : Int) = .ok xs[i] := by
  simp only [idx, Int.not_lt.mpr (Int.natCast_nonneg i), if_false, Int.toNat_natCast, List.getElem?_eq_getElem h]

theorem sliceTo_ok {α} (op : Op) (xs : List α) (n : Nat) (h : n ≤ xs.length) :
    sliceTo op xs (n : Int) = .ok (xs.take n) := by
  unfold sliceTo
  rw [if_pos ⟨Int.natCast_nonneg n, Int.ofNat_le.mpr h⟩]
  rfl

theorem sliceMid_inner {α} (op : Op) (xs : List α) (h : 2 ≤ xs.length) :
    sliceMid op xs 1 ((xs.length : Int) - 1) = .ok ((xs.drop 1).take (xs.length - 2)) := by
  unfold sliceMid
  rw [if_pos (by omega)]
  congr 2
  omega

theorem maxLoop_total (xs : List Int) : ∀ (fuel i : Nat) (r : Int), ∃ v, maxLoop xs fuel i r = .ok v := by
  intro fuel
  induction fuel with
  | zero => intro i r; exact ⟨r, rfl⟩
  | succ f ih =>
    intro i r
    unfold maxLoop
    by_cases h : i < xs.length
    · simp only [h, if_true, idx_ok_of_lt .maxNext xs i h, R.bind]
      exact ih _ _
    · simp only [h, if_false]; exact ⟨r, rfl⟩

/-- `maxInt64` / `maxInt` return for every argument list, the empty one included -/
theorem maxOf_total (xs : List Int) : ∃ v, maxOf xs = .ok v := by
  unfold maxOf
  by_cases h : xs.length = 0
  · simp [h]
  · have hpos : 0 < xs.length := Nat.pos_of_ne_zero h
    have h0 : idx .maxFirst xs 0 = .ok xs[0] := idx_ok_of_lt .maxFirst xs 0 hpos
    have hb : (xs.length == 0) = false := by simp [h]
    simp only [hb, h0, R.bind]
    exact maxLoop_total xs _ _ _

theorem notifierStep_eq (n : Int) : notifierStep n = .ok (if 1 > n then 1 else n) := rfl

/-- `notifierStep()` is at least one whatever the option says (zero and negative steps included) -/
theorem notifierStep_pos (n : Int) : ∃ s, notifierStep n = .ok s ∧ 1 ≤ s := by
  refine ⟨_, notifierStep_eq n, ?_⟩
  split <;> omega

theorem concurrentJobs_pos (n : Int) : ∃ s, concurrentJobs n = .ok s ∧ 1 ≤ s := notifierStep_pos n

/-- the ticks are exactly the multiples of the effective step below the number of results -/
theorem progressLoop_eq (step : Int) (f done : Nat) : progressLoop step f done =
    .ok ((List.range' done f).filter fun d => (d : Int).tmod (if 1 > step then 1 else step) == 0) := by
  induction f generalizing done with
  | zero => rfl
  | succ f ih =>
    have hne : ¬ (if 1 > step then 1 else step) = 0 := by split <;> omega
    unfold progressLoop
    simp only [notifierStep_eq, R.bind, modOp, hne, if_false, ih, List.range'_succ, List.filter_cons]

/-- the progress tick `done % o.notifierStep()` never divides by zero: the loop of `collectResults`
    returns for every `-progress` step and every number of results -/
theorem progress_total (step : Int) (results : Nat) : ∃ ds, progressDones step results = .ok ds :=
  ⟨_, progressLoop_eq step results 0⟩

theorem progress_first_tick (step : Int) (results : Nat) :
    ∃ rest, progressDones step (results + 1) = .ok (0 :: rest) := by
  rw [progressDones, progressLoop_eq, List.range'_succ, List.filter_cons, if_pos (by simp)]
  exact ⟨_, rfl⟩

/-- `String()` of the warning that `multipleSexesWarnings` creates never slices out of range -/
theorem multipleSexes_total {α} (sexes : List α) : ∃ r, sexesSentence sexes = .ok r := by
  unfold sexesSentence multipleSexesWarnings
  by_cases h : sexes.length > 1
  · have hcast : ((sexes.length : Int) - 1) = ((sexes.length - 1 : Nat) : Int) := by omega
    simp only [h, if_true, sexesString]
    rw [hcast, sliceTo_ok _ _ _ (Nat.sub_le ..), idx_ok_of_lt _ _ _ (by omega)]
    exact ⟨_, rfl⟩
  · simp only [h, if_false]
    exact ⟨none, rfl⟩

/-- the method on its own is partial: the guard that protects it is in another function -/
theorem sexesString_counterexample : (sexesString ([] : List Nat)).isOk = false := by decide +kernel

theorem nameParts_length (v : Str) : (nameParts v).length = 4 := rfl

/-- group 2 is the group of the surname model (`Resolve.surnameOf`) -/
theorem nameParts_surname (v : Str) : surnameGroupPart v = .ok (Resolve.surnameGroup v) := rfl

/-- `parts()[1]`, `parts()[2]`, `parts()[3]` exist for every NAME value -/
theorem nameParts_total (v : Str) :
    (∃ g, givenNameFallback v = .ok g) ∧ (∃ s, surnameGroupPart v = .ok s) ∧ (∃ x, suffixFallback v = .ok x) :=
  ⟨⟨_, rfl⟩, ⟨_, rfl⟩, ⟨_, rfl⟩⟩

/-- the slice computes what the surname model (`Resolve.surnameOf`) computes: the group is empty (early exit) or
    `/…/`, and `CleanSpace` keeps both slashes, so the cleaned string has at least two bytes and
    `lastName[1 : lastNameLength-1]` is in range -/
theorem surnameSliced_eq_fallback (v : Str) : surnameSliced v = surnameFallback v := by
  unfold surnameSliced surnameFallback
  rw [nameParts_surname]
  simp only [R.bind, R.map]
  rcases Resolve.surnameGroup_shape v with h | ⟨inner, h⟩
  · rw [h]; decide
  · rw [h]
    obtain ⟨m, hm⟩ := Resolve.cleanSpace_slashes inner
    rw [hm]
    simp only [List.isEmpty_cons, Bool.false_eq_true, if_false]
    exact sliceMid_inner _ _ (by simp)

/-- `lastName[1 : lastNameLength-1]` is in range for every NAME value -/
theorem surnameSlice_total (v : Str) : ∃ s, surnameSliced v = .ok s :=
  ⟨_, surnameSliced_eq_fallback v⟩

/-- `PlaceNode.JurisdictionalEntities` indexes `placeParts[0]`…`[3]` of a list it has made four long -/
theorem jurisdictionalEntities_total (name : Str) : ∃ r, jurisdictionalEntities name = .ok r := by
  simp only [jurisdictionalEntities]
  generalize hp : (if (splitComma name).length != 4 then [name, [], [], []] else splitComma name) = parts
  have h4 : parts.length = 4 := by
    subst hp
    split
    · rfl
    · rename_i h; simpa using h
  match parts, h4 with
  | [a, b, c, d], _ => exact ⟨_, rfl⟩

theorem monthName_long (n : Nat) (s : String) (h : monthName n = some s) : 3 ≤ s.toList.length := by
  by_cases hn : n < 13
  · -- the twelve names, one by one
    exact (by decide +kernel : ∀ k < 13, ∀ s, monthName k = some s → 3 ≤ s.toList.length) n hn s h
  · obtain ⟨k, rfl⟩ := Nat.exists_eq_add_of_le' (Nat.le_of_not_lt hn)
    exact nomatch (show none = some s from h)

theorem monthChars_long (m : Int) : 3 ≤ (monthChars m).length := by
  unfold monthChars
  split
  · next s hs =>
    by_cases h0 : 0 ≤ m
    · simp only [h0, if_true] at hs; exact monthName_long _ _ hs
    · simp only [h0, if_false] at hs; cases hs
  · simp only [List.length_append, List.length_cons, List.length_nil]
    have : ("%!Month(".toList).length = 8 := by decide
    omega

/-- `date.Month.String()[:3]` is in range for every month number, the invalid ones included -/
theorem monthAbbrev_total (m : Int) : ∃ r, monthAbbrev m = .ok r := by
  unfold monthAbbrev
  split
  · exact ⟨[], rfl⟩
  · exact ⟨_, sliceTo_ok _ _ 3 (monthChars_long m)⟩

example : progressDones 0 5 = .ok [0, 1, 2, 3, 4] := by decide +kernel
example : progressDones (-7) 3 = .ok [0, 1, 2] := by decide +kernel
example : progressDones 2 5 = .ok [0, 2, 4] := by decide +kernel
example : (modOp .progressMod 3 0).isOk = false := by decide +kernel
example : sexesSentence [1, 2, 3] = .ok (some ([1, 2], 3)) := by decide +kernel
example : sexesSentence [1] = .ok none := by decide +kernel
example : (jurisdictionalEntities (Resolve.bs "a,b")).isOk = true := by decide +kernel
example : monthAbbrev 13 = .ok ['%', '!', 'M'] := by decide +kernel

open Gedcom.PartialOpsTable Gedcom.Generated.PartialOps

/-- no partial operation reachable from cmd/gedcom is unaccounted for: a new unguarded site, or a
    site whose recorded local guard is gone, makes this fail -/
theorem partial_ops_all_classified : chunks.all chunkClassified = true := by decide +kernel

/-- every site of class `invariant` names one of the totality theorems listed in
    `PartialOpsTable.provedTheorems` -/
theorem partial_ops_invariants_named : chunks.all chunkNamed = true := by decide +kernel

/-- every type assertion on a node that was found by its tag (`n.(*SexNode)` for `n` in
    `NodesWithTag(node, TagSex)`, `CastTo`, `castNodesWithTag`) asserts the Go type that the decoder
    gives that tag (Generated.kindTable, a decode probe per tag): the assertion cannot fail on a
    decoded document -/
theorem tag_asserts_sound :
    tagAsserts.all (fun p => Resolve.tagKind (Resolve.bs p.1) == p.2) = true := by decide +kernel

/-! each listed name is a theorem of this development (the build fails when one is missing) -/
#check @eventDate_total
#check @indexLetter_total
#check @surnameStartsWith_total
#check @progress_total
#check @multipleSexes_total
#check @nameParts_total
#check @surnameSlice_total
#check @jurisdictionalEntities_total
#check @monthAbbrev_total
#check @tag_asserts_sound

end Gedcom.C14

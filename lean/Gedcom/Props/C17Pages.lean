/-
  C17 — non-interference lifted to the page assembly (`Gedcom.Model.Pages`, the page functions the
  driver executes and compares with the real page bytes).  The idea: `erase d` puts fixed defaults
  for the private strings of every living person; each hide-mode page is the same for `d` and
  `erase d`, and documents that differ only in those strings have the same erasure.
-/
import Gedcom.Model.Pages
import Gedcom.Lemmas.Basics
import Gedcom.Props.C17
namespace Gedcom.C17
open Gedcom.Living Gedcom.Pages

def gf : Flags := generatedFlags

/-- the fact of the naming model of C19: only the people who get a page are given a key — the
    library's repair by which hidden living people take no page name, so that a dead person's file
    name does not depend on them (regenerated; commit b935843) -/
theorem keys_skip_hidden : Generated.keysSkipHidden = true := by decide

def eraseP (p : PPerson) : PPerson :=
  if p.pub.living then { p with priv := default, pp := default } else p

def erase (d : DocA) : DocA := { d with people := d.people.map eraseP }

@[simp] theorem eraseP_pub (p : PPerson) : (eraseP p).pub = p.pub := by
  unfold eraseP; split <;> rfl
@[simp] theorem eraseP_st (p : PPerson) : (eraseP p).st = p.st := by
  unfold eraseP; split <;> rfl
theorem eraseP_dead (p : PPerson) (h : p.pub.living = false) : eraseP p = p := by
  simp [eraseP, h]

@[simp] theorem erase_people (d : DocA) : (erase d).people = d.people.map eraseP := rfl
@[simp] theorem erase_fams (d : DocA) : (erase d).fams = d.fams := rfl
@[simp] theorem erase_sourcePtrs (d : DocA) : (erase d).sourcePtrs = d.sourcePtrs := rfl

/-- the people of two documents differ only in the private strings of living people -/
inductive SamePeople : List PPerson → List PPerson → Prop
  | nil : SamePeople [] []
  | cons {p q : PPerson} {ps qs} : p.pub = q.pub → p.st = q.st → (p.pub.living = false → p = q) →
      SamePeople ps qs → SamePeople (p :: ps) (q :: qs)

structure SameDoc (d d' : DocA) : Prop where
  people : SamePeople d.people d'.people
  fams : d.fams = d'.fams
  others : d.otherEvents = d'.otherEvents
  sources : d.sourcePtrs = d'.sourcePtrs

theorem eraseP_eq_of_same {p q : PPerson} (h1 : p.pub = q.pub) (h2 : p.st = q.st)
    (h3 : p.pub.living = false → p = q) : eraseP p = eraseP q := by
  cases hl : p.pub.living
  · rw [h3 hl]
  · have hq : q.pub.living = true := h1 ▸ hl
    cases p; cases q
    simp_all [eraseP]

theorem map_eraseP_of_same {l l' : List PPerson} (h : SamePeople l l') : l.map eraseP = l'.map eraseP := by
  induction h with
  | nil => rfl
  | cons h1 h2 h3 _ ih => rw [List.map_cons, List.map_cons, eraseP_eq_of_same h1 h2 h3, ih]

theorem erase_eq_of_same {d d' : DocA} (h : SameDoc d d') : erase d = erase d' := by
  cases d
  cases d'
  obtain ⟨hp, rfl, rfl, rfl⟩ := h
  exact congrArg (DocA.mk · _ _ _) (map_eraseP_of_same hp)

theorem get_erase (d : DocA) (i : Option Nat) : get (erase d) i = (get d i).map eraseP := by
  cases i with
  | none => rfl
  | some k => simp [Pages.get, List.getElem?_map]

theorem link_eraseP (o : Option PPerson) :
    individualLink (per (o.map eraseP)) .hide = individualLink (per o) .hide := by
  cases o with
  | none => rfl
  | some p =>
    cases hl : p.pub.living
    · rw [Option.map_some, eraseP_dead p hl]
    · simp [eraseP, per, PPerson.person, individualLink, hl]

theorem button_eraseP (o : Option PPerson) :
    individualButton (per (o.map eraseP)) .hide = individualButton (per o) .hide := by
  cases o with
  | none => rfl
  | some p =>
    cases hl : p.pub.living
    · rw [Option.map_some, eraseP_dead p hl]
    · simp [eraseP, per, PPerson.person, individualButton, hl]

theorem filter_map_eraseP (P : PPerson → Bool) (hP : ∀ p, p.pub.living = true → P p = false)
    (l : List PPerson) : (l.map eraseP).filter P = l.filter P := by
  induction l with
  | nil => rfl
  | cons p ps ih =>
    rw [List.map_cons, List.filter_cons, List.filter_cons, ih]
    cases hl : p.pub.living
    · rw [eraseP_dead p hl]
    · rw [hP p hl, hP (eraseP p) ((eraseP_pub p).symm ▸ hl)]
      rfl

theorem hiddenP_hide (p : PPerson) : hiddenP p .hide = p.pub.living := by
  simp [hiddenP]

theorem hide_lists_congr {d d' : DocA}
    (hp : d.people.filter (fun p => !p.pub.living) = d'.people.filter (fun p => !p.pub.living))
    (ho : d.otherEvents = d'.otherEvents) (hs : d.sourcePtrs = d'.sourcePtrs) :
    indexLetters gf d .hide = indexLetters gf d' .hide ∧ surnames gf d .hide = surnames gf d' .hide ∧
    (∀ s, Pages.surnameCount gf d .hide s = Pages.surnameCount gf d' .hide s) ∧
    places gf d .hide = places gf d' .hide := by
  have hk : placeKeyOf d = placeKeyOf d' := by funext e; rw [placeKeyOf, placeKeyOf, hs]
  have hg : gf = ⟨true, true, true⟩ := generated_flags_safe
  -- each of the four reads the people through `filter (!·.pub.living)` only
  simp only [hg, indexLetters, surnames, Pages.surnameCount, places, placeEvents, if_true, Bool.true_and, hiddenP_hide,
    beq_self_eq_true, Bool.and_true]
  simp only [hk, hp, ho, and_self, implies_true]

theorem erase_dead (d : DocA) :
    (erase d).people.filter (fun p => !p.pub.living) = d.people.filter (fun p => !p.pub.living) :=
  filter_map_eraseP _ (fun p hp => by simp [hp]) d.people

theorem indexLetters_erase (d : DocA) : indexLetters gf (erase d) .hide = indexLetters gf d .hide :=
  (hide_lists_congr (erase_dead d) rfl rfl).1

theorem surnames_erase (d : DocA) : surnames gf (erase d) .hide = surnames gf d .hide :=
  (hide_lists_congr (erase_dead d) rfl rfl).2.1

theorem surnameCount_erase (d : DocA) (s : Str) :
    Pages.surnameCount gf (erase d) .hide s = Pages.surnameCount gf d .hide s :=
  (hide_lists_congr (erase_dead d) rfl rfl).2.2.1 s

theorem places_erase (d : DocA) : places gf (erase d) .hide = places gf d .hide :=
  (hide_lists_congr (erase_dead d) rfl rfl).2.2.2

theorem header_erase (d : DocA) (o : Opts) (n : Nat) (extra : Str) :
    headerAtoms gf (erase d) .hide o n extra = headerAtoms gf d .hide o n extra := by
  simp only [headerAtoms, indexLetters_erase, surnames_erase, erase_people, erase_fams, erase_sourcePtrs,
    List.length_map]

theorem individualListPage_erase (d : DocA) (o : Opts) (n : Nat) (l : UInt8) :
    individualListPage gf (erase d) .hide o n l = individualListPage gf d .hide o n l := by
  have e : ((erase d).people.filter (fun p => p.pp.listLetter == l)).filter (fun p => !hiddenP p .hide) =
      (d.people.filter (fun p => p.pp.listLetter == l)).filter (fun p => !hiddenP p .hide) := by
    simp only [List.filter_filter, erase_people]
    exact filter_map_eraseP _ (by intro p hp; simp [hiddenP, hp]) _
  have hv : (Vis.hide != Vis.placeholder) = true := rfl
  simp only [individualListPage, header_erase, indexLetters_erase, e, hv, Bool.or_true, if_true]

theorem surnameListPage_erase (d : DocA) (o : Opts) (n : Nat) :
    surnameListPage gf (erase d) .hide o n = surnameListPage gf d .hide o n := by
  unfold surnameListPage
  rw [header_erase, surnames_erase]
  simp only [surnameCount_erase]

theorem placeListPage_erase (d : DocA) (o : Opts) :
    placeListPage gf (erase d) .hide o = placeListPage gf d .hide o := by
  unfold placeListPage
  rw [places_erase, header_erase]

theorem placePage_erase (d : DocA) (o : Opts) (p : PlaceA) :
    placePage gf (erase d) .hide o p = placePage gf d .hide o p := by
  unfold placePage
  rw [places_erase, header_erase]

theorem familyListPage_erase (d : DocA) (o : Opts) (n : Nat) :
    familyListPage gf (erase d) .hide o n = familyListPage gf d .hide o n := by
  simp only [familyListPage, header_erase, get_erase, link_eraseP, erase_fams]

theorem keepChild_eraseP (c : Option PPerson) : keepChild .hide (c.map eraseP) = keepChild .hide c := by
  cases c <;> simp [keepChild]

theorem childrenAtoms_erase (d : DocA) : childrenAtoms (erase d) .hide = childrenAtoms d .hide := by
  funext cs
  have e : cs.map (Pages.get (erase d)) = (cs.map (Pages.get d)).map (Option.map eraseP) := by
    simp [get_erase]
  rw [childrenAtoms, e]
  exact filter_flatMap_map _ _ _ keepChild_eraseP (fun c _ => congrArg fragAtoms (button_eraseP c)) _

theorem descAtoms_erase (d : DocA) : descAtoms (erase d) .hide = descAtoms d .hide := by
  funext x
  cases x <;> simp [descAtoms, get_erase, link_eraseP]

theorem spouseEntryAtoms_erase (d : DocA) : spouseEntryAtoms (erase d) .hide = spouseEntryAtoms d .hide := by
  funext e
  unfold spouseEntryAtoms entryTail
  rw [get_erase, childrenAtoms_erase]
  cases hg : Pages.get d e.1 with
  | none => simp
  | some q =>
    cases hl : q.pub.living
    · simp [eraseP_dead q hl]
    · simp [hl]

theorem spouseShown_erase (d : DocA) : spouseShown (erase d) .hide = spouseShown d .hide := by
  funext e
  rw [spouseShown, get_erase, keepChild_eraseP]
  rfl

theorem individualPage_erase (d : DocA) (o : Opts) (n : Nat) (p : PPerson) :
    individualPage gf (erase d) .hide o n p = individualPage gf d .hide o n p := by
  simp only [individualPage, header_erase, parentsAtoms, eventsAtoms, partnersAtoms, get_erase, button_eraseP,
    descAtoms_erase, spouseEntryAtoms_erase, spouseShown_erase, childrenAtoms_erase]

theorem siteOf_erase (d : DocA) (o : Opts) : siteOf gf (erase d) .hide o = siteOf gf d .hide o := by
  simp only [siteOf, places_erase, indexLetters_erase, hiddenP_hide, erase_dead, individualListPage_erase,
    individualPage_erase, placeListPage_erase, placePage_erase, familyListPage_erase, surnameListPage_erase]

/-- **Joint theorem with C19 (hidden living people take no page name [b935843]), for every site.**  The page keys of all
    people — hence every individual file name and every link target — read the written names only
    through `zipFilter`, the names of the people who are handed a key: a hidden living person takes
    none, so nobody's `-1`, `-2`, … depends on a hidden namesake. -/
theorem keys_independent_of_hidden_names {names names' : List Str} {hidden : List Bool}
    (h : Publish.zipFilter names hidden = Publish.zipFilter names' hidden) (avoid : List Str) :
    Publish.individualKeysV names hidden avoid = Publish.individualKeysV names' hidden avoid := by
  unfold Publish.individualKeysV Publish.keyedNames
  simp only [keys_skip_hidden, ↓reduceIte, h]

theorem hidden_take_no_key (ks : List Str) (hs : List Bool) (i : Nat) (h : hs[i]? = some true) :
    (Publish.assignKeys ks hs)[i]? = some none := by
  induction hs generalizing ks i with
  | nil => cases h
  | cons b bs ih =>
    cases i with
    | zero =>
      obtain rfl : b = true := Option.some.inj h
      rfl
    | succ j =>
      -- whatever the head is handed, the tail is keyed by the same function
      cases b <;> cases ks <;> exact ih _ j h

theorem zipFilter_titles_erase (l : List PPerson) :
    Publish.zipFilter ((l.map eraseP).map (fun p => p.pp.title)) (l.map (fun p => hiddenP p .hide)) =
      Publish.zipFilter (l.map (fun p => p.pp.title)) (l.map (fun p => hiddenP p .hide)) := by
  induction l with
  | nil => rfl
  | cons p ps ih =>
    simp only [List.map_cons, hiddenP_hide p, Publish.zipFilter]
    cases hl : p.pub.living
    · rw [eraseP_dead p hl, ih]
    · exact ih

theorem pageKeys_erase (d : DocA) (o : Opts) : pageKeys gf (erase d) .hide o = pageKeys gf d .hide o := by
  have hh : (erase d).people.map (fun p => hiddenP p .hide) = d.people.map (fun p => hiddenP p .hide) := by
    simp [hiddenP]
  simp only [pageKeys, avoidKeys, places_erase, erase_sourcePtrs, hh]
  exact keys_independent_of_hidden_names (zipFilter_titles_erase d.people) _

/-- writing the keys commutes with erasing the living, because hidden people are handed `none` -/
theorem setPages_erase (ks : List Str) (l : List PPerson) :
    setPages (Publish.assignKeys ks (l.map (fun p => hiddenP p .hide))) (l.map eraseP) =
      (setPages (Publish.assignKeys ks (l.map (fun p => hiddenP p .hide))) l).map eraseP := by
  induction l generalizing ks with
  | nil => cases ks <;> rfl
  | cons p ps ih =>
    have hh : hiddenP p .hide = p.pub.living := hiddenP_hide p
    cases hl : p.pub.living
    · -- not living: erasing does nothing, with or without a new page name
      cases ks <;> simp only [List.map_cons, hh, hl, Publish.assignKeys, setPages, eraseP_dead, ih]
    · simp only [List.map_cons, hh, hl, Publish.assignKeys, setPages, ih]

theorem rekey_erase (d : DocA) (o : Opts) : rekey gf (erase d) .hide o = erase (rekey gf d .hide o) := by
  unfold rekey
  rw [pageKeys_erase]
  simp only [erase]
  congr 1
  unfold pageKeys Publish.individualKeysV
  exact setPages_erase _ _

theorem site_erase (d : DocA) (o : Opts) : Pages.site gf (erase d) .hide o = Pages.site gf d .hide o := by
  unfold Pages.site
  rw [rekey_erase, siteOf_erase]

/-- Every page of the hide-mode site is the same for two documents that differ only in the private
    strings of living people: the individual list page of each letter, the surname list, the place
    list, each place page, the family list and each individual page. -/
theorem page_hide_independent {d d' : DocA} (h : SameDoc d d') (o : Opts) :
    (∀ n l, individualListPage gf d' .hide o n l = individualListPage gf d .hide o n l) ∧
    (∀ n, surnameListPage gf d' .hide o n = surnameListPage gf d .hide o n) ∧
    placeListPage gf d' .hide o = placeListPage gf d .hide o ∧
    (∀ p, placePage gf d' .hide o p = placePage gf d .hide o p) ∧
    (∀ n, familyListPage gf d' .hide o n = familyListPage gf d .hide o n) ∧
    (∀ n p, individualPage gf d' .hide o n p = individualPage gf d .hide o n p) := by
  have he := erase_eq_of_same h
  refine ⟨?_, ?_, ?_, ?_, ?_, ?_⟩
  · intro n l; rw [← individualListPage_erase d', ← individualListPage_erase d, he]
  · intro n; rw [← surnameListPage_erase d', ← surnameListPage_erase d, he]
  · rw [← placeListPage_erase d', ← placeListPage_erase d, he]
  · intro p; rw [← placePage_erase d', ← placePage_erase d, he]
  · intro n; rw [← familyListPage_erase d', ← familyListPage_erase d, he]
  · intro n p; rw [← individualPage_erase d', ← individualPage_erase d, he]

/-- The whole modelled hide-mode site — which files exist, in which order, and the skeleton of each
    — does not depend on the living people's private strings, for every choice of page groups. -/
theorem site_pages_hide_independent {d d' : DocA} (h : SameDoc d d') (o : Opts) :
    Pages.site gf d' .hide o = Pages.site gf d .hide o := by
  rw [← site_erase d', ← site_erase d, erase_eq_of_same h]

/-! ## the guard facts are load-bearing, and the hypotheses are satisfiable -/

def oAll : Opts := ⟨true, true, true, true, true, true⟩
def pLiv (surname place : Str) : PPerson :=
  { pub := ⟨true, .female⟩, st := {}, priv := { (default : Priv) with surname := surname, page := [108], names := [[76]] },
    pp := { idxLetter := 108, listLetter := 108, placeEvents := [⟨place, place, [79, 122], [49], [66], [48]⟩] } }
def pDead : PPerson :=
  { pub := ⟨false, .male⟩, st := { spouses := [(some 0, none)] },
    priv := { (default : Priv) with surname := [84], page := [116], names := [[79]] },
    pp := { idxLetter := 116, listLetter := 116, title := [79] } }
def docA : DocA := ⟨[pLiv [76] [80], pDead], [⟨some 1, some 0, [45]⟩], [], []⟩
def docB : DocA := ⟨[pLiv [77] [81], pDead], [⟨some 1, some 0, [45]⟩], [], []⟩

theorem docs_same : SameDoc docA docB :=
  ⟨.cons rfl rfl (by decide) (.cons rfl rfl (fun _ => rfl) .nil), rfl, rfl, rfl⟩

/-- with the facts of the unrepaired tree the surname page and the place list of the same two
    documents differ in hide mode (defect 18, at page level) … -/
theorem page_leak_counterexample :
    surnameListPage unrepairedFlags docA .hide oAll 0 ≠ surnameListPage unrepairedFlags docB .hide oAll 0 ∧
    placeListPage unrepairedFlags docA .hide oAll ≠ placeListPage unrepairedFlags docB .hide oAll :=
  -- where they differ: the link of the first surname row, the link of the first place row
  ⟨fun h => absurd (congrArg (·[17]?) h) (by decide +kernel),
   fun h => absurd (congrArg (·[18]?) h) (by decide +kernel)⟩

/-- … while in show mode the sites of course differ, and in hide mode they are equal and not empty -/
example : Pages.site gf docA .show oAll ≠ Pages.site gf docB .show oAll := by decide +kernel
example : (Pages.site gf docA .hide oAll).map (·.1) =
    [Pages.pageIndividuals 116, Publish.sanitize [79] ++ Publish.html, bs "places.html", bs "families.html",
     bs "surnames.html"] := by decide +kernel

/-- a living person with the written name `t`, recorded before `pDead` (whose written name is "O") -/
def nLiv (t : Str) : PPerson := { pLiv [76] [80] with pp := { (pLiv [76] [80]).pp with title := t } }

/-- Before that repair [b935843] every individual took a page name, hidden or not (`individualKeys` over all
    names): the key of a dead "O" recorded after a living "O" is `o-1`, and `o` once the living
    person is renamed — the dependence `keys_independent_of_hidden_names` rules out. -/
theorem page_key_leak_counterexample :
    (Publish.individualKeys [[79], [79]] [])[1]? ≠ (Publish.individualKeys [[80], [79]] [])[1]? := by
  decide +kernel

/-- … and with the regenerated facts the two documents publish the same files, the dead person as `o.html` -/
example : (Pages.site gf ⟨[nLiv [79], pDead], [], [], []⟩ .hide oAll).map (·.1) =
    (Pages.site gf ⟨[nLiv [80], pDead], [], [], []⟩ .hide oAll).map (·.1) := by decide +kernel
example : ((Pages.site gf ⟨[nLiv [79], pDead], [], [], []⟩ .hide oAll).map (·.1)).contains ([111] ++ Publish.html) = true := by
  decide +kernel
/-- a person called "Places" keeps off the fixed page: `places-1.html` -/
example : pageKeys gf ⟨[{ pDead with pp := { pDead.pp with title := bs "Places" } }], [], [], []⟩ .show oAll =
    [some (bs "places-1")] := by decide +kernel

end Gedcom.C17

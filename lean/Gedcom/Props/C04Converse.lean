/-
  C04 — the converse direction ("undocumented forms are reported as invalid", for
  every byte string), the soundness fact behind the bytewise treatment of letter case, and what
  the code does with years outside 1..9999.  Property theorems (with the lemmas that serve only them).
-/
import Gedcom.Props.C04
import Gedcom.Lemmas.DateConverse
namespace Gedcom.C04
open Gedcom

/-- **Letter case can be treated bytewise.**  Go's `(?i)` matches a pattern letter also against
    non-ASCII runes whose simple case folding is that letter; only `k` (U+212A, Kelvin sign) and
    `s` (U+017F, long s) have such runes.  No keyword, between-word or and-word — the words that
    enter the two patterns — contains `k`/`K`/`s`/`S`, so ASCII comparison is exact for them.
    `strings.ToLower`, applied to the month word, maps exactly one non-ASCII rune that `\w` can
    match onto an ASCII letter (U+212A ↦ `k`); no month word contains `k`, so a word containing
    that rune is not a month in the code and in the model alike. -/
theorem letter_case_is_bytewise :
    (∀ w ∈ dateKeywords ++ betweenKeywords ++ andKeywords, ∀ b ∈ w,
        toLowerB b ≠ 107 ∧ toLowerB b ≠ 115) ∧
    (∀ wm ∈ Generated.monthWords, ∀ b ∈ wm.1, toLowerB b ≠ 107) := by decide +kernel

/-! ## the converse: what is valid is documented -/

/-- `t` is one date as the code reads it, in documented vocabulary:
    `keyword? ␠? (digits␠)? (month-word␠)? digits` where the keyword is a listed keyword and the
    month word a listed month word, each in some letter case, and `d` is exactly what is written —
    the keyword's constraint (Exact without keyword), the decimal values of the numerals (leading
    zeros immaterial; capped at the largest int), the month of the word; a day comes only with a
    month, lies in 1..(days of that month in that year) and then the year is at most 9999.
    Deviations from the documented grammar that this admits, and nothing else: the space after
    the keyword may be missing (`abt1900`, `ca.1900`, `abtmar 1900`), a space may stand before a
    sentence without keyword, numerals may have any number of digits, the year may be 0 when a
    month is given and may exceed 9999 when no day is given. -/
structure IsDate (t : Str) (d : PDate) : Prop where
  ex : ∃ kw sep day mon year : Str,
    t = kw ++ sep ++ day ++ mon ++ year ∧ (sep = [] ∨ sep = [32]) ∧
    ((kw = [] ∧ d.constraint = .exact) ∨
      ((∃ k ∈ keywords, CaseVariant k kw) ∧ d.constraint = docConstraint kw)) ∧
    ((day = [] ∧ d.day = 0) ∨
      ∃ D, isDigits D = true ∧ day = D ++ [32] ∧ d.day = min (decToNat D) maxInt ∧
        1 ≤ d.day ∧ (d.day : Int) ≤ dim (isLeap d.year) d.month ∧ d.month ≠ 0 ∧ d.year ≤ 9999) ∧
    ((mon = [] ∧ d.month = 0) ∨
      ∃ M, ∃ wm ∈ Generated.monthWords, CaseVariant wm.1 M ∧ mon = M ++ [32] ∧ d.month = wm.2) ∧
    isDigits year = true ∧ d.year = min (decToNat year) maxInt ∧ d.parseError = false

/-- the shape of the match (`matchDate_shape`) read in the documented vocabulary, field by field -/
theorem parseDateParts_reads (s : Str) (h : (parseDateParts s).isZero = false) :
    IsDate s (parseDateParts s) := by
  obtain ⟨p, hm, hcal, hlisted, hv⟩ := parseDateParts_nonzero h
  obtain ⟨hkw, ⟨hday, hmon, hyear⟩, sep, hsep, hsplit⟩ := matchDate_shape hm
  rw [hv]
  refine ⟨p.kw, sep, p.day, p.month, p.year, ?_⟩
  -- as in `parsed_of_nonzero`: reduce the fields of the literal before the unifier sees them
  dsimp only
  refine ⟨hsplit, hsep, ?_, ?_, ?_, hyear, atoi_digits hyear, rfl⟩
  · rcases hkw with hk | ⟨k, hk, hl⟩
    · exact Or.inl ⟨hk, by rw [hk]; exact constraint_nil⟩
    · have hdoc : ∃ k ∈ keywords, CaseVariant k p.kw := ⟨k, mem_dateKeywords.mp hk, hl⟩
      exact Or.inr ⟨hdoc, constraint_of_documented hdoc⟩
  · rcases hday with hd | ⟨D, hD, hd⟩
    · exact Or.inl ⟨hd, by rw [hd]; exact atoi_nil⟩
    · have hc := hcal.resolve_left (by rw [hd]; simp)
      simp only [calendarOK, Bool.and_eq_true, bne_iff_ne, ne_eq, decide_eq_true_eq] at hc
      exact Or.inr ⟨D, hD, hd, by rw [hd, atoi_sp hD, atoi_digits hD], hc.1.2, hc.2, hc.1.1.1,
        hc.1.1.2⟩
  · rcases hmon with hmo | ⟨w, hwne, hw, hmo⟩
    · exact Or.inl ⟨hmo, by rw [hmo, monthOf_cleanSpace_lowerStr_nil]; rfl⟩
    · have hcs : cleanSpace (lowerStr p.month) = lowerStr w := by
        rw [hmo, lowerStr_append]
        exact cleanSpace_runes hw.lower (by intro e; exact hwne (by simpa [lowerStr] using e))
      obtain ⟨m, hlk⟩ := hlisted.resolve_left (by rw [hmo]; simp)
      rw [hlk]
      rw [hcs] at hlk
      have hcase : CaseVariant (lowerStr w) w := by
        unfold CaseVariant
        rw [lowerStr, lowerStr, List.map_map]
        exact List.map_congr_left fun b _ => (toLowerB_idem b).symm
      exact Or.inr ⟨w, (lowerStr w, m), lookup_mem hlk, hcase, hmo, rfl⟩

/-- **Whatever is accepted is documented — for every byte string.**  If the parse of `s` is valid,
    then the cleaned value either is one date (`IsDate`) denoting the common start and end, or is
    `B␠X␠A␠Y` with `B` a listed between-word and `A` a listed and-word in some letter case, `X` one
    date denoting the start and `Y` one date denoting the end.  Hence every other string — unknown
    words, a day without a month, month before day, trailing text whether or not it ends in a
    number, phrases, wrong order, stray characters — is invalid; the only tolerated deviations
    from the documented grammar are the ones listed at `IsDate`. -/
theorem accepts_only_documented (s : Str) (hv : (parseDateRange s).isValid = true) :
    (IsDate (cleanSpace s) (parseDateRange s).start ∧
      (parseDateRange s).end_ = (parseDateRange s).start) ∨
    (∃ BW X AW Y : Str, cleanSpace s = BW ++ 32 :: (X ++ 32 :: (AW ++ 32 :: Y)) ∧
      (∃ k ∈ Generated.wordsBetween, CaseVariant k BW) ∧ (∃ k ∈ Generated.wordsAnd, CaseVariant k AW) ∧
      IsDate X (parseDateRange s).start ∧ IsDate Y (parseDateRange s).end_) := by
  cases hx : matchRange (cleanSpace s) with
  | some x =>
    obtain ⟨BW, X, AW, Y⟩ := x
    rw [parseDateRange_of_range hx] at hv ⊢
    simp only [DateRange.isValid, Bool.and_eq_true, Bool.not_eq_true'] at hv
    obtain ⟨hs, ⟨bk, hbk, hbl⟩, ⟨aw, haw, hal⟩, _⟩ := matchRange_shape hx
    exact Or.inr ⟨BW, X, AW, Y, hs, ⟨bk, mem_sortLenDesc.mp hbk, hbl⟩,
      ⟨aw, mem_sortLenDesc.mp haw, hal⟩,
      parseDateParts_reads _ hv.1, parseDateParts_reads _ hv.2⟩
  | none =>
    rw [parseDateRange_of_single hx] at hv ⊢
    simp only [DateRange.isValid, Bool.and_eq_true, Bool.not_eq_true'] at hv
    exact Or.inl ⟨parseDateParts_reads _ hv.1, rfl⟩

/-! ### consequences for trailing text -/

theorem count32_zero {t : Str} (h : Solid t) : t.count 32 = 0 :=
  List.count_eq_zero.mpr (fun hm => no32_of_solid h 32 hm rfl)

theorem count32_group {t : Str} (h : Solid t) : (t ++ [32]).count 32 = 1 := by
  rw [List.count_append, count32_zero h]; rfl

/-- one date has at most four space-separated tokens, and four only when the first is a keyword:
    so `5 Mar 1900 1`, `5 Mar 1900 AD 1`, `abt 5 Mar 1900 1` … cannot be valid -/
theorem isDate_tokens {t : Str} {d : PDate} (h : IsDate t d) :
    t.count 32 ≤ 3 ∧
    (t.count 32 = 3 → ∃ kw rest, t = kw ++ 32 :: rest ∧ (kw = [] ∨ ∃ k ∈ keywords, CaseVariant k kw)) := by
  obtain ⟨kw, sep, day, mon, year, h1, h2, h3, h5, h6, h7, _, _⟩ := h.ex
  have hkw : kw = [] ∨ ∃ k ∈ keywords, CaseVariant k kw := h3.imp (·.1) (·.1)
  have c1 : kw.count 32 = 0 := by
    rcases hkw with rfl | h
    · rfl
    · exact count32_zero (solid_of_kwTok (kwTok_of_documented h))
  have c2 : day.count 32 ≤ 1 := by
    rcases h5 with ⟨rfl, _⟩ | ⟨D, hD, rfl, _⟩
    · exact Nat.zero_le 1
    · exact Nat.le_of_eq (count32_group (solid_of_isDigits hD))
  have c3 : mon.count 32 ≤ 1 := by
    rcases h6 with ⟨rfl, _⟩ | ⟨M, wm, hwm, hl, rfl, _⟩
    · exact Nat.zero_le 1
    · obtain ⟨_, ht⟩ := month_of_documented ⟨wm, hwm, hl⟩
      exact Nat.le_of_eq (count32_group ht.word.solid)
  have c4 : year.count 32 = 0 := count32_zero (solid_of_isDigits h7)
  have hc : t.count 32 = sep.count 32 + day.count 32 + mon.count 32 := by
    rw [h1]; simp only [List.count_append]; omega
  rcases h2 with rfl | rfl
  · have hs : ([] : Str).count 32 = 0 := rfl
    exact ⟨by omega, fun h3' => by omega⟩
  · have hs : ([32] : Str).count 32 = 1 := rfl
    exact ⟨by omega, fun _ => ⟨kw, day ++ mon ++ year, by rw [h1]; simp, hkw⟩⟩

/-- a valid value that is not a range has at most four tokens -/
theorem valid_single_tokens (s : Str) (hv : (parseDateRange s).isValid = true)
    (hr : matchRange (cleanSpace s) = none) : (cleanSpace s).count 32 ≤ 3 := by
  rw [parseDateRange_of_single hr] at hv
  simp only [DateRange.isValid, Bool.and_eq_true, Bool.not_eq_true'] at hv
  exact (isDate_tokens (parseDateParts_reads _ hv.1)).1

example : (parseDateRange (lit "5 Mar 1900 1")).isValid = false ∧
    (parseDateRange (lit "Mar 1900 1")).isValid = false ∧
    (parseDateRange (lit "1900 1")).isValid = false ∧
    (parseDateRange (lit "abt 5 Mar 1900 1")).isValid = false ∧
    (parseDateRange (lit "5 1900")).isValid = false ∧
    (parseDateRange (lit "Mar 5 1900")).isValid = false := by
  repeat rw [lit_ofList]
  decide +kernel

/-- the tolerated deviations, by evaluation -/
example : (parseDateRange (lit "abt1900")).start = ⟨0, 0, 1900, .about, false⟩ ∧
    (parseDateRange (lit "abtmar 1900")).start = ⟨0, 3, 1900, .about, false⟩ ∧
    (parseDateRange (lit "000005 Mar 001900")).start = ⟨5, 3, 1900, .exact, false⟩ := by
  repeat rw [lit_ofList]
  decide +kernel

/-! ## years outside 1..9999 (outside the property's quantifier): what the code does, as theorems -/

/-- a sentence with documented words and arbitrary numerals -/
structure Spelled (x : Sentence) : Prop where
  kw : ∀ T, x.kw = some T → ∃ k ∈ keywords, CaseVariant k T
  month : ∀ M, x.body.word = some M → ∃ wm ∈ Generated.monthWords, CaseVariant wm.1 M

/-- the documented constraint of an optional keyword token -/
def kwConstraint : Option Str → Constraint
  | some T => docConstraint T
  | none => .exact

/-- what the code computes for it: numerals by decimal value capped at the largest int, the
    calendar check (month 1..12, year ≤ 9999, day 1..days in month) only when a day is written -/
def codedValue (x : Sentence) : PDate :=
  let c : Constraint := kwConstraint x.kw
  let m := (x.body.word.bind monthOfWord).getD 0
  match x.body with
  | .Y _ y => ⟨0, 0, min y maxInt, c, false⟩
  | .MY _ _ y => ⟨0, m, min y maxInt, c, false⟩
  | .DMY _ d _ _ y =>
    if calendarOK (min d maxInt) m (min y maxInt) then ⟨min d maxInt, m, min y maxInt, c, false⟩
    else PDate.failed c
  | .ZMY _ _ _ _ => PDate.failed c

theorem result_of_spelled {x : Sentence} (h : Spelled x) : x.result = codedValue x := by
  have hc : constraintFromString x.kwText = kwConstraint x.kw := kwText_constraint h.kw
  unfold Sentence.result codedValue
  cases hb : x.body with
  | Y yz y => simp [Body.groups, partsResult_Y, hc]
  | MY M yz y =>
    obtain ⟨m, ht⟩ := month_of_documented (h.month M (by rw [hb]; rfl))
    simp [Body.groups, partsResult_MY _ ht.word.solid, hc, Body.word, ht.month]
  | DMY dz d M yz y =>
    obtain ⟨m, ht⟩ := month_of_documented (h.month M (by rw [hb]; rfl))
    simp [Body.groups, partsResult_DMY _ _ _ ht.word.solid, hc, Body.word, ht.month]
  | ZMY dz M yz y => simp [Body.groups, partsResult_ZMY, hc]

/-- **All numerals, as coded.**  For every sentence with documented words and *any* numerals —
    year 0, years above 9999, days of any size — written in any letter case and spacing, both
    ends are `codedValue`. -/
theorem any_numbers_as_coded (x : Sentence) (hx : Spelled x) (gt : List (Nat × Str)) (e : Nat)
    (htok : gt.map (·.2) = x.tokens) (hgap : GapsOK gt) :
    (parseDateRange (render gt e)).start = codedValue x ∧
    (parseDateRange (render gt e)).end_ = codedValue x := by
  rw [x.parse (wf_of_words hx.kw hx.month) ⟨gt, e, htok, hgap, rfl⟩, result_of_spelled hx]
  exact ⟨rfl, rfl⟩

/-- **Year 0** (about `codedValue`, which `any_numbers_as_coded` shows is what the parse returns).
    A bare year 0 (`0`, `0000`, `abt 0`) is a zero date, hence invalid; with a month
    it is *accepted* as month-year (or day-month-year, year 0 counting as a leap year) of year 0
    — the documentation of `Date` allows year 0, the property's domain starts at 1. -/
theorem year_zero_as_coded (x : Sentence) (hy : Body.year x.body = 0) :
    match x.body with
    | .Y _ _ => (codedValue x).isZero = true
    | .MY M _ _ => ∀ m, monthOfWord M = some m → codedValue x = ⟨0, m, 0, kwConstraint x.kw, false⟩
    | _ => True := by
  cases hb : x.body with
  | Y yz y =>
    rw [hb] at hy; simp only [Body.year] at hy; subst hy
    simp [codedValue, hb, PDate.isZero]
  | MY M yz y =>
    rw [hb] at hy; simp only [Body.year] at hy; subst hy
    intro m hm
    simp [codedValue, hb, Body.word, hm]
  | DMY dz d M yz y => trivial
  | ZMY dz M yz y => trivial

/-- **Years above 9999** (about `codedValue`, as above).  Without a day they are *accepted* with the written year (capped at the
    largest int); with a day they are rejected (the calendar check cannot represent them). -/
theorem year_above_9999_as_coded (x : Sentence) (hy : 9999 < Body.year x.body) :
    match x.body with
    | .Y _ y => codedValue x = ⟨0, 0, min y maxInt, kwConstraint x.kw, false⟩
    | .MY _ _ y => (codedValue x).year = min y maxInt ∧ (codedValue x).parseError = false
    | .DMY _ _ _ _ _ => (codedValue x).isZero = true
    | .ZMY _ _ _ _ => (codedValue x).isZero = true := by
  cases hb : x.body with
  | Y yz y => simp [codedValue, hb]
  | MY M yz y => simp [codedValue, hb]
  | DMY dz d M yz y =>
    rw [hb] at hy; simp only [Body.year] at hy
    have : calendarOK (min d maxInt) ((x.body.word.bind monthOfWord).getD 0) (min y maxInt) = false := by
      have : ¬ (min y maxInt ≤ 9999) := by unfold maxInt; omega
      simp [calendarOK, this]
    rw [hb] at this
    simp [codedValue, hb, this, failed_isZero]
  | ZMY dz M yz y => simp [codedValue, hb, failed_isZero]

/-- **Witnesses** (explicit counterexamples to "only years 1..9999 are accepted" and to the round
    trip without the hypothesis `1 ≤ year`): `Mar 0` is valid, prints as `Mar`, and `Mar` is
    invalid; `0` is invalid; `Mar 10000` is valid while `5 Mar 10000` is not; a 20-digit year is
    valid and silently becomes 9223372036854775807. -/
theorem years_outside_domain_witnesses :
    (parseDateRange (lit "0")).isValid = false ∧
    (parseDateRange (lit "Mar 0")).start = ⟨0, 3, 0, .exact, false⟩ ∧
    (parseDateRange (lit "Mar 0")).isValid = true ∧
    (parseDateRange (lit "Mar 0")).toString = lit "Mar" ∧
    (parseDateRange (parseDateRange (lit "Mar 0")).toString).isValid = false ∧
    (parseDateRange (lit "29 Feb 0")).start = ⟨29, 2, 0, .exact, false⟩ ∧
    (parseDateRange (lit "Mar 10000")).start = ⟨0, 3, 10000, .exact, false⟩ ∧
    (parseDateRange (lit "5 Mar 10000")).isValid = false ∧
    (parseDateRange (lit "99999999999999999999")).start = ⟨0, 0, 9223372036854775807, .exact, false⟩ ∧
    (parseDateRange (lit "99999999999999999999")).toString = lit "9223372036854775807" := by
  repeat rw [lit_ofList]
  decide +kernel

end Gedcom.C04

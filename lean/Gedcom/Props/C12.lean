/-
  C12 — Similarity scores are bounded, symmetric and maximal on identity.
  The property theorems, about the functions of `Gedcom.Model.Similarity` that the driver executes.
  Scores are exact rationals (core `Rat`) here; the same clauses about the binary64 values the
  implementation computes are in Props/C12Float.

  Configurations: `SimOpts.Valid` (MaxYears > 0, name/date ratio in [0,1], Jaro prefix size ≤ 10,
  non-negative weights summing to 1) — the property's quantifier.  No bound on string length,
  number of names, list length or number of families anywhere.
-/
import Gedcom.Lemmas.ListSymm
import Gedcom.Model.SimilarityRaw
namespace Gedcom.C12
open Gedcom.Sim

/-- Jaro lies in [0,1] for all byte strings: every match flags a fresh position of `b` (so
    matches ≤ |b|), at most one match per position of `a` (matches ≤ |a|), halfs ≤ matches. -/
theorem jaro_bounds (a b : Str) : 0 ≤ jaro a b ∧ jaro a b ≤ 1 := by
  obtain ⟨h1, h2, h3⟩ := jaroFinal_le a b
  exact jaroValue_bounds _ _ _ _ h1 h2 h3

/-- a non-empty string compared with itself: every position matches itself, no transposition -/
theorem jaro_self (a : Str) (h : a ≠ []) : jaro a a = 1 := by
  unfold jaro
  simp only [(jaroFinal_self a).1, (jaroFinal_self a).2]
  exact jaroValue_self fun e => h (List.length_eq_zero_iff.mp e)

/-- Jaro-Winkler stays in [0,1] as long as the prefix size is at most 10 (any boost threshold).
    For larger prefix sizes the statement is false of the code (1.0278 at 20) — outside the
    property's configurations. -/
theorem jaroWinkler_bounds (a b : Str) (boost : Rat) (p : Nat) (hp : p ≤ 10) :
    0 ≤ jaroWinkler a b boost p ∧ jaroWinkler a b boost p ≤ 1 := by
  have hj := jaro_bounds a b
  unfold jaroWinkler
  simp only
  split
  · exact hj
  · exact boost_bounds _ _ hj.1 hj.2 (Nat.le_trans (prefixMatches_le p a b) hp)

theorem jaroWinkler_self (a : Str) (boost : Rat) (p : Nat) (h : a ≠ []) :
    jaroWinkler a a boost p = 1 := by
  unfold jaroWinkler
  simp only [jaro_self a h]
  split
  · rfl
  · have e : (1 : Rat) - 1 = 0 := by grind
    rw [e, Rat.mul_zero, Rat.add_zero]

/-- the prefix boost is symmetric: Jaro-Winkler is symmetric wherever Jaro is -/
theorem jw_symm_prefix (a b : Str) (boost : Rat) (p : Nat) (h : jaro a b = jaro b a) :
    jaroWinkler a b boost p = jaroWinkler b a boost p := jaroWinkler_comm_of_jaro a b boost p h

/-- Jaro does not depend on the operand order, for all byte strings: the greedy window matching
    is the unique matching that is stable for "smaller index first" on both sides, a condition
    that is symmetric in the two strings, so starting from either side pairs the same positions
    (same `matches`, same `halfs`) -/
theorem jaro_symm (a b : Str) : jaro a b = jaro b a := Sim.jaro_symm a b

theorem jaroWinkler_symm (a b : Str) (boost : Rat) (p : Nat) :
    jaroWinkler a b boost p = jaroWinkler b a boost p :=
  jaroWinkler_comm_of_jaro a b boost p (Sim.jaro_symm a b)

theorem stringSimilarity_symm (a b : Str) (boost : Rat) (p : Nat) :
    stringSimilarity a b boost p = stringSimilarity b a boost p := stringSimilarity_comm a b boost p

theorem stringSimilarity_bounds (a b : Str) (boost : Rat) (p : Nat) (hp : p ≤ 10) :
    0 ≤ stringSimilarity a b boost p ∧ stringSimilarity a b boost p ≤ 1 :=
  jaroWinkler_bounds _ _ _ _ hp

/-- identical names score 1 — every name of which something is left after trimming white space
    (`CleanSpace`), in any script.  Since the fix "a name written outside a-z and 0-9 is similar
    to itself"; before it a name that normalises to nothing (王小明, "...") scored 0 against
    itself (defect 23).  Blank names (white space only) are empty after trimming and score 0:
    they are not names. -/
theorem identity_is_one (a : Str) (boost : Rat) (p : Nat) (h : Gedcom.cleanSpace a ≠ []) :
    stringSimilarity a a boost p = 1 := by
  obtain ⟨h1, h2⟩ := comparedNames_self a h
  unfold stringSimilarity
  rw [h2]
  exact jaroWinkler_self _ boost p h1

/-- in particular every non-empty name that neither starts nor ends with white space and has no
    double space — e.g. every NAME value a decoded file can contain after `CleanSpace` -/
theorem identity_is_one_clean (a : Str) (boost : Rat) (p : Nat) (h : a ≠ []) (hc : Gedcom.cleanSpace a = a) :
    stringSimilarity a a boost p = 1 := identity_is_one a boost p (by rw [hc]; exact h)

-- regression witnesses of the old rule: "王小明" (UTF-8) and "..." now score 1 against themselves,
-- a blank name and a non-Latin name against a Latin one still score 0
example : stringSimilarity [0xe7, 0x8e, 0x8b, 0xe5, 0xb0, 0x8f, 0xe6, 0x98, 0x8e]
    [0xe7, 0x8e, 0x8b, 0xe5, 0xb0, 0x8f, 0xe6, 0x98, 0x8e] 0 8 = 1 := by decide +kernel
example : stringSimilarity [46, 46, 46] [46, 46, 46] 0 8 = 1 ∧ stringSimilarity [32, 32] [32, 32] 0 8 = 0 ∧
    stringSimilarity [0xe7, 0x8e, 0x8b] [119, 97, 110, 103] 0 8 = 0 := by decide +kernel
-- two different names of that kind are graded, not 0 or 1: 王小明 / 王小名
example : stringSimilarity [0xe7, 0x8e, 0x8b, 0xe5, 0xb0, 0x8f, 0xe6, 0x98, 0x8e]
    [0xe7, 0x8e, 0x8b, 0xe5, 0xb0, 0x8f, 0xe5, 0x90, 0x8d] 0 8 = 41 / 45 := by decide +kernel

/-- in [0,1] for every pair of year values and every MaxYears -/
theorem date_bounds (l r maxYears : Rat) :
    0 ≤ yearsSimilarity l r maxYears ∧ yearsSimilarity l r maxYears ≤ 1 :=
  cutoff_bounds (rat_mul_self_nonneg _)

theorem date_symm (l r maxYears : Rat) : yearsSimilarity l r maxYears = yearsSimilarity r l maxYears :=
  yearsSimilarity_comm l r maxYears

/-- the score depends only on the distance in years … -/
theorem date_distance_only (l r l' r' maxYears : Rat) (h : (l - r).abs = (l' - r').abs) :
    yearsSimilarity l r maxYears = yearsSimilarity l' r' maxYears :=
  Rat.le_antisymm
    (yearsSimilarity_antitone_sq l' r' l r maxYears (sq_le_sq_of_abs (by rw [h]; exact Rat.le_refl)))
    (yearsSimilarity_antitone_sq l r l' r' maxYears (sq_le_sq_of_abs (by rw [h]; exact Rat.le_refl)))

/-- … never increases as the distance grows … -/
theorem date_antitone (l r l' r' maxYears : Rat) (h : (l - r).abs ≤ (l' - r').abs) :
    yearsSimilarity l' r' maxYears ≤ yearsSimilarity l r maxYears :=
  yearsSimilarity_antitone_sq l r l' r' maxYears (sq_le_sq_of_abs h)

/-- … and is 0 beyond the configured maximum. -/
theorem date_zero_beyond (l r maxYears : Rat) (hm : 0 < maxYears) (h : maxYears < (l - r).abs) :
    yearsSimilarity l r maxYears = 0 := by
  rw [yearsSimilarity_eq, ratio_sq, ← abs_mul_self (l - r)]
  have hi : 0 < maxYears⁻¹ := Rat.inv_pos.mpr hm
  -- with m = maxYears: 1 = m m⁻¹ < |u| m⁻¹, hence 1 < (|u| m⁻¹)²
  have h1 : 1 < (l - r).abs * maxYears⁻¹ := by
    have := Rat.mul_lt_mul_of_pos_right h hi
    rwa [Rat.mul_inv_cancel maxYears (Rat.ne_of_lt hm).symm] at this
  have h3 : (1 : Rat) < (l - r).abs * (l - r).abs * (maxYears⁻¹ * maxYears⁻¹) := by
    have := one_lt_mul_self h1
    grind
  simp [cutoff, h3]

theorem date_self (l maxYears : Rat) : yearsSimilarity l l maxYears = 1 := by
  rw [yearsSimilarity_eq]
  have e : (l - l) / maxYears = 0 := by rw [Rat.div_def]; grind
  rw [e]
  decide +kernel

/-- `DateNode.Similarity` on parsed ranges (what the driver runs): bounded, symmetric, 1 on
    identical ranges, exactly one half when a date is missing -/
theorem dateNode_bounds (l r : Option DateR) (maxYears : Rat) :
    0 ≤ dateSimilarity l r maxYears ∧ dateSimilarity l r maxYears ≤ 1 := by
  unfold dateSimilarity
  split
  · exact date_bounds _ _ _
  · constructor <;> decide +kernel

theorem dateNode_symm (l r : Option DateR) (maxYears : Rat) :
    dateSimilarity l r maxYears = dateSimilarity r l maxYears := dateSimilarity_comm l r maxYears

theorem dateNode_identical (r : DateR) (maxYears : Rat) :
    dateSimilarity (some r) (some r) maxYears = 1 := by
  simp [dateSimilarity, rangeSimilarity, date_self]

theorem date_missing_is_half (r : Option DateR) (maxYears : Rat) :
    dateSimilarity none r maxYears = 1 / 2 ∧ dateSimilarity r none maxYears = 1 / 2 := by
  cases r <;> simp [dateSimilarity]

/-- `rangeSimilarity` is `yearsSimilarity` of the two `Years()` values: the laws above apply to it -/
theorem range_is_years (l r : DateR) (maxYears : Rat) :
    dateSimilarity (some l) (some r) maxYears = yearsSimilarity l.years r.years maxYears := rfl

theorem nameSimilarity_bounds (ns ms : List Str) (o : SimOpts) (hp : o.jaroPrefixSize ≤ 10) :
    0 ≤ nameSimilarity ns ms o ∧ nameSimilarity ns ms o ≤ 1 := by
  rw [nameSimilarity_eq]
  exact foldMax2_unit _ _ _ fun n _ m _ => (stringSimilarity_bounds n m _ _ hp).2

theorem indiSimilarity_bounds (x y : Indi) (o : SimOpts) (ho : o.Valid) :
    0 ≤ indiSimilarity x y o ∧ indiSimilarity x y o ≤ 1 := by
  unfold indiSimilarity
  simp only
  have hn := nameSimilarity_bounds x.names y.names o ho.prefix_le
  have hm := mean_bounds (dateNode_bounds x.birth y.birth o.maxYears)
    (dateNode_bounds x.death y.death o.maxYears)
  exact convex_bounds _ _ _ hn.1 hn.2 hm.1 hm.2 ho.ratio_nonneg ho.ratio_le_one

theorem individual_bounds (x y : Option Indi) (o : SimOpts) (ho : o.Valid) :
    0 ≤ individualSimilarity x y o ∧ individualSimilarity x y o ≤ 1 := by
  unfold individualSimilarity
  split
  · exact indiSimilarity_bounds _ _ o ho
  · constructor <;> decide +kernel

/-- operand order does not matter for two individuals (any number of names on either side) -/
theorem individual_symm (x y : Option Indi) (o : SimOpts) :
    individualSimilarity x y o = individualSimilarity y x o := by
  cases x <;> cases y <;> simp only [individualSimilarity]
  rename_i a b
  exact indiSimilarity_symm a b o

theorem individual_missing_is_half (x : Option Indi) (o : SimOpts) :
    individualSimilarity none x o = 1 / 2 ∧ individualSimilarity x none o = 1 / 2 := by
  cases x <;> simp [individualSimilarity]

/-- an individual with a non-blank name and with both estimated dates scores 1
    against itself (identical names and identical dates) -/
theorem individual_self (x : Indi) (o : SimOpts) (hp : o.jaroPrefixSize ≤ 10)
    (n : Str) (hn : n ∈ x.names) (hne : Gedcom.cleanSpace n ≠ [])
    (b d : DateR) (hb : x.birth = some b) (hd : x.death = some d) :
    individualSimilarity (some x) (some x) o = 1 := by
  show indiSimilarity x x o = 1
  unfold indiSimilarity
  simp only
  have h1 : nameSimilarity x.names x.names o = 1 := by
    apply Rat.le_antisymm (nameSimilarity_bounds _ _ o hp).2
    rw [nameSimilarity_eq]
    obtain ⟨_, hall, _⟩ := foldMax2_spec _ rat_lt_asymm rat_not_lt_trans
      (fun n m => stringSimilarity n m o.jaroBoostThreshold o.jaroPrefixSize) 0 x.names x.names
    have := hall n hn n hn
    rw [identity_is_one n _ _ hne] at this
    exact Rat.not_lt.mp this
  rw [h1, hb, hd, dateNode_identical, dateNode_identical]
  show (1 : Rat) * o.nameToDateRatio + (1 + 1) / 2 * (1 - o.nameToDateRatio) = 1
  grind

/-! ## From the raw record: DATE strings parsed by the model of `NewDateRangeWithString`, estimated
      dates selected as `EstimatedBirthDate/DeathDate` do (what the driver runs on the wire) -/

/-- for every pair of DATE values whatsoever — valid, approximate, ranges, phrases, rubbish -/
theorem date_string_laws (l r : Option Str) (s : Str) (maxYears : Rat) :
    (0 ≤ dateStringSimilarity l r maxYears ∧ dateStringSimilarity l r maxYears ≤ 1) ∧
    dateStringSimilarity l r maxYears = dateStringSimilarity r l maxYears ∧
    dateStringSimilarity (some s) (some s) maxYears = 1 ∧
    dateStringSimilarity none r maxYears = 1 / 2 := by
  refine ⟨dateNode_bounds _ _ _, dateSimilarity_comm _ _ _, dateNode_identical _ _, ?_⟩
  cases r <;> simp [dateStringSimilarity, dateSimilarity]

/-- bounds and operand-order independence for individuals given as raw records -/
theorem raw_individual_laws (x y : Option RawIndi) (o : SimOpts) (ho : o.Valid) :
    (0 ≤ individualSimilarity (x.map RawIndi.toIndi) (y.map RawIndi.toIndi) o ∧
      individualSimilarity (x.map RawIndi.toIndi) (y.map RawIndi.toIndi) o ≤ 1) ∧
    individualSimilarity (x.map RawIndi.toIndi) (y.map RawIndi.toIndi) o =
      individualSimilarity (y.map RawIndi.toIndi) (x.map RawIndi.toIndi) o :=
  ⟨individual_bounds _ _ o ho, individual_symm _ _ o⟩

/-- for lists of any length, with duplicates and with people shared between the two sides: the
    winner loop takes each left individual at most once, so the 0.5-padding count is never
    negative -/
theorem list_bounds (xs ys : List Indi) (o : SimOpts) (ho : o.Valid) :
    0 ≤ listSimilarity xs ys o ∧ listSimilarity xs ys o ≤ 1 := by
  unfold listSimilarity
  split
  · constructor <;> decide
  · split
    · constructor <;> decide +kernel
    · rename_i h1 h2
      simp only
      have hw := winners_length_le o.minimumSimilarity xs ys o
      refine padded_mean_bounds (sumSims_bounds _ fun c hc => ?_) (by omega) (by omega)
      rw [(mem_matrix (mem_sortDesc.mp (winners_mem hc))).2.2]
      exact indiSimilarity_bounds _ _ o ho

/-- two empty lists are identical (1); one empty list is missing information (one half) -/
theorem list_missing_is_half (xs : List Indi) (o : SimOpts) (h : xs ≠ []) :
    listSimilarity [] [] o = 1 ∧ listSimilarity [] xs o = 1 / 2 ∧ listSimilarity xs [] o = 1 / 2 := by
  have : xs.length ≠ 0 := fun e => h (List.length_eq_zero_iff.mp e)
  simp [listSimilarity, this]

/-- no individual (node) occurs twice inside the list -/
def NoRepeats (xs : List Indi) : Prop := (xs.map (·.id)).Nodup

instance (xs : List Indi) : Decidable (NoRepeats xs) := by unfold NoRepeats; exact inferInstance

/-
  Full statement: `list_symm` without `NoRepeats`.  Not proved and not refuted: with an
  individual repeated inside one list the rows of the score matrix repeat; no asymmetry exists
  among all lists of length ≤ 3 over 5 individuals on the implementation (73 008 cases, 3
  thresholds) nor in 400 000 random abstract instances, but the argument below needs "same left
  individual ⇔ same row".

  Before the fix "list similarity tracks matched individuals per side" the statement was false
  even under `NoRepeats` as soon as the two lists shared an individual (one `found` map for both
  sides): {P0,P1} vs {P3,P1,P0} scored 2/3 one way and 5/6 the other (see fixes/C12-list-found-
  per-side.msg; the harness replays it on every run).
-/

/-- list similarity does not depend on the operand order — score ties included, lists of any
    length, the two lists may share individuals.  The winner loop over the stably sorted matrix
    is the greedy selection for "higher score, then row, then column"; the swapped call is the
    one for "higher score, then column, then row"; cells that can block each other are ordered
    alike by both, and the accepted set is determined by that (unique fixed point). -/
theorem list_symm (xs ys : List Indi) (o : SimOpts) (hx : NoRepeats xs) (hy : NoRepeats ys) :
    listSimilarity xs ys o = listSimilarity ys xs o :=
  listSimilarity_symm_of_orders xs ys o (ordersAgree_of_no_repeats hx hy)

theorem family_bounds (f g : Fam) (o : SimOpts) (ho : o.Valid) :
    0 ≤ familySimilarity f g o ∧ familySimilarity f g o ≤ 1 := by
  unfold familySimilarity
  exact mean_bounds (individual_bounds f.husband g.husband o ho)
    (individual_bounds f.wife g.wife o ho)

theorem family_symm (f g : Fam) (o : SimOpts) : familySimilarity f g o = familySimilarity g f o := by
  unfold familySimilarity
  rw [individual_symm f.husband g.husband, individual_symm f.wife g.wife]

/-- the best score over the matrix of parent families does not depend on the operand order -/
theorem parents_symm (ps qs : List Fam) (o : SimOpts) :
    parentsSimilarity ps qs o = parentsSimilarity qs ps o := by
  rw [parentsSimilarity_eq, parentsSimilarity_eq, Bool.or_comm]
  split
  · rfl
  · exact foldMax2_comm _ _ 0 ps qs (fun p _ q _ => family_symm p q o)

theorem family_missing_is_half (g : Fam) (o : SimOpts) :
    familySimilarity ⟨none, none⟩ g o = 1 / 2 := by
  simp only [familySimilarity, individualSimilarity]
  decide +kernel

theorem default_options_valid : defaultOpts.Valid := by
  constructor <;> decide +kernel

theorem parentsSimilarity_bounds (ps qs : List Fam) (o : SimOpts) (ho : o.Valid) :
    0 ≤ parentsSimilarity ps qs o ∧ parentsSimilarity ps qs o ≤ 1 := by
  rw [parentsSimilarity_eq]
  split
  · constructor <;> decide +kernel
  · exact foldMax2_unit _ _ _ fun p _ q _ => (family_bounds p q o ho).2

/-- all four components returned by `SurroundingSimilarity` lie in [0,1] and carry valid weights
    (the early-exit branch returns zeros with the default options, which are valid: a proof
    obligation on the regenerated defaults) -/
theorem surrounding_bounds (x y : Surround) (o : SimOpts) (force : Bool) (ho : o.Valid) :
    (surroundingSimilarity x y o force).WF := by
  unfold surroundingSimilarity
  simp only
  split
  · exact ⟨by constructor <;> decide, by constructor <;> decide, by constructor <;> decide,
      by constructor <;> decide, default_options_valid⟩
  · exact ⟨parentsSimilarity_bounds _ _ o ho, indiSimilarity_bounds _ _ o ho,
      list_bounds _ _ o ho, list_bounds _ _ o ho, ho⟩

/-- all four components (hence the weighted score) do not depend on the operand order when no
    spouse and no child is listed twice -/
theorem surrounding_symm (x y : Surround) (o : SimOpts) (force : Bool)
    (h1 : NoRepeats x.spouses) (h2 : NoRepeats y.spouses)
    (h3 : NoRepeats x.children) (h4 : NoRepeats y.children) :
    surroundingSimilarity x y o force = surroundingSimilarity y x o force := by
  unfold surroundingSimilarity
  simp only
  rw [indiSimilarity_symm x.self y.self o, parents_symm x.parents y.parents o,
    list_symm x.spouses y.spouses o h1 h2, list_symm x.children y.children o h3 h4]

/-- non-negative weights that sum to 1 keep the weighted score in [0,1] -/
theorem weighted_bounds (x y : Surround) (o : SimOpts) (force : Bool) (ho : o.Valid) :
    0 ≤ weightedSimilarity (surroundingSimilarity x y o force) ∧
    weightedSimilarity (surroundingSimilarity x y o force) ≤ 1 :=
  weightedSimilarity_bounds _ (surrounding_bounds x y o force ho)

/-- missing parents on either side score the neutral one half -/
theorem parents_missing_is_half (qs : List Fam) (o : SimOpts) :
    parentsSimilarity [] qs o = 1 / 2 ∧ parentsSimilarity qs [] o = 1 / 2 := by
  simp [parentsSimilarity]

/-! ## Non-vacuity (tests on literals, not the property) -/

-- MARTHA / MARHTA: a window > 0, one transposed pair
example : jaro [77, 65, 82, 84, 72, 65] [77, 65, 82, 72, 84, 65] = 17 / 18 := by decide +kernel
-- the boost branch is taken and is strictly inside (0,1)
example : jaroWinkler [97, 98, 99, 100] [97, 98, 100, 99] 0 8 = 11 / 15 := by decide +kernel
-- normalisation: "Jo  HN." ~ "jo hn"
example : cleanName [74, 111, 32, 32, 72, 78, 46] = [106, 111, 32, 104, 110] := by decide +kernel
-- a pair on which the two greedy runs visit the positions in different orders (window 1)
example : jaro [97, 98, 97, 97, 98, 98] [98, 97, 97, 98, 97, 98] = jaro [98, 97, 97, 98, 97, 98] [97, 98, 97, 97, 98, 98] ∧
    jaro [97, 98, 97, 97, 98, 98] [98, 97, 97, 98, 97, 98] = 8 / 9 := by decide +kernel
-- the default options are a valid configuration, so every `Valid` hypothesis above is satisfiable
example : defaultOpts.Valid := default_options_valid
-- a date pair strictly inside the parabola: 1900 vs 1901, MaxYears 3
example : dateSimilarity (some ⟨⟨0, 0, 1900⟩, ⟨0, 0, 1900⟩⟩) (some ⟨⟨0, 0, 1901⟩, ⟨0, 0, 1901⟩⟩) 3 = 8 / 9 := by
  decide +kernel

-- the witness of the fix "list similarity tracks matched individuals per side": three people of
-- one document, tie-heavy (P0~P1 and P1~P3 score 1), the two lists share P0 and P1
def wDate : Option DateR := some ⟨⟨0, 0, 1900⟩, ⟨0, 0, 1900⟩⟩
def wP0 : Indi := ⟨0, [[74, 111, 104, 110, 32, 83, 109, 105, 116, 104]], wDate, wDate⟩
def wP1 : Indi := ⟨1, [[74, 111, 104, 110, 32, 83, 109, 105, 116, 104], [74, 97, 110, 101, 32, 68, 111, 101]], wDate, wDate⟩
def wP3 : Indi := ⟨3, [[74, 97, 110, 101, 32, 68, 111, 101]], wDate, wDate⟩
example : NoRepeats [wP0, wP1] ∧ NoRepeats [wP3, wP1, wP0] ∧
    listSimilarity [wP0, wP1] [wP3, wP1, wP0] defaultOpts = 5 / 6 ∧
    listSimilarity [wP3, wP1, wP0] [wP0, wP1] defaultOpts = 5 / 6 := by decide +kernel

end Gedcom.C12

/-
  C08 — A node diff accounts for every node and leaves its inputs alone.
  The property theorems (the invariant of the two passes they rest on is `compare_all`,
  Lemmas/Diff.lean).  All are about `compareNodes` / `Diff.sort` / `Diff.isDeepEqual` / `diffRun`, the functions the driver executes
  against `CompareNodes`, `Sort`, `IsDeepEqual`, `String`, `Tag` of /repo/node_diff.go, for *all* pairs
  of id-carrying trees (no bound on size, depth or width).
  `INode.At t d x`: `x` is a node of `t` at depth `d`; `EntryAt D d e`: `e` is an entry of the diff `D`
  at depth `d`.  Nodes carry their id, so `x = y` is identity when ids are unique.
-/
import Gedcom.Lemmas.DiffDeep
import Gedcom.Lemmas.DiffPair
import Gedcom.Lemmas.DiffSort
import Gedcom.Generated.DiffSrc
import Gedcom.Lemmas.EqualGuard
namespace Gedcom.C08
open Diff

/-- **Provenance.** The left node of every entry is a node of the left input at the entry's depth,
    the right node one of the right input at that depth, and no entry lacks both. -/
theorem provenance (l r : INode) {d : Nat} {e : Diff} (he : EntryAt (compareNodes l r) d e) :
    (∀ x, e.left = some x → INode.At l d x) ∧ (∀ y, e.right = some y → INode.At r d y) ∧
      (e.left.isSome ∨ e.right.isSome) :=
  let ⟨h1, h2, h3⟩ := (compare_entry iequals l r he).1
  ⟨h1, h2, h3⟩

/-- the root entry holds the two compared nodes themselves -/
theorem root_entry (l r : INode) :
    (compareNodes l r).left = some l ∧ (compareNodes l r).right = some r := by
  rw [compareNodes, compareWith_eq]
  exact ⟨rfl, rfl⟩

/-- **Coverage, left input.** Every node of the left input is represented, at its depth, by an
    entry whose *left* node is that node or a node that `Equals` it. -/
theorem coverage_left (l r : INode) {d : Nat} {x : INode} (hx : INode.At l d x) :
    ∃ e h, EntryAt (compareNodes l r) d e ∧ e.left = some h ∧ (h = x ∨ iequals h x = true) := by
  -- after the left pass some entry holds it, necessarily on the left (no entry has a right node yet)
  obtain ⟨e0, he0, h, hs, heq⟩ :=
    (traverse_cover iequals true l d Diff.empty x hx ⟨l, Or.inl rfl, Or.inl rfl⟩).entry
  have hl0 : e0.left = some h :=
    hs.resolve_right (by rw [((leftPass_all iequals l).entry he0).2.2]; nofun)
  -- the right pass keeps the entry and its left node
  obtain ⟨e, he, hl⟩ := (traverse_ex iequals false (fun L _ => L = some h)
    (fun n L R hL => hL ▸ fillL_some false n h) r d _ (Diff.Ex.of_entry he0 hl0)).entry
  exact ⟨e, h, he, hl, heq⟩

/-- **Coverage, right input.** Every node of the right input is represented, at its depth, by an
    entry holding (on either side) that node or a node that `Equals` it. -/
theorem coverage_right (l r : INode) {d : Nat} {y : INode} (hy : INode.At r d y) :
    ∃ e h, EntryAt (compareNodes l r) d e ∧ (e.left = some h ∨ e.right = some h) ∧
      (h = y ∨ iequals h y = true) := by
  have hfree := (leftPass_all iequals l).root.2.2
  obtain ⟨e, he, ⟨h, hs, heq⟩⟩ := (traverse_cover iequals false r d _ y hy
    ⟨r, Or.inr (by rw [hfree]; rfl), Or.inl rfl⟩).entry
  exact ⟨e, h, he, hs, heq⟩

/-- **Coverage.** Every input node is represented by an entry, at the node's depth, holding a node
    equal to it (the node itself, or one whose `Equals` accepts it). -/
theorem coverage (l r : INode) {d : Nat} {x : INode} (hx : INode.At l d x ∨ INode.At r d x) :
    ∃ e h, EntryAt (compareNodes l r) d e ∧ (e.left = some h ∨ e.right = some h) ∧
      (h = x ∨ iequals h x = true) := by
  rcases hx with hx | hx
  · obtain ⟨e, h, he, hl, heq⟩ := coverage_left l r hx
    exact ⟨e, h, he, Or.inl hl, heq⟩
  · exact coverage_right l r hx

/-- **Coverage, as the property words it.** Every input node is represented by an entry, at the
    node's depth, holding a node whose `Equals` accepts it (`Equals` is reflexive — C07 — so this
    includes the entries that hold the node itself). -/
theorem coverage_equals (l r : INode) {d : Nat} {x : INode} (hx : INode.At l d x ∨ INode.At r d x) :
    ∃ e h, EntryAt (compareNodes l r) d e ∧ (e.left = some h ∨ e.right = some h) ∧
      iequals h x = true := by
  obtain ⟨e, h, he, hs, heq⟩ := coverage l r hx
  refine ⟨e, h, he, hs, ?_⟩
  rcases heq with rfl | heq
  · exact iequals_refl _
  · exact heq

/-- **Two-sided only when both inputs contain such a node.** An entry below the root that has both
    sides holds a node of the left input and a node of the right input, at the entry's depth, of
    which the left `Equals` the right.  (The root entry always holds both compared nodes.) -/
theorem two_sided (l r : INode) {d : Nat} {e : Diff} {x y : INode}
    (he : EntryAt (compareNodes l r) (d + 1) e) (hl : e.left = some x) (hr : e.right = some y) :
    INode.At l (d + 1) x ∧ INode.At r (d + 1) y ∧ iequals x y = true := by
  have := compare_entry iequals l r he
  exact ⟨this.1.left x hl, this.1.right y hr, this.2 (Nat.le_add_left 1 d) x y hl hr⟩

/-- `two_sided` as an equivalence on the entry: it is two-sided exactly when its right node is a
    node of the right input that its left node `Equals`. -/
theorem two_sided_iff (l r : INode) {d : Nat} {e : Diff} {x : INode}
    (he : EntryAt (compareNodes l r) (d + 1) e) (hl : e.left = some x) :
    e.right.isSome ↔ ∃ y, e.right = some y ∧ INode.At r (d + 1) y ∧ iequals x y = true := by
  constructor
  · intro h
    cases hr : e.right with
    | none => rw [hr] at h; cases h
    | some y => exact ⟨y, rfl, (two_sided l r he hl hr).2⟩
  · rintro ⟨y, hy, _⟩; simp [hy]

/-- **No missed pairing** (the converse of `two_sided`): when a right node ends up alone in a
    right-only entry, the left node of no sibling entry `Equals` it — had one done so, the node would
    have been paired with it instead. -/
theorem no_missed_pair (l r : INode) {d : Nat} {p ci cj : Diff} {x y : INode}
    (hp : EntryAt (compareNodes l r) d p) (hi : ci ∈ p.kids) (hj : cj ∈ p.kids)
    (hx : ci.left = some x) (hnl : cj.left = none) (hy : cj.right = some y) :
    iequals x y = false :=
  compare_sibOK iequals l r hp ci hi cj hj x y hx hnl hy

/-- **One-sided entries.** An entry whose left node `Equals` no node of the right input at that depth
    has no right node … -/
theorem one_sided_left (l r : INode) {d : Nat} {e : Diff} {x : INode}
    (he : EntryAt (compareNodes l r) (d + 1) e) (hl : e.left = some x)
    (hno : ∀ y, INode.At r (d + 1) y → iequals x y = false) : e.right = none := by
  cases hr : e.right with
  | none => rfl
  | some y =>
    have h := two_sided l r he hl hr
    exact absurd (hno y h.2.1 ▸ h.2.2) Bool.false_ne_true

/-- … and an entry whose right node is accepted by the `Equals` of no left input node at that depth
    has no left node. -/
theorem one_sided_right (l r : INode) {d : Nat} {e : Diff} {y : INode}
    (he : EntryAt (compareNodes l r) (d + 1) e) (hr : e.right = some y)
    (hno : ∀ x, INode.At l (d + 1) x → iequals x y = false) : e.left = none := by
  cases hl : e.left with
  | none => rfl
  | some x =>
    have h := two_sided l r he hl hr
    exact absurd (hno x h.1 ▸ h.2.2) Bool.false_ne_true

/-- **A node present on the left only yields a left-only entry**: if no other left node at its depth
    `Equals` it and it `Equals` no right node at that depth, some entry has exactly this node on the
    left and nothing on the right. -/
theorem one_sided (l r : INode) {d : Nat} {x : INode} (hx : INode.At l (d + 1) x)
    (hown : ∀ x', INode.At l (d + 1) x' → iequals x' x = true → x' = x)
    (hother : ∀ y, INode.At r (d + 1) y → iequals x y = false) :
    ∃ e, EntryAt (compareNodes l r) (d + 1) e ∧ e.left = some x ∧ e.right = none := by
  obtain ⟨e, h, he, hl, heq⟩ := coverage_left l r hx
  have hh : h = x := heq.elim id (hown h ((provenance l r he).1 h hl))
  subst hh
  exact ⟨e, he, hl, one_sided_left l r he hl hother⟩

/-- **A node present on the right only yields a right-only entry**: if it is not a node of the left
    input, no left node at its depth `Equals` it and no other right node at that depth `Equals`
    it, some entry has exactly this node on the right and nothing on the left. -/
theorem one_sided_of_right (l r : INode) {d : Nat} {y : INode} (hy : INode.At r (d + 1) y)
    (hown : ∀ y', INode.At r (d + 1) y' → iequals y' y = true → y' = y)
    (hother : ∀ x, INode.At l (d + 1) x → x ≠ y ∧ iequals x y = false) :
    ∃ e, EntryAt (compareNodes l r) (d + 1) e ∧ e.right = some y ∧ e.left = none := by
  obtain ⟨e, h, he, hs, heq⟩ := coverage_right l r hy
  have hprov := provenance l r he
  rcases hs with hs | hs
  · -- the holder cannot be a left node
    have hat := hprov.1 h hs
    have := hother h hat
    rcases heq with heq | heq
    · exact absurd heq this.1
    · rw [this.2] at heq; cases heq
  · have hh : h = y := heq.elim id (hown h (hprov.2.1 h hs))
    subst hh
    exact ⟨e, he, hs, one_sided_right l r he hs (fun x hx => (hother x hx).2)⟩

theorem isDeepEqualL_all : ∀ (cs : List Diff) (d : Nat), Diff.isDeepEqualL cs = true →
    ∀ c ∈ cs, Diff.All (fun _ L R => L.isSome = true ∧ R.isSome = true) d c :=
  fun _ d h c hc => (isDeepEqual_iff_all c d).mp (Diff.isDeepEqualL_iff.mp h c hc)

theorem allL_isDeepEqual : ∀ (cs : List Diff) (d : Nat),
    (∀ c ∈ cs, Diff.All (fun _ L R => L.isSome = true ∧ R.isSome = true) d c) →
    Diff.isDeepEqualL cs = true :=
  fun _ d h => Diff.isDeepEqualL_iff.mpr (fun c hc => (isDeepEqual_iff_all c d).mpr (h c hc))

/-- `IsDeepEqual` is true exactly when every entry of the diff, at every depth, is two-sided -/
theorem isDeepEqual_iff (D : Diff) :
    D.isDeepEqual = true ↔ ∀ d e, EntryAt D d e → e.left.isSome = true ∧ e.right.isSome = true := by
  rw [isDeepEqual_iff_all D 0]
  exact ⟨fun h d e he => h.entry he, fun h => Diff.All.of_entries D 0 (fun k e he => h k e he)⟩

/-- **`Sort` only reorders.** The entries of the sorted diff at depth `d` hold exactly the pairs of
    nodes that the entries of the original diff at depth `d` hold — so provenance, coverage, pairing
    and one-sidedness (all statements about which nodes an entry at a given depth holds) survive
    sorting. -/
theorem sort_entries (D : Diff) (d : Nat) (L R : Option INode) :
    (∃ e', EntryAt D.sort d e' ∧ e'.left = L ∧ e'.right = R) ↔
      (∃ e, EntryAt D d e ∧ e.left = L ∧ e.right = R) := by
  constructor
  · rintro ⟨e', he', hl, hr⟩
    obtain ⟨e, he, rfl⟩ := (entryAt_sort d D e').mp he'
    exact ⟨e, he, (sort_left e).symm.trans hl, (sort_right e).symm.trans hr⟩
  · rintro ⟨e, he, hl, hr⟩
    exact ⟨e.sort, (entryAt_sort d D _).mpr ⟨e, he, rfl⟩, (sort_left e).trans hl, (sort_right e).trans hr⟩

theorem provenance_sorted (l r : INode) {d : Nat} {e : Diff}
    (he : EntryAt (compareNodes l r).sort d e) :
    (∀ x, e.left = some x → INode.At l d x) ∧ (∀ y, e.right = some y → INode.At r d y) ∧
      (e.left.isSome ∨ e.right.isSome) := by
  obtain ⟨e0, he0, rfl⟩ := (entryAt_sort d _ e).mp he
  rw [sort_left, sort_right]
  exact provenance l r he0

/-- `IsDeepEqual` is not affected by `Sort` -/
theorem isDeepEqual_sort (D : Diff) : D.sort.isDeepEqual = D.isDeepEqual := by
  apply Bool.eq_iff_iff.mpr
  rw [isDeepEqual_iff, isDeepEqual_iff]
  constructor
  · intro h d e he
    have := h d e.sort ((entryAt_sort d D _).mpr ⟨e, he, rfl⟩)
    rwa [sort_left, sort_right] at this
  · intro h d e' he'
    obtain ⟨e, he, rfl⟩ := (entryAt_sort d D e').mp he'
    rw [sort_left, sort_right]
    exact h d e he

/-- **Uniqueness of the stable sort** (generic): if `lt` is a strict weak order on the elements of
    `l`, every sorted and stable arrangement of `l` — given as a permutation `r` of the elements
    tagged with their original positions — equals `sliceStable lt l`.  So Go's `sort.SliceStable`
    (insertion-sorted blocks of 20 merged by `symMerge`, a stable sort) and the model's insertion
    sort agree for any number of elements. -/
theorem sliceStable_unique {α : Type} (lt : α → α → Bool) (l : List α) (h : swoB lt l = true)
    (r : List (α × Nat)) (hperm : r.Perm l.zipIdx)
    (hsorted : r.Pairwise (fun p q => lt q.1 p.1 = false))
    (hstable : r.Pairwise (fun p q => lt p.1 q.1 = false → p.2 < q.2)) :
    r.map (·.1) = sliceStable lt l :=
  sliceStable_unique_idx lt (swoB_sound lt l h) r hperm hsorted hstable

/-- **`Sort` of an entry is the stable sort of its children by `isLessThan`**, whenever
    `isLessThan` is a strict weak order on them (`Diff.sortExact` checks this for the lists of more
    than 20 children, where Go no longer runs the plain insertion sort): any sorted, stable
    arrangement `r` of the keyed children yields exactly the children of the sorted entry. -/
theorem sort_kids_unique (L R : Option INode) (cs : List Diff)
    (h : swoB lessKey (Diff.flatKeys cs) = true)
    (r : List ((SortKey × Diff) × Nat)) (hperm : r.Perm (Diff.sortKeyed cs).zipIdx)
    (hsorted : r.Pairwise (fun p q => lessKey q.1.1 p.1.1 = false))
    (hstable : r.Pairwise (fun p q => lessKey p.1.1 q.1.1 = false → p.2 < q.2)) :
    r.map (·.1.2) = ((Diff.mk L R cs).sort).kids := by
  have hswo : SWOOn (fun a b : SortKey × Diff => lessKey a.1 b.1) (Diff.sortKeyed cs) :=
    (swoB_sound lessKey _ h).of_mem Prod.fst (fun _ hb => flatKeys_eq cs ▸ List.mem_map_of_mem hb)
  have := sliceStable_unique_idx (fun a b : SortKey × Diff => lessKey a.1 b.1) hswo r hperm hsorted hstable
  rw [sort_kids, ← this, List.map_map]
  rfl

/-- **Where `isLessThan` is not a strict weak order.** Entries whose tags share a `sortValue` level
    are compared by `Years()` when both are `Yearer`s (DATE, EVEN, RESI) and by value otherwise, so
    mixing the two kinds on one level can cycle: DATE `1900` < PLAC `5 Main St` (values),
    PLAC `5 Main St` < DATE `Abt. 1850` (values), DATE `Abt. 1850` < DATE `1900` (years).  On such
    lists the result of `sort.SliceStable` depends on its algorithm; the model is Go's insertion
    sort, exact up to 20 entries. -/
theorem isLessThan_not_strict_weak :
    swoB lessNode [.mk (lit "DATE") (lit "1900") [] [], .mk (lit "PLAC") (lit "5 Main St") [] [],
      .mk (lit "DATE") (lit "Abt. 1850") [] []] = false := by
  -- the cycle is first < second < third < first; its three comparisons are evaluated
  exact swoB_false_of_cycle List.mem_cons_self (List.mem_cons_of_mem _ List.mem_cons_self)
    (List.mem_cons_of_mem _ (List.mem_cons_of_mem _ List.mem_cons_self)) (by decide +kernel)

-- the decision logic is the source's: the go/ast translation in Generated/DiffSrc.lean, interpreted
section source
open Gedcom.DiffSrc Gedcom.Generated.DiffSrc

/-- **Obligation.** Everything the translator read from `traverse` and `isLessThan` was inside its
    fragment: the statement shapes are the expected ones, every condition uses only the atoms and
    comparisons of its context, every assignment goes to `nd.Left` or `nd.Right`, and both operands
    of `isLessThan` are flattened with `LeftNode()` (the model sorts by `flatten true`). -/
theorem diff_source_translated :
    traverseNilGuard = true ∧ traverseStatementsRecognised = true ∧ traverseLoopShape = true ∧
    matchLoopOnlyIfs = true ∧ matchBodiesUniform = true ∧
    (traverseAssigns.all fun g => g.cond.inFragment .side && g.slot != .bad) = true ∧
    (matchConds.all fun c => c.inFragment .matching) = true ∧
    lessStatementsRecognised = true ∧ lessOperands = ["LeftNode", "LeftNode"] ∧
    (lessCases.all fun c => c.cond.inFragment .less && c.result.inFragment .less) = true ∧
    lessDefault.inFragment .less = true := by decide +kernel

/-- **The side assignments of `traverse` are the model's `fillL` / `fillR`.** Executing the source's
    guarded assignments in order, for either side, any node and any state of the entry, sets the
    entry's nodes to exactly what the model's `traverse` puts there. -/
theorem traverse_sides_is_source (isLeft : Bool) (n : INode) (L R : Option INode) :
    runGuarded isLeft n traverseAssigns (L, R) = (fillL isLeft n L, fillR isLeft n R) := by
  -- the interpreter is run in the eight states (which side, left present, right present)
  cases isLeft <;> cases L <;> cases R <;> rfl

/-- **The match conditions of the inner loop are the model's `matchesNode`.** A child is sent into
    an existing entry by the source's `if` statements exactly when `Diff.matchesNode` holds. -/
theorem traverse_match_is_source (eq : INode → INode → Bool) (k : INode) (c : Diff) :
    runMatch eq k c matchConds = Diff.matchesNode eq k c := by
  cases c with | mk L R cs =>
  cases L <;> cases R <;>
    simp [runMatch, matchConds, BExp.eval, matchAtoms, Diff.matchesNode, Diff.left, Diff.right]

/-- **The comparison cascade of `isLessThan` is the model's `lessKey`**, for all pairs of keys:
    tag sort level first, then `Years()` when both are `Yearer`s, then the value. -/
theorem isLessThan_is_source (a b : SortKey) :
    runCascade a b lessCases lessDefault = lessKey a b := by
  simp only [lessCases, lessDefault, runCascade, BExp.eval, lessNe, lessLt, lessAtoms, keyOf, lessKey]
  by_cases h : a.level = b.level
  · simp [h]
  · have hne : (a.level != b.level) = true := by simpa using h
    simp only [hne, if_true]
    exact decide_eq_decide.mpr Iff.rfl

/-- the two nodes `traverse` leaves in an entry are those the interpreted source assigns -/
theorem traverse_is_source (eq : INode → INode → Bool) (isLeft : Bool) (n : INode) (D : Diff) :
    (traverse eq isLeft n D).left = (runGuarded isLeft n traverseAssigns (D.left, D.right)).1 ∧
    (traverse eq isLeft n D).right = (runGuarded isLeft n traverseAssigns (D.left, D.right)).2 := by
  rw [traverse_sides_is_source, traverse_left, traverse_right]
  exact ⟨rfl, rfl⟩
end source

/-- The guard of `deepEqual_all_two_sided_partial` (C07's transitivity guard, per level of the comparison):
    among the nodes of depth `d + 1` of both inputs `Equals` is reflexive, symmetric and transitive.
    It holds for all trees of plain nodes and fails only for siblings such as RESI / EVEN nodes
    with overlapping sets of dates or constrained DATE values. -/
def EquivLevels (l r : INode) : Prop :=
  ∀ d a b c, (INode.At l (d + 1) a ∨ INode.At r (d + 1) a) → (INode.At l (d + 1) b ∨ INode.At r (d + 1) b) →
    (INode.At l (d + 1) c ∨ INode.At r (d + 1) c) →
    iequals a a = true ∧ (iequals a b = true → iequals b a = true) ∧
      (iequals a b = true → iequals b c = true → iequals a c = true)

theorem equivLevels_iff_guard (l r : INode) :
    EquivLevels l r ↔ EquivGuard iequals (l.kids ++ r.kids) := by
  unfold EquivLevels EquivGuard
  simp only [belowLevel_kids_append]

/-- **Two deep-equal inputs give an all-two-sided diff** (for example a tree and a reordered copy),
    provided `Equals` is an equivalence on every level.  The full statement — without the guard —
    is false of the code: `deepEqual_all_two_sided_counterexample`. -/
theorem deepEqual_all_two_sided_partial (l r : INode) (hde : deepEqual l.erase r.erase = true)
    (hg : EquivLevels l r) : (compareNodes l r).isDeepEqual = true := by
  refine (isDeepEqual_iff _).mpr fun d e he => ?_
  rw [compareNodes, compareWith_eq] at he
  exact twoPass_two_sided iequals DeepEq (fun _ _ h => h.shallow) (fun _ _ h => h.kids) d l r _ _
    (DeepEq.kids hde) ((equivLevels_iff_guard l r).mp hg) e he

/-- the guard is not vacuous: it holds for every pair of trees whose nodes all have the plain
    `SimpleNode.Equals` (tag, value and pointer) -/
theorem equivLevels_of_plain (l r : INode)
    (hl : ∀ d a, INode.At l d a → a.erase.rule = .simple)
    (hr : ∀ d a, INode.At r d a → a.erase.rule = .simple) : EquivLevels l r := by
  intro d a b c ha _ _
  have hpa : a.erase.rule = .simple := ha.elim (hl _ _) (hr _ _)
  -- symmetry and transitivity have side conditions for DATE, RESI, EVEN only
  have nd : a.erase.rule ≠ .date := by rw [hpa]; nofun
  have nre : ¬(a.erase.rule = .resi ∨ a.erase.rule = .even) := by rw [hpa]; nofun
  exact ⟨iequals_refl a,
    equalsShallow_symm (absurd · nd) (absurd · nre) (absurd · nre),
    equalsShallow_trans (absurd · nd) (absurd · nre) (absurd · nre)⟩

theorem okNode_at {D : List Str} {l a : INode} {d : Nat} (h : INode.At l d a)
    (hok : okNode D l.erase = true) : okNode D a.erase = true := by
  induction h with
  | root n => exact hok
  | kid hk _ ih =>
    apply ih (okNode_kid hok _)
    rw [INode.erase_kids]
    exact List.mem_map_of_mem hk

/-- **The guard beyond plain nodes**: it holds for every pair of trees — any node kinds:
    BIRT / DEAT / BURI / BAPM, DATE, `_UID`, RESI, EVEN — provided `DateNode.Equals` is an
    equivalence on the DATE values present (C07's guard `dateEquiv` / `okNode`, which
    `C07.guard_of_plain` gives for all values without a before / after constraint) and the RESI /
    EVEN nodes are undated, i.e. compared through their children (PLAC children / value and all
    children).  Dated RESI / EVEN siblings are what the counterexample below uses. -/
theorem equivLevels_of_undated (D : List Str) (hD : dateEquiv D = true) (l r : INode)
    (hl : okNode D l.erase = true) (hr : okNode D r.erase = true)
    (ul : ∀ d a, INode.At l d a → a.erase.rule = .resi ∨ a.erase.rule = .even → a.erase.dates = [])
    (ur : ∀ d a, INode.At r d a → a.erase.rule = .resi ∨ a.erase.rule = .even → a.erase.dates = []) :
    EquivLevels l r := by
  intro d a b c ha hb hc
  have ok : ∀ x, INode.At l (d + 1) x ∨ INode.At r (d + 1) x → okNode D x.erase = true :=
    fun x hx => hx.elim (okNode_at · hl) (okNode_at · hr)
  have ub : b.erase.rule = .resi ∨ b.erase.rule = .even → b.erase.dates = [] :=
    hb.elim (ul _ _) (ur _ _)
  refine ⟨iequals_refl a,
    equalsShallow_symm_of_ok D hD _ _ (ok a ha) (ok b hb), ?_⟩
  intro h1 h2
  -- the middle node has the rule of the first, so it is undated when the first is RESI / EVEN
  exact equalsShallow_trans_undated D hD _ _ _ (ok a ha) (ok b hb) (ok c hc)
    (fun hra => ub (by rw [equalsShallow_rule h1]; exact hra)) h1 h2

/-- … hence a tree and any deep-equal tree (for example a re-ordered copy) with undated RESI / EVEN
    nodes and DATE values on which `DateNode.Equals` is an equivalence give an all-two-sided diff. -/
theorem deepEqual_all_two_sided_undated (D : List Str) (hD : dateEquiv D = true) (l r : INode)
    (hde : deepEqual l.erase r.erase = true)
    (hl : okNode D l.erase = true) (hr : okNode D r.erase = true)
    (ul : ∀ d a, INode.At l d a → a.erase.rule = .resi ∨ a.erase.rule = .even → a.erase.dates = [])
    (ur : ∀ d a, INode.At r d a → a.erase.rule = .resi ∨ a.erase.rule = .even → a.erase.dates = []) :
    (compareNodes l r).isDeepEqual = true :=
  deepEqual_all_two_sided_partial l r hde (equivLevels_of_undated D hD l r hl hr ul ur)

/-- undated RESI siblings with permuted PLAC children: deep-equal, and the diff says so -/
example :
    let a : INode := (labelNode 0 (.mk (lit "INDI") [] (lit "P1") [
      .mk (lit "RESI") [] [] [.mk (lit "PLAC") (lit "a") [] [], .mk (lit "PLAC") (lit "b") [] []],
      .mk (lit "RESI") [] [] [.mk (lit "PLAC") (lit "c") [] []]])).1
    let b : INode := (labelNode 100 (.mk (lit "INDI") [] (lit "P1") [
      .mk (lit "RESI") [] [] [.mk (lit "PLAC") (lit "c") [] []],
      .mk (lit "RESI") [] [] [.mk (lit "PLAC") (lit "b") [] [], .mk (lit "PLAC") (lit "a") [] []]])).1
    deepEqual a.erase b.erase = true ∧ (compareNodes a b).isDeepEqual = true ∧
      okNode [] a.erase = true ∧ dateEquiv [] = true := by decide +kernel

/-- **The guard is decidable by the model**: when the executable check `equivLevelsB` (the driver
    answers it for every generated case) says yes, the guard holds. -/
theorem equivLevels_of_check (l r : INode) (h : equivLevelsB l r = true) : EquivLevels l r :=
  (equivLevels_iff_guard l r).mpr (guardB_sound iequals _ _ h)

/-- `deepEqual_all_two_sided_partial` with the executable guard: whenever the model answers
    `deepEqual = true` and `equivLevelsB = true` for a pair, the diff is all-two-sided.  The harness
    owes all-two-sidedness of the implementation exactly on these answers. -/
theorem deepEqual_all_two_sided_checked (l r : INode) (hde : deepEqual l.erase r.erase = true)
    (hc : equivLevelsB l r = true) : (compareNodes l r).isDeepEqual = true :=
  deepEqual_all_two_sided_partial l r hde (equivLevels_of_check l r hc)

/-- a tree with the RESI children {1900}, {1901}, {1900, 1901} and the copy with the children in the
    order 3, 1, 2 -/
def chainL : INode :=
  (labelNode 0 (.mk (lit "ZROOT") [] [] [
    .mk (lit "RESI") [] [] [.mk (lit "DATE") (lit "1900") [] []],
    .mk (lit "RESI") [] [] [.mk (lit "DATE") (lit "1901") [] []],
    .mk (lit "RESI") [] [] [.mk (lit "DATE") (lit "1900") [] [], .mk (lit "DATE") (lit "1901") [] []]])).1
def chainR : INode :=
  (labelNode 1000000 (.mk (lit "ZROOT") [] [] [
    .mk (lit "RESI") [] [] [.mk (lit "DATE") (lit "1900") [] [], .mk (lit "DATE") (lit "1901") [] []],
    .mk (lit "RESI") [] [] [.mk (lit "DATE") (lit "1900") [] []],
    .mk (lit "RESI") [] [] [.mk (lit "DATE") (lit "1901") [] []]])).1

/-- **Counterexample to the unguarded statement** (known finding `nontransitive-siblings`, replayed
    on the implementation by the harness stream "RESI chain"): the two inputs are deep-equal — the
    second is a reordered copy of the first — but the diff has a left-only entry, because
    RESI{1900} `Equals` RESI{1900,1901} `Equals` RESI{1901} while RESI{1900} does not equal RESI{1901}. -/
theorem deepEqual_all_two_sided_counterexample :
    deepEqual chainL.erase chainR.erase = true ∧ (compareNodes chainL chainR).isDeepEqual = false := by
  decide +kernel

/-- the pair on which defect 8 was observed: BIRT{DATE 1900}, DEAT against BIRT{DATE 1901}, DEAT -/
def witnessL : INode :=
  (labelNode 0 (.mk (lit "ZROOT") [] [] [.mk (lit "BIRT") [] [] [.mk (lit "DATE") (lit "1900") [] []],
    .mk (lit "DEAT") [] [] []])).1
def witnessR : INode :=
  (labelNode 1000000 (.mk (lit "ZROOT") [] [] [.mk (lit "BIRT") [] [] [.mk (lit "DATE") (lit "1901") [] []],
    .mk (lit "DEAT") [] [] []])).1

/-- the flags regenerated from the current code say that `Sort` does not write to the compared
    nodes (fails to check as soon as `LeftNode`/`RightNode` flatten in place again) -/
theorem sort_does_not_write : sortMutates = false := by decide

theorem applyWrites_nil (n : INode) : applyWrites [] n = n := rfl

theorem stepWith_false_inputs (w : DiffWorld) (op : DiffOp) :
    (diffStepWith false w op).1.left = w.left ∧ (diffStepWith false w op).1.right = w.right := by
  cases op <;> simp [diffStepWith, applyWrites_nil]

theorem runWith_false_inputs : ∀ (ops : List DiffOp) (w : DiffWorld),
    (diffRunWith false w ops).1.left = w.left ∧ (diffRunWith false w ops).1.right = w.right
  | [], w => by simp [diffRunWith]
  | op :: ops, w => by
    simp only [diffRunWith]
    have h1 := stepWith_false_inputs w op
    have h2 := runWith_false_inputs ops (diffStepWith false w op).1
    exact ⟨h2.1.trans h1.1, h2.2.trans h1.2⟩

/-- **Purity.** Computing a diff and then applying CompareNodes, String, IsDeepEqual, Sort and Tag in
    any order and any number of times leaves both compared trees exactly as they were.  `diffRun` is
    the model of the current code: what `Sort` writes is decided by the regenerated flags. -/
theorem pure (l r : INode) (ops : List DiffOp) :
    (diffRun (DiffWorld.init l r) ops).1.left = l ∧ (diffRun (DiffWorld.init l r) ops).1.right = r := by
  unfold diffRun
  rw [sort_does_not_write]
  exact runWith_false_inputs ops (DiffWorld.init l r)

/-- the model of the *unrepaired* code (in-place flattening) does modify the left input: on the
    witness of defect 8 the left BIRT node gains two children (DATE 1900 again and DATE 1901) -/
theorem pure_needs_copy :
    (diffRunWith true (DiffWorld.init witnessL witnessR) [.sort]).1.left.size = witnessL.size + 2 := by
  decide +kernel

/-- the witness pair has a two-sided, a left-only and a right-only entry -/
example : (compareNodes witnessL witnessR).isDeepEqual = false := by decide +kernel
example : ((compareNodes witnessL witnessR).kids.map (fun e => (e.left.isSome, e.right.isSome)) =
    [(true, true), (true, true)]) ∧
    (((compareNodes witnessL witnessR).kids.head?.map (fun e => e.kids.map
      (fun c => (c.left.isSome, c.right.isSome)))) = some [(true, false), (false, true)]) := by decide +kernel
/-- a plain tree and its reordered copy: all two-sided -/
example : (compareNodes
    (labelNode 0 (.mk (lit "ZROOT") [] [] [.mk (lit "NOTE") (lit "a") [] [], .mk (lit "OCCU") (lit "b") [] []])).1
    (labelNode 1000000 (.mk (lit "ZROOT") [] [] [.mk (lit "OCCU") (lit "b") [] [], .mk (lit "NOTE") (lit "a") [] []])).1
  ).isDeepEqual = true := by decide +kernel
/-- operations in some order on the witness leave the inputs alone (instance of `pure`) -/
example : (diffRun (DiffWorld.init witnessL witnessR) [.sort, .string, .compare, .sort, .tag]).1.left.size =
    witnessL.size := by rw [(pure _ _ _).1]

end Gedcom.C08

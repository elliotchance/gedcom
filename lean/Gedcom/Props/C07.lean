/-
  C07 — Deep equality ignores order and deep copies are independent.

  Model: Gedcom/Model/Equal.lean (`equalsShallow`, `deepEqual`, `deepEqualNodes` — the functions
  the driver runs for `deq` / `deqn`); Gedcom/Model/CopyDoc.lean (`deepCopyIn`, `copyIntoDoc`,
  `filterIntoDoc`, `World.run` — what the copy theorems are about; run for `copydoc` /
  `filterdoc`) on Gedcom/Model/Ident.lean (`copyTree`, `applyMut`, `render`, and `deepCopy` =
  `deepCopyIn none` — run for `copy` / `mut`).

  The guard.  Equality of two DATE values (`DateRange.Equals`) is neither symmetric nor transitive
  once constraints are involved (`Bef. 1900` equals `Bef. 1901` but not the other way round;
  `3 Sep 1943` = `Bef. Oct 1943` = `5 Sep 1943` ≠ `3 Sep 1943`).  Because `DeepEqualNodes` matches
  greedily, symmetry, permutation invariance and edit detection are false of the code in general
  (`perm_counterexample`, `symm_counterexample`).  They are proved under the explicit decidable
  guard
      `dateEquiv D = true`   — `dateValueEquals` is symmetric and transitive on the list `D`
      `okNode D t = true`    — every DATE value occurring in `t` is in `D`
  (take `D` = all DATE values of the trees compared; trees without DATE nodes satisfy it with
  `D = []`).  The guard excludes exactly the finding: nothing else is assumed — in particular
  RESI / EVEN nodes with several dates, whose *shallow* `Equals` ("some pair of dates is equal")
  is not transitive, are covered, because `DeepEqual` also matches the children.
  Reflexivity up to copying and every statement about copies hold without a guard.
  In the docstrings FULL marks a theorem that holds of every input, PARTIAL (guard) one that is
  proved under this guard only, COUNTEREXAMPLE a witness against the unguarded statement.
-/
import Gedcom.Lemmas.EqualGuard
import Gedcom.Lemmas.ReorderEdit
import Gedcom.Lemmas.Ident
import Gedcom.Lemmas.CopyDoc
import Gedcom.Lemmas.DateGuard
import Gedcom.Lemmas.DocSt
import Gedcom.Lemmas.CopySeq
import Gedcom.Lemmas.EqualSrc
namespace Gedcom.C07

/-- FULL.  Every tree is deep-equal to a deep copy of itself, whatever the node kinds involved
    (plain, BIRT/DEAT/BURI/BAPM, RESI, EVEN, DATE incl. phrases and unparsable values, _UID incl.
    malformed ids — the latter only after the repair of `UniqueIDNode.Equals`). -/
theorem deepEqual_copy (ctx : Option (Nat × Str)) (next : Nat) (t c : INode) (n : Nat) (w : List Nat)
    (f : List Str)
    (h : deepCopyIn ctx next t = .ok c n w f) : deepEqual t.erase c.erase = true := by
  rw [(deepCopyIn_ok h).value]
  exact deepEqual_refl _

/-- FULL (value form of the above). -/
theorem deepEqual_refl (t : Node) : deepEqual t t = true := Gedcom.deepEqual_refl t

/-- PARTIAL (guard).  Deep equality is symmetric.  The unguarded statement
    `∀ a b, deepEqual a b = deepEqual b a` is false: `symm_counterexample`. -/
theorem deepEqual_symm (D : List Str) (hD : dateEquiv D = true) (a b : Node)
    (ha : okNode D a = true) (hb : okNode D b = true) : deepEqual a b = deepEqual b a := by
  apply Bool.eq_iff_iff.mpr
  exact ⟨deepEqual_symm_of_ok D hD a b ha hb, deepEqual_symm_of_ok D hD b a hb ha⟩

/-- PARTIAL (guard).  Deep equality is transitive (with reflexivity and symmetry: an equivalence). -/
theorem deepEqual_trans (D : List Str) (hD : dateEquiv D = true) (a b c : Node)
    (ha : okNode D a = true) (hb : okNode D b = true) (hc : okNode D c = true)
    (h1 : deepEqual a b = true) (h2 : deepEqual b c = true) : deepEqual a c = true :=
  deepEqual_trans_of_ok D hD a b c ha hb hc h1 h2

/-- PARTIAL (guard).  A tree is deep-equal to any re-ordering of its children at any number of
    levels at once.  The unguarded statement `Reorder a b → deepEqual a b` is false:
    `perm_counterexample`. -/
theorem deepEqual_perm (D : List Str) (hD : dateEquiv D = true) (a b : Node) (h : Reorder a b)
    (ha : okNode D a = true) (hb : okNode D b = true) : deepEqual a b = true := by
  induction a using Node.induct generalizing b with
  | h t v p ks ih =>
    cases h with
    | @mk t v p ks ks'' ks' hL hP =>
      exact deepEqual_of_matched_kids D hD rfl rfl rfl ha hb (G.matched_iff.mpr ⟨ks'', hP.symm,
        hL.all2_on fun x hx y hy hxy =>
          ih x hx y hxy (okNode_kid ha hx) (okNode_kid hb (hP.subset hy))⟩)

/-- PARTIAL (guard).  Trees that differ by one edit — the value of a plain node changed, a node
    inserted or a node deleted, at any position and depth — are never deep-equal.  (Insertions
    and deletions at the top level, and a changed root value, need no guard: the child counts or
    the roots differ; the guard is what makes the difference propagate upwards through the greedy
    matching of the ancestors' sibling lists.) -/
theorem edit_detected (D : List Str) (hD : dateEquiv D = true) (a b : Node) (h : Edit a b)
    (ha : okNode D a = true) (hb : okNode D b = true) : deepEqual a b = false := by
  revert ha hb
  induction h with
  | @change t v v' p ks hr hv =>
    intro _ _
    rw [deepEqual_eq, equalsShallow_simple hr]
    simp [Node.value, hv]
  | @insert t v p pre post n => exact fun _ _ => deepEqual_of_length_ne (by simp [Node.kids])
  | @delete t v p pre post n => exact fun _ _ => deepEqual_of_length_ne (by simp [Node.kids])
  | @child t v p pre post c c' _ ih =>
    intro ha hb
    have hc : okNode D c = true := okNode_kid ha (by simp [Node.kids])
    have hc' : okNode D c' = true := okNode_kid hb (by simp [Node.kids])
    have hcc := ih hc hc'
    rw [deepEqual_eq]
    cases hk : deepEqualNodes (pre ++ c :: post) (pre ++ c' :: post) with
    | false => simp [Node.kids, hk]
    | true =>
      -- matched lists give `c` equally many deep-equal partners on both sides, but the left
      -- list has `c` itself where the right one has `c'`, which is not a partner
      exfalso
      have hcnt := (Gedcom.deepEqualNodes_sound hk).countP_eq c (fun x hx y hy hxy => by
        have hx' : okNode D x = true := okNode_kid ha (by simpa [Node.kids] using hx)
        have hy' : okNode D y = true := okNode_kid hb (by simpa [Node.kids] using hy)
        apply Bool.eq_iff_iff.mpr
        constructor
        · intro h1; exact deepEqual_trans_of_ok D hD c x y hc hx' hy' h1 hxy
        · intro h1
          exact deepEqual_trans_of_ok D hD c y x hc hy' hx' h1
            (deepEqual_symm_of_ok D hD x y hx' hy' hxy))
      simp only [List.countP_append, List.countP_cons, deepEqual_refl, hcc] at hcnt
      simp at hcnt

/-- The code's `DeepEqualNodes` (greedy, first unused match) decides the existence of a perfect
    matching whenever deep equality behaves on the nodes involved; in general it only implies one. -/
theorem deepEqualNodes_sound (l r : List Node) (h : deepEqualNodes l r = true) :
    G.Matched deepEqual l r :=
  Gedcom.deepEqualNodes_sound h

theorem deepEqualNodes_complete (D : List Str) (hD : dateEquiv D = true) (l r : List Node)
    (hl : ∀ x ∈ l, okNode D x = true) (hr : ∀ x ∈ r, okNode D x = true)
    (h : G.Matched deepEqual l r) : deepEqualNodes l r = true :=
  deepEqualNodes_of_matched D hD hl hr h

/-- `Date.Equals` — the 4×4 table of date.go, which `date_equals_is_the_source`
    ties to the source — is symmetric on a pair of dates iff the pair is not `asymPair`: both
    non-zero, the same one-sided constraint (before / before or after / after) and different
    `Years()`.  Every other combination of constraints is symmetric. -/
theorem date_equals_symm_iff (a b : PDate) :
    a.equals b = b.equals a ↔ a.asymPair b = false := by
  rw [PDate.equals_table, PDate.equals_table, PDate.is_comm b a, Bool.or_comm b.isZero]
  unfold PDate.asymPair
  cases hza : a.isZero
  case true => simp
  cases hzb : b.isZero
  case true => simp
  cases hi : a.is b
  · -- the table: only before/before and after/after compare `Years()` in both directions
    simp only [Bool.or_false, Bool.false_eq_true, if_false, Bool.not_false, Bool.true_and]
    cases a.constraint <;> cases b.constraint
    case before.before => exact PDate.yearsLt_eq_swap_iff a b
    case after.after => rw [eq_comm]; exact PDate.yearsLt_eq_swap_iff a b
    all_goals simp [DateMatcher.at, DateMatcher.run, Constraint.oneSided, PDate.sameDMY_comm b a]
  · have hs := PDate.sameDMY_of_is hi
    have h1 := PDate.yearsLt_of_sameDMY hs
    rw [PDate.sameDMY_comm] at hs
    simp [h1, PDate.yearsLt_of_sameDMY hs]

/-- A non-zero date is symmetric against *every* date iff it carries no
    before / after constraint: each before / after date has a partner (year 1 or year 2 with the
    same constraint) against which `Date.Equals` answers differently in the two directions.  The
    plain class of `guard_of_plain` is therefore the largest class of dates that is safe in every
    company. -/
theorem symm_against_all_iff_plain (a : PDate) (hz : a.isZero = false) :
    (∀ b : PDate, a.equals b = b.equals a) ↔ plainPDate a = true := by
  constructor
  · intro hall
    cases hc : a.constraint.oneSided
    · simp [plainPDate, hc]
    · obtain ⟨b, _, hb⟩ := oneSided_breaks a hz hc
      have := (date_equals_symm_iff a b).mp (hall b)
      rw [hb] at this; cases this
  · intro hp b
    apply (date_equals_symm_iff a b).mpr
    simp only [plainPDate, Bool.not_eq_true'] at hp
    simp [PDate.asymPair, hp]

/-- `DateNode.Equals` is symmetric on two values unless their start dates or their end dates form
    an asymmetric pair of `Date.Equals` (the driver reports both bits for `dsym`). -/
theorem date_node_equals_symm (a b : Str)
    (hs : (parseDateRange a).start.asymPair (parseDateRange b).start = false)
    (he : (parseDateRange a).end_.asymPair (parseDateRange b).end_ = false) :
    dateValueEquals a b = dateValueEquals b a := by
  unfold dateValueEquals DateRange.equals
  rw [(date_equals_symm_iff _ _).mpr hs, (date_equals_symm_iff _ _).mpr he]
  rw [Bool.and_comm (parseDateRange a).isPhrase, Bool.and_comm (!(parseDateRange a).isValid),
    Bool.beq_comm (a := (parseDateRange a).original)]

/-- The guard holds for every set of plain DATE values: values that do not
    parse to a valid range (phrases, unparsable text, zero dates — compared by original string) and
    values neither end of which carries a before / after constraint (exact and about dates,
    ranges of them).  On them `DateRange.Equals` is "same string, or both valid with the same
    day / month / year at both ends" (`dateValueEquals_plain`). -/
theorem guard_of_plain (D : List Str) (h : D.all plainDateValue = true) : dateEquiv D = true :=
  dateEquiv_of_plain D h

/-- Outside the guard the laws fail: for every list `D` of DATE values on which
    `DateRange.Equals` is not symmetric and transitive there are trees all of whose DATE values lie
    in `D` on which `DeepEqual` is not symmetric, or which are re-orderings of each other and not
    deep-equal.  So the set of inputs excluded by the guard is exactly the set on which the
    finding can be (and, by these witnesses, is) reproduced. -/
theorem guard_weakest (D : List Str) (h : dateEquiv D = false) :
    (∃ x y, okNode D x = true ∧ okNode D y = true ∧
      deepEqual x y = true ∧ deepEqual y x = false) ∨
    (∃ x y, okNode D x = true ∧ okNode D y = true ∧ Reorder x y ∧ deepEqual x y = false) :=
  Gedcom.guard_weakest D h

/-- For a list `D` of DATE values: symmetry and permutation invariance of `DeepEqual` hold
    for all trees over `D` if and only if the guard holds for `D`. -/
theorem laws_iff_guard (D : List Str) :
    dateEquiv D = true ↔
      ((∀ a b, okNode D a = true → okNode D b = true → deepEqual a b = deepEqual b a) ∧
       (∀ a b, okNode D a = true → okNode D b = true → Reorder a b → deepEqual a b = true)) := by
  constructor
  · intro hD
    exact ⟨fun a b ha hb => deepEqual_symm D hD a b ha hb,
      fun a b ha hb h => deepEqual_perm D hD a b h ha hb⟩
  · intro ⟨hs, hp⟩
    cases hD : dateEquiv D
    · exfalso
      rcases Gedcom.guard_weakest D hD with ⟨x, y, hx, hy, h1, h2⟩ | ⟨x, y, hx, hy, hr, h1⟩
      · rw [hs x y hx hy, h2] at h1; cases h1
      · rw [hp x y hx hy hr] at h1; cases h1
    · rfl

/-- PARTIAL (guard).  The *shallow* `Equals` is symmetric for every kind of node — RESI / EVEN
    with or without DATE children included (their undated form compares the children deeply). -/
theorem equals_symm (D : List Str) (hD : dateEquiv D = true) (a b : Node)
    (ha : okNode D a = true) (hb : okNode D b = true) : equalsShallow a b = equalsShallow b a := by
  apply Bool.eq_iff_iff.mpr
  exact ⟨equalsShallow_symm_of_ok D hD a b ha hb, equalsShallow_symm_of_ok D hD b a hb ha⟩

/-- PARTIAL (guard).  The shallow `Equals` is transitive through a middle node without DATE
    children (needed for RESI / EVEN only): on undated RESI / EVEN nodes — whose equality depends
    on their children — `Equals` is an equivalence.  Through a dated middle node it is not
    (RESI{1900} = RESI{1900, 1901} = RESI{1901}: C08's finding), while `DeepEqual` is. -/
theorem equals_trans_undated (D : List Str) (hD : dateEquiv D = true) (a b c : Node)
    (ha : okNode D a = true) (hb : okNode D b = true) (hc : okNode D c = true)
    (hund : a.rule = .resi ∨ a.rule = .even → b.dates = [])
    (h1 : equalsShallow a b = true) (h2 : equalsShallow b c = true) :
    equalsShallow a c = true :=
  equalsShallow_trans_undated D hD a b c ha hb hc hund h1 h2

/-- the plain class is not empty, excludes the one-sided constraints, and the asymmetric pairs are
    real: before 1900 / before 1901 -/
example : plainDateValue (lit "3 Sep 1943") = true ∧ plainDateValue (lit "Abt. 1943") = true ∧
    plainDateValue (lit "(unknown)") = true ∧ plainDateValue (lit "Bet. 1940 and 1950") = true ∧
    plainDateValue (lit "Bef. 1900") = false ∧ plainDateValue (lit "Aft. 3 Sep 1943") = false := by
  decide +kernel
example : PDate.asymPair ⟨0, 0, 1900, .before, false⟩ ⟨0, 0, 1901, .before, false⟩ = true ∧
    PDate.asymPair ⟨0, 0, 1900, .before, false⟩ ⟨0, 0, 1901, .exact, false⟩ = false := by
  decide +kernel
/-- undated RESI nodes whose PLAC children are permuted are `Equals` -/
example : equalsShallow
    (.mk (lit "RESI") [] [] [.mk (lit "PLAC") (lit "a") [] [], .mk (lit "PLAC") (lit "b") [] []])
    (.mk (lit "RESI") [] [] [.mk (lit "PLAC") (lit "b") [] [], .mk (lit "PLAC") (lit "a") [] []]) = true := by
  decide +kernel

/-! ## counterexamples to the unguarded statements (known finding: non-transitive sibling
    equality), replayed on the implementation by the harness -/

private def dn (v : String) : Node := .mk (lit "DATE") (lit v) [] []
/-- BIRT with three DATE children … -/
def permWitness : Node :=
  .mk (lit "BIRT") [] [] [dn "3 Sep 1943", dn "Bef. Oct 1943", dn "5 Sep 1943"]
/-- … and its rotation -/
def permWitness' : Node :=
  .mk (lit "BIRT") [] [] [dn "Bef. Oct 1943", dn "5 Sep 1943", dn "3 Sep 1943"]

/-- COUNTEREXAMPLE.  Permutation invariance fails without the guard: the greedy matching pairs
    `3 Sep 1943` with `Bef. Oct 1943`, then `Bef. Oct 1943` with `5 Sep 1943`, and is left with
    `5 Sep 1943` against `3 Sep 1943`. -/
theorem perm_counterexample :
    Reorder permWitness permWitness' ∧ deepEqual permWitness permWitness' = false :=
  ⟨reorder_rotate (lit "3 Sep 1943") (lit "Bef. Oct 1943") (lit "5 Sep 1943"), by decide +kernel⟩

/-- COUNTEREXAMPLE.  Symmetry fails without the guard: `Bef. 1900` equals `Bef. 1901`
    (receiver before / argument before: "left.Years() < right.Years()") but not conversely. -/
theorem symm_counterexample :
    deepEqual (dn "Bef. 1900") (dn "Bef. 1901") = true ∧
    deepEqual (dn "Bef. 1901") (dn "Bef. 1900") = false := by
  decide +kernel

/-- the witnesses are excluded by the guard, as they must be -/
example : dateEquiv [lit "3 Sep 1943", lit "Bef. Oct 1943", lit "5 Sep 1943"] = false := by
  decide +kernel

/-- all existing objects have ids below the allocation counter -/
def Below (next : Nat) (t : INode) : Prop := ∀ i ∈ t.ids, i < next

/-- FULL.  A deep copy shares no node with its source. -/
theorem copy_fresh (ctx : Option (Nat × Str)) (next : Nat) (t c : INode) (n : Nat) (w : List Nat)
    (f : List Str)
    (hb : Below next t) (h : deepCopyIn ctx next t = .ok c n w f) : ∀ i ∈ c.ids, i ∉ t.ids := by
  intro i hi ht
  have := (deepCopyIn_ok h).fresh i hi
  have := hb i ht
  omega

/-- FULL.  A deep copy has the value of its source, hence serialises to identical GEDCOM at every
    indent (and `NoIndent`). -/
theorem copy_render (ctx : Option (Nat × Str)) (next : Nat) (t c : INode) (n : Nat) (w : List Nat)
    (f : List Str)
    (h : deepCopyIn ctx next t = .ok c n w f) (indent : Option Nat) :
    c.erase = t.erase ∧ render indent c.erase = render indent t.erase := by
  rw [(deepCopyIn_ok h).value]
  exact ⟨rfl, rfl⟩

/-- FULL.  Copying leaves the source untouched: every write of the walk (`AddNode`) goes to an
    object created by the walk. -/
theorem copy_source_untouched (ctx : Option (Nat × Str)) (next : Nat) (t c : INode) (n : Nat) (w : List Nat)
    (f : List Str)
    (hb : Below next t) (h : deepCopyIn ctx next t = .ok c n w f) : ∀ i ∈ w, i ∉ t.ids := by
  intro i hi ht
  have := (deepCopyIn_ok h).writes i hi
  have := hb i ht
  omega

/-- FULL.  Changing either never changes the other: a mutation (`AddNode`, `DeleteNode`,
    `SetNodes`) of any object of the copy leaves the source — hence its GEDCOM — as it was, and a
    mutation of any object of the source leaves the copy as it was. -/
theorem copy_frame (ctx : Option (Nat × Str)) (next : Nat) (t c : INode) (n : Nat) (w : List Nat)
    (f : List Str)
    (hb : Below next t) (h : deepCopyIn ctx next t = .ok c n w f) (m : Mut) :
    (m.target ∈ c.ids → applyMut m t = t) ∧ (m.target ∈ t.ids → applyMut m c = c) := by
  have hf := copy_fresh ctx next t c n w f hb h
  exact ⟨fun hc => applyMut_of_not_mem m t (hf _ hc),
    fun ht => applyMut_of_not_mem m c (fun hc => hf _ hc ht)⟩

/-- `deepCopy` of Model/Ident.lean is the case "no family outside the tree" -/
theorem deepCopy_eq (next : Nat) (t : INode) : deepCopy next t = deepCopyIn none next t := rfl

/-- FULL.  After the repair a copy never fails when the role nodes that are not below a FAM node
    have a family to belong to (they always do: HUSB / WIFE / CHIL nodes cannot be constructed
    without one) — in particular a HUSB / WIFE / CHIL node can be the root of the copy. -/
theorem copy_total (fi : Nat) (fp : Str) (next : Nat) (t : INode) :
    ∃ c n w f, deepCopyIn (some (fi, fp)) next t = .ok c n w f := by
  obtain ⟨r, hr, _⟩ := famWalk_isSome (some (fi, fp)) [] t rfl
  unfold deepCopyIn
  rw [hr]
  exact ⟨_, _, _, _, rfl⟩

/-- FULL.  What the copy asks the destination document for: `document.AddFamily(pointer)` exactly
    once per distinct source family that a role node of the walk belongs to, in the order they are
    first met, and nothing else: `f` lists the pointers, `ids` the source families. -/
theorem copy_families (ctx : Option (Nat × Str)) (next : Nat) (t c : INode) (n : Nat)
    (w : List Nat) (f : List Str) (h : deepCopyIn ctx next t = .ok c n w f) :
    f = (firstNew [] (famsUsed ctx t).2).2 ∧
    ∃ ids : List Nat, ids.Nodup ∧ ids.length = f.length ∧
      ∀ g, g ∈ ids ↔ g ∈ (famsUsed ctx t).2.map (·.1) := by
  have hf := (deepCopyIn_ok h).fams
  refine ⟨hf, (firstNew [] (famsUsed ctx t).2).1, firstNew_nodup [] _ List.nodup_nil, ?_, ?_⟩
  · rw [hf, firstNew_length]; rfl
  · intro g; rw [firstNew_mem]; simp

/-- FULL.  Effect on the destination document: it is the old record list followed by one empty
    FAM record (no value, no children, the source family's pointer) per `AddFamily` call, each a
    new object; nothing is removed, reordered or rewritten.  The source document is not an
    argument of the walk at all.  When source and destination are the SAME document this means:
    the source record is still in place and unchanged (so is every other record), no node is
    shared — but the document has gained those empty FAM records (`same_doc_redirected`). -/
theorem copy_doc_effect (ctx : Option (Nat × Str)) (dst : Doc) (next : Nat) (t : INode)
    (r : CopyDocResult) (h : copyIntoDoc ctx dst next t = some r) :
    ∃ fams : List INode, r.doc = dst ++ fams ∧ fams.map (·.ptr) = r.famAdds ∧
      (∀ x ∈ fams, x.tag = tagFAM ∧ x.value = [] ∧ x.kids = []) ∧
      (∀ x ∈ fams, next ≤ x.id ∧ x.id ∉ r.copy.ids) ∧ (fams.map (·.id)).Nodup ∧
      r.doc.take dst.length = dst := by
  unfold copyIntoDoc at h
  split at h
  · cases h
  · rename_i c nx w adds hc
    injection h with h
    obtain ⟨h1, h2, h3, h4⟩ := newFams_spec nx adds
    have hi := (deepCopyIn_ok hc).fresh
    refine ⟨(newFams nx adds).1, by rw [← h], by rw [← h]; exact h2,
      fun x hx => ⟨(h4 x hx).1, (h4 x hx).2.1, (h4 x hx).2.2.1⟩, ?_, ?_, by rw [← h]; simp⟩
    · -- the copy takes the ids from `next` to `nx`, the FAM records those from `nx`
      intro x hx
      obtain ⟨_, _, _, hge, _⟩ := h4 x hx
      have hlt := (deepCopyIn_ok hc).next_lt
      rw [← h]
      exact ⟨by omega, fun hm => by have := (hi _ hm).2; omega⟩
    · rw [h3]; exact List.nodup_range'

/-- FULL.  Copying into the document the source lives in redirects `NodeByPointer(p)` for every
    pointer `p` passed to `AddFamily`: the lookup now finds one of the new, empty FAM records
    (an object that did not exist before), not the source family. -/
theorem same_doc_redirected (ctx : Option (Nat × Str)) (dst : Doc) (next : Nat) (t : INode)
    (r : CopyDocResult) (h : copyIntoDoc ctx dst next t = some r) (p : Str) (hp : p ∈ r.famAdds) :
    ∃ i, r.doc.lookup p = some i ∧ next ≤ i := by
  obtain ⟨fams, hd, hptr, _, hfresh, _, _⟩ := copy_doc_effect ctx dst next t r h
  have hex : ∃ x ∈ fams, x.ptr = p := by
    rw [← hptr] at hp
    obtain ⟨x, hx, e⟩ := List.mem_map.mp hp
    exact ⟨x, hx, e⟩
  obtain ⟨x, hx, hxp⟩ := hex
  unfold Doc.lookup
  rw [hd, List.reverse_append, List.find?_append]
  cases hf : fams.reverse.find? (fun r => r.ptr == p) with
  | none =>
    have := List.find?_eq_none.mp hf x (List.mem_reverse.mpr hx)
    simp [hxp] at this
  | some y =>
    have hy := List.mem_reverse.mp (List.mem_of_find?_eq_some hf)
    exact ⟨y.id, by simp, (hfresh y hy).1⟩

/-! ## sequences of copies between documents

  `World` = several documents (record list, pointer index, families cache) and the allocation
  counter; `World.run w ops` performs the `DeepCopy(object, destination)` calls `ops` in order
  (the driver runs it for `copydoc`).  `w.Below`: every object of `w` was allocated before
  `w.next` (true of `⟨docs.map DocSt.ofRecords, n⟩` for documents labelled `0 … n-1`). -/

/-- FULL, every sequence of copies.  Source documents are untouched and the destination gains
    exactly the family records: after the sequence every document is its old record list — the
    same objects, hence the same text — followed by new, empty FAM records (objects allocated by
    the sequence); a document that is the destination of no operation is unchanged. -/
theorem copies_documents_only_grow (w : World) (ops : List CopyOp) (hb : w.Below) :
    (w.run ops).1.Below ∧ World.Grows w (w.run ops).1 ∧
    (∀ k, (∀ op ∈ ops, op.dst ≠ k) → (w.run ops).1.docs[k]? = w.docs[k]?) :=
  run_grows w ops hb

/-- FULL, every sequence (of `DeepCopy` and `Filter`-with-a-tag-filter calls).  Every result has
    the value of its source without the subtrees its filter rejects — for `DeepCopy` the value of
    its source, so it is deep-equal to it and renders identically —, consists only of objects
    allocated by its own operation, and the walk writes only to those. -/
theorem copies_fresh_and_equal (w : World) (ops : List CopyOp) (hb : w.Below) :
    ∀ e ∈ eventsOf (w.run ops).2,
      pruneNode e.op.keep e.source.erase = some e.result.copy.erase ∧
      (e.op.filter = none → e.result.copy.erase = e.source.erase ∧
        deepEqual e.source.erase e.result.copy.erase = true) ∧
      (∀ i ∈ e.result.copy.ids, w.next ≤ i ∧ e.start ≤ i ∧ i < e.result.next) ∧
      (∀ i ∈ e.result.writes, e.start ≤ i ∧ i < e.result.next) ∧
      (∀ d ∈ w.docs, ∀ i ∈ e.result.copy.ids, i ∉ idsList d.nodes) := by
  intro e he
  obtain ⟨h1, h3, h4, h5⟩ := run_events w ops hb e he
  refine ⟨h3, ?_, ?_, h5, ?_⟩
  · intro hn
    have e := CopyOp.value_of_copy hn h3
    exact ⟨e, by rw [e]; exact Gedcom.deepEqual_refl _⟩
  · intro i hi
    have := h4 i hi
    exact ⟨by omega, this.1, this.2⟩
  · intro d hd i hi hm
    have := (h4 i hi).1
    have := hb d hd i hm
    omega

/-- FULL, every sequence.  Different copies made by a sequence share no object. -/
theorem copies_pairwise_disjoint (w : World) (ops : List CopyOp) (hb : w.Below) :
    (eventsOf (w.run ops).2).Pairwise
      (fun a b => ∀ i ∈ a.result.copy.ids, i ∉ b.result.copy.ids) := by
  refine List.Pairwise.imp_of_mem ?_ (run_ordered w ops hb)
  intro a b ha hb' hab i hia hib
  have := (run_events w ops hb a ha).2.2.1 i hia
  have := (run_events w ops hb b hb').2.2.1 i hib
  omega

/-- FULL, every sequence.  Copying (or filtering with the same filter) the same object of a
    document twice — anywhere in a sequence, into any destinations, the source's own document
    included — gives results that are deep-equal
    to each other and to the source and share no object: an earlier copy never changes what a
    later one copies. -/
theorem copy_twice (w : World) (ops : List CopyOp) (hb : w.Below) (a b : CopyEvent)
    (hab : [a, b].Sublist (eventsOf (w.run ops).2))
    (hsrc : a.op.src = b.op.src) (hnode : a.op.node = b.op.node)
    (hfil : a.op.filter = b.op.filter)
    (hin : ∃ s x, w.docs[a.op.src]? = some s ∧ findRec a.op.node s.nodes = some x) :
    deepEqual a.result.copy.erase b.result.copy.erase = true ∧
    (a.op.filter = none → deepEqual a.source.erase a.result.copy.erase = true) ∧
    (∀ i ∈ a.result.copy.ids, i ∉ b.result.copy.ids) := by
  obtain ⟨s, ⟨r, t⟩, hs, hf⟩ := hin
  have ha : a ∈ eventsOf (w.run ops).2 := hab.subset (by simp)
  have hb' : b ∈ eventsOf (w.run ops).2 := hab.subset (by simp)
  have st := run_source_stable w ops hb
  have sa := (st a ha s r t hs hf).1
  have sb := (st b hb' s r t (by rw [← hsrc]; exact hs) (by rw [← hnode]; exact hf)).1
  have ev := run_events w ops hb
  have va := (ev a ha).2.1
  have vb := (ev b hb').2.1
  have hk : a.op.keep = b.op.keep := by unfold CopyOp.keep; rw [hfil]
  rw [sa] at va
  rw [sb, ← hk, va] at vb
  injection vb with vb
  refine ⟨by rw [vb]; exact deepEqual_refl _, ?_, ?_⟩
  · intro hn
    rw [sa, CopyOp.value_of_copy hn va]
    exact deepEqual_refl _
  · have hp := (copies_pairwise_disjoint w ops hb).sublist hab
    simp only [List.pairwise_cons, List.mem_singleton, forall_eq] at hp
    exact hp.1

/-- FULL, every sequence.  The pointer index and the families cache of every document stay
    coherent: `NodeByPointer` answers what a scan of the record list would (the record stored last
    under the pointer, so a copied family's pointer now finds the new record), and a cached
    `Families()` slice lists exactly the FAM records, the new ones included. -/
theorem copies_keep_caches_coherent (w : World) (ops : List CopyOp)
    (hc : ∀ d ∈ w.docs, d.coherent) : ∀ d ∈ (w.run ops).1.docs, d.coherent := by
  induction ops generalizing w with
  | nil => exact hc
  | cons op ops ih =>
    refine ih _ ?_
    rcases step_cases w op with h | ⟨_, d, _, _, d', _, _, hd, _, he, h⟩
    · rw [h]; exact hc
    · rw [h]
      intro d0 hd0
      rcases List.mem_or_eq_of_mem_set hd0 with hm | rfl
      · exact hc d0 hm
      · exact he.coherent (hc d (List.mem_of_getElem? hd))

/-- `DocSt.ofRecords`, what the driver's worlds start from, meets the hypothesis of
    `copies_keep_caches_coherent` -/
theorem decoded_coherent (recs : List INode) : (DocSt.ofRecords recs).coherent := by
  constructor
  · intro q hq
    unfold DocSt.ofRecords DocSt.nodeByPointer Doc.lookup
    simp only
    rw [← List.map_reverse, ← List.filter_reverse]
    generalize recs.reverse = l
    induction l with
    | nil => rfl
    | cons x xs ih =>
      cases hx : x.ptr.isEmpty
      · simp only [List.filter_cons, hx, Bool.not_false, if_true, List.map_cons, List.find?_cons]
        cases hpq : x.ptr == q
        · exact ih
        · rfl
      · have hp : x.ptr = [] := List.isEmpty_iff.mp hx
        have : (x.ptr == q) = false := by rw [hp, List.nil_beq_eq, List.isEmpty_eq_false_iff.mpr hq]
        simp only [List.filter_cons, hx, Bool.not_true, Bool.false_eq_true, if_false,
          List.find?_cons, this]
        exact ih
  · intro l hl
    simp [DocSt.ofRecords] at hl

/-- FULL.  Every role node (HUSB / WIFE / CHIL) of a copy is re-created against the destination:
    the family it belongs to is one of the FAM records its walk added there (objects
    `n … n + adds - 1`), never a family of the source. -/
theorem copy_roles_rehomed (ctx : Option (Nat × Str)) (next : Nat) (t c : INode) (n : Nat)
    (w : List Nat) (adds : List Str) (h : deepCopyIn ctx next t = .ok c n w adds) :
    ∀ f ∈ roleFamilies ctx n t, n ≤ f ∧ f < n + adds.length := by
  intro f hf
  unfold roleFamilies at hf
  simp only [List.mem_map] at hf
  obtain ⟨u, hu, rfl⟩ := hf
  have hadds := (deepCopyIn_ok h).fams
  have hmem : u.1 ∈ (firstNew [] (famsUsed ctx t).2).1.reverse := by
    rw [List.mem_reverse, firstNew_mem]
    exact Or.inr (List.mem_map_of_mem (f := (·.1)) hu)
  have hlen : (firstNew [] (famsUsed ctx t).2).1.reverse.length = adds.length := by
    rw [List.length_reverse, firstNew_length, ← hadds]; rfl
  have := List.idxOf_lt_length_of_mem hmem
  rw [hlen] at this
  omega

/-- a family with two role nodes copied twice from document 0 into document 1: two events, the
    second copy's objects follow the first's, document 1 gains two FAM records, document 0 none -/
example :
    let fam : INode := .mk 0 (lit "FAM") [] (lit "F1")
      [.mk 1 (lit "HUSB") (lit "@I1@") [] [], .mk 2 (lit "WIFE") (lit "@I2@") [] []]
    let w : World := ⟨[DocSt.ofRecords [fam], DocSt.ofRecords []], 3⟩
    let r := w.run [{ src := 0, node := 0, dst := 1 }, { src := 0, node := 0, dst := 1 }]
    (eventsOf r.2).map (fun e => (e.result.copy.ids, roleFamilies e.ctx (e.start + 3) e.source)) =
      [([3, 4, 5], [6, 6]), ([7, 8, 9], [10, 10])] ∧
    r.1.docs.map (fun d => d.nodes.map (·.id)) = [[0], [6, 10]] ∧
    r.1.docs.map (fun d => d.nodeByPointer (lit "F1")) = [some 0, some 10] ∧
    r.1.docs.map (·.families) = [[0], [6, 10]] := by decide +kernel

/-- FULL.  `Filter(t, dst, WhitelistTagFilter(…) / BlacklistTagFilter(…))` that returns a node:
    the result has the value of the source without the subtrees of rejected tags, consists of new
    objects only and the walk writes only to them; the destination keeps its records and gains
    exactly one new empty FAM record if the result contains a role node, nothing otherwise; its
    pointer index and families cache stay coherent.  The source document is not an argument. -/
theorem filter_into_document (ctx : Option (Nat × Str)) (dst d' : DocSt) (next : Nat)
    (keep : Str → Bool) (t : INode) (r : CopyDocResult)
    (h : filterIntoDoc ctx dst next keep t = (.ok r, d')) :
    pruneNode keep t.erase = some r.copy.erase ∧
    (∀ i ∈ r.copy.ids, next ≤ i ∧ i < r.next) ∧ (∀ i ∈ r.writes, next ≤ i ∧ i < r.next) ∧
    r.doc = d'.nodes ∧
    (∃ added, d'.nodes = dst.nodes ++ added ∧ added.length = r.famAdds.length ∧
      (added = [] ↔ roleIds r.copy = []) ∧ added.length ≤ 1 ∧
      ∀ x ∈ added, x.tag = tagFAM ∧ x.value = [] ∧ x.kids = [] ∧ next ≤ x.id ∧ x.id < r.next ∧
        x.id ∉ r.copy.ids) ∧
    (dst.coherent → d'.coherent) ∧ next < r.next := by
  obtain ⟨he, hrole, hlen⟩ := Effect.of_filter h
  obtain ⟨added, a1, alen, a5⟩ := he.added
  have hnil : added = [] ↔ r.famAdds = [] := by
    rw [← List.length_eq_zero_iff, alen, List.length_eq_zero_iff]
  exact ⟨he.value, he.fresh, he.writes, he.doc,
    ⟨added, a1, alen, hnil.trans hrole, by rw [alen]; exact hlen, a5⟩, he.coherent, he.next_lt⟩

/-- FULL.  `Filter` returns nil exactly when the root's tag is rejected; the destination is then
    untouched. -/
theorem filter_nil_untouched (ctx : Option (Nat × Str)) (dst d' : DocSt) (next : Nat)
    (keep : Str → Bool) (t : INode) (h : filterIntoDoc ctx dst next keep t = (.nil, d')) :
    d' = dst ∧ pruneNode keep t.erase = none ∧ keep t.tag = false := by
  unfold filterIntoDoc at h
  have sp := filterTree_spec keep next t
  split at h
  · rename_i hf
    rw [hf] at sp
    injection h with _ h2
    refine ⟨h2.symm, sp, ?_⟩
    cases t with
    | mk i tg v p ks =>
      simp only [filterTree] at hf
      cases hk : keep tg
      · simpa [INode.tag] using hk
      · simp [hk] at hf
  · split at h
    · cases h
    · split at h <;> cases h

/-- `DeepCopy`'s walk is `Filter`'s walk with the filter that keeps every tag. -/
theorem deep_copy_is_filter_all (next : Nat) (t : INode) :
    filterTree (fun _ => true) next t = some (copyTree next t) := filterTree_all next t

/-- a FAM record filtered into an empty document without its NOTE: two role nodes kept, one FAM
    record added, found under the pointer -/
example :
    let fam : INode := .mk 0 (lit "FAM") [] (lit "F1")
      [.mk 1 (lit "HUSB") (lit "@I1@") [] [], .mk 2 (lit "NOTE") (lit "x") [] [.mk 3 (lit "CHIL") (lit "@I2@") [] []],
       .mk 4 (lit "WIFE") (lit "@I2@") [] []]
    let r := filterIntoDoc (ctxOf fam) (DocSt.ofRecords []) 5 (tagFilter false [lit "NOTE"]) fam
    (match r.1 with | .ok x => some (x.copy.ids, roleIds x.copy, x.famAdds.length) | _ => none) =
      some ([5, 6, 7], [6, 7], 1) ∧
    r.2.nodes.map (·.id) = [8] ∧ r.2.nodeByPointer (lit "F1") = some 8 := by decide +kernel

/-! ## the Go source, translated (go/ast → Generated/EqualSrc.lean → these theorems) -/

/-- the statements of `BirthNode.Equals` and its three siblings, for the type `X` -/
def vitalEqualsTemplate (x : String) : List String :=
  ["if IsNil(node) { return false }", "if IsNil(node2) { return false }",
   "if _, ok := node2.(*" ++ x ++ "); !ok { return false }", "return true"]

/-- are the translated pieces of `Date.Equals` inside the fragment `EqualSrc.srcDateEquals`
    interprets: four constants, a 4×4 table, every entry a matcher whose body was understood -/
def dateTableUnderstood : Bool :=
  Generated.dateConstraintOrder.length == 4 && !Generated.dateConstraintOrder.contains "?" &&
  Generated.dateEqualsMatchers.length == 4 &&
  Generated.dateEqualsMatchers.all (fun r => r.length == 4 &&
    r.all fun n => Generated.dateMatcherBodies.any fun b =>
      b.1 == n && (b.2.1 == "fields" || b.2.1 == "years" || b.2.1 == "const"))

/-- **Obligation on the regenerated source shape.**  Every piece of decision logic that
    Model/Equal.lean (and, for dates, Model/DateParse.lean) copies by hand has, in the current Go
    source, exactly the statements the model was written from:
    `Date.Equals` opens with the two zero checks and the `Is` shortcut; BIRT / DEAT / BURI / BAPM
    `Equals` only assert the argument's type (rule `.vital`); `DateNode.Equals` delegates to
    `DateRange.Equals` (rule `.date`), whose three branches are phrase / invalid by original string,
    else start and end by `Date.Equals`; `ResidenceNode.Equals` (rule `.resi`): any equal pair of
    dates, else — no date on either side — `DeepEqualNodes` of the PLAC children;
    `EventNode.Equals` (rule `.even`): any equal pair of dates, else — no date on either side and
    equal values — `DeepEqualNodes` of all children; `UniqueIDNode.Equals` (rule `.uid`): UUIDs, raw
    values when either is not one; `DeepEqual`: nil checks, `Equals` unless the same object, equal
    child counts, `DeepEqualNodes`; `DeepEqualNodes`: equal lengths, then for every left node the
    first right node that is not yet used and `DeepEqual` to it. -/
theorem equal_source_shape :
    dateTableUnderstood = true ∧
    Generated.statementsOfBaptismNodeEquals = vitalEqualsTemplate "BaptismNode" ∧
    Generated.statementsOfBirthNodeEquals = vitalEqualsTemplate "BirthNode" ∧
    Generated.statementsOfBurialNodeEquals = vitalEqualsTemplate "BurialNode" ∧
    Generated.statementsOfDeathNodeEquals = vitalEqualsTemplate "DeathNode" ∧
    Generated.dateEqualsGuards =
      [
       "if date.IsZero() { return false }",
       "if date2.IsZero() { return false }",
       "if date.Is(date2) { return true }"] ∧
    Generated.statementsOfDateNodeEquals =
      [
       "leftIsNil := IsNil(node)",
       "rightIsNil := IsNil(node2)",
       "if leftIsNil || rightIsNil { return false }",
       "if date2, ok := node2.(*DateNode); ok { return node.DateRange().Equals(date2.DateRange()) }",
       "return false"] ∧
    Generated.statementsOfDateRangeEquals =
      [
       "if dr.IsPhrase() && dr2.IsPhrase() && dr.originalString == dr2.originalString { return true }",
       "if !dr.IsValid() && !dr2.IsValid() && dr.originalString == dr2.originalString { return true }",
       "matchStartDate := dr.StartDate().Equals(dr2.StartDate())",
       "matchEndDate := dr.EndDate().Equals(dr2.EndDate())",
       "return matchStartDate && matchEndDate"] ∧
    Generated.statementsOfDeepEqual =
      [
       "if IsNil(left) { return false }",
       "if IsNil(right) { return false }",
       "if left != right { if !left.Equals(right) { return false } }",
       "leftNodes := left.Nodes()",
       "rightNodes := right.Nodes()",
       "leftNodesLen := len(leftNodes)",
       "rightNodesLen := len(rightNodes)",
       "if leftNodesLen != rightNodesLen { return false }",
       "return DeepEqualNodes(leftNodes, rightNodes)"] ∧
    Generated.statementsOfDeepEqualNodes =
      [
       "leftLen := len(left)",
       "rightLen := len(right)",
       "if leftLen != rightLen { return false }",
       "matches := map[int]bool{}",
       "for _, leftChild := range left { foundMatch := false for i, rightChild := range right { if !matches[i] && DeepEqual(leftChild, rightChild) { matches[i] = true foundMatch = true break } } if !foundMatch { return false } }",
       "return true"] ∧
    Generated.statementsOfEventNodeEquals =
      [
       "if IsNil(node) { return false }",
       "if IsNil(node2) { return false }",
       "if n2, ok := node2.(*EventNode); ok { leftDates := node.Dates() rightDates := n2.Dates() for _, left := range leftDates { for _, right := range rightDates { if left.Equals(right) { return true } } } if len(leftDates) == 0 && len(rightDates) == 0 && node.Value() == node2.Value() { return DeepEqualNodes(node.Nodes(), node2.Nodes()) } }",
       "return false"] ∧
    Generated.statementsOfResidenceNodeEquals =
      [
       "if IsNil(node) { return false }",
       "if IsNil(node2) { return false }",
       "if n2, ok := node2.(*ResidenceNode); ok { leftDates := node.Dates() rightDates := n2.Dates() for _, left := range leftDates { for _, right := range rightDates { if left.Equals(right) { return true } } } if len(leftDates)+len(rightDates) == 0 { leftPlaces := NodesWithTag(node, TagPlace) rightPlaces := NodesWithTag(node2, TagPlace) return DeepEqualNodes(leftPlaces, rightPlaces) } }",
       "return false"] ∧
    Generated.statementsOfUniqueIDNodeEquals =
      [
       "if IsNil(node) { return false }",
       "if IsNil(node2) { return false }",
       "if n2, ok := node2.(*UniqueIDNode); ok { u1, err1 := node.UUID() u2, err2 := n2.UUID() if err1 != nil || err2 != nil { return node.Value() == n2.Value() } return u1.Equals(u2) }",
       "return false"] := by
  refine ⟨by decide +kernel, by decide +kernel, by decide +kernel, by decide +kernel,
    by decide +kernel, rfl, rfl, rfl, rfl, rfl, rfl, rfl, rfl⟩

/-- `SimpleNode.Equals`, interpreted from its translated statements (nil checks, then tag, value
    and pointer in source order), is the model's rule for plain nodes — for all nodes. -/
theorem simple_equals_is_the_source (a b : Node) :
    EqualSrc.srcSimpleEquals a b =
      some (a.tag == b.tag && a.value == b.value && a.ptr == b.ptr) := by
  have htag : EqualSrc.nodeFieldEq "tag" a b = some (a.tag == b.tag) := rfl
  have hvalue : EqualSrc.nodeFieldEq "value" a b = some (a.value == b.value) := rfl
  have hptr : EqualSrc.nodeFieldEq "pointer" a b = some (a.ptr == b.ptr) := rfl
  open EqualSrc in
  rw [srcSimpleEquals, Generated.simpleEqualsSteps,
    runSimple_nil _ _ _ _ _ (.inl rfl), runSimple_nil _ _ _ _ _ (.inr rfl),
    runSimple_get, runSimple_ne _ _ _ _ _ htag, runSimple_get, runSimple_ne _ _ _ _ _ hvalue,
    runSimple_retEq, hptr]
  cases a.tag == b.tag <;> cases a.value == b.value <;> rfl

/-- … hence `equalsShallow` of a node that uses the default rule is what the source computes. -/
theorem equalsShallow_simple_is_the_source (a b : Node) (h : a.rule = .simple) :
    EqualSrc.srcSimpleEquals a b = some (equalsShallow a b) := by
  rw [simple_equals_is_the_source, equalsShallow_simple h]

/-- The dispatch table: the node types that define their own `Equals` in the Go source are exactly
    the kinds to which the model gives a rule other than the default. -/
theorem overrides_are_the_rules (k : String) :
    ruleOfKind k ≠ .simple ↔ k ∈ Generated.equalsOverrides :=
  ruleOfKind_ne_simple_iff k

/-- `Date.Equals` interpreted from the translated source — guards, the constants' `iota` order,
    the 4×4 composite literal of method values indexed `[date2.Constraint][date.Constraint]`, and
    the bodies of `equalsA..D` — is the model's `PDate.equals` (which `dateValueEquals`, hence every
    DATE comparison of `equalsShallow`, is built from), for all pairs of dates. -/
theorem date_equals_is_the_source (a b : PDate) :
    EqualSrc.srcDateEquals a b = some (PDate.equals a b) := by
  have hrow : EqualSrc.selConstraint Generated.dateEqualsRow a b = some b.constraint := rfl
  have hcol : EqualSrc.selConstraint Generated.dateEqualsCol a b = some a.constraint := rfl
  unfold EqualSrc.srcDateEquals
  simp only [hrow, hcol, Option.bind_eq_bind, Option.bind_some, EqualSrc.constraintIndex_eq]
  rw [← Option.bind_assoc, EqualSrc.matchers_at, Option.bind_some, EqualSrc.bodies_find,
    Option.bind_some]
  -- `Generated.dateEqualsArgs` is receiver first
  show (if _ then _ else if _ then _ else if _ then _ else EqualSrc.runMatcher _ _ a b) = _
  rw [EqualSrc.runMatcher_body, PDate.equals_table]
  cases a.isZero <;> cases b.isZero <;> cases a.is b <;> rfl

/-! ## non-vacuity (tests on literals) -/

private def ex : Node :=
  .mk (lit "INDI") [] (lit "P1") [.mk (lit "NAME") (lit "A /B/") [] [], .mk (lit "NOTE") (lit "x") [] []]
private def ex' : Node :=
  .mk (lit "INDI") [] (lit "P1") [.mk (lit "NOTE") (lit "x") [] [], .mk (lit "NAME") (lit "A /B/") [] []]

/-- the guard is satisfiable by a non-trivial pair, and the re-ordering is a real one -/
example : dateEquiv [] = true ∧ okNode [] ex = true ∧ okNode [] ex' = true := by decide +kernel
example : Reorder ex ex' := .mk (.refl _) (List.Perm.swap _ _ _)
example : deepEqual ex ex' = true := by decide +kernel
/-- an edit that is detected -/
example : Edit ex (.mk (lit "INDI") [] (lit "P1") [.mk (lit "NAME") (lit "A /B/") [] []]) :=
  Edit.delete (pre := [.mk (lit "NAME") (lit "A /B/") [] []]) (post := [])
/-- a copy that succeeds, is fresh, and a mutation that is visible in the copy only -/
example : ∃ c n w f, deepCopy 3 (labelNode 0 ex).1 = .ok c n w f ∧ c.ids = [3, 4, 5] ∧
    (applyMut (.clear 3) c).kids.length = 0 ∧ c.kids.length = 2 ∧ Below 3 (labelNode 0 ex).1 := by
  refine ⟨_, _, _, _, rfl, by decide +kernel, by decide +kernel, by decide +kernel, ?_⟩
  unfold Below; decide +kernel
/-- a HUSB node copied on its own: its family (object 7, pointer F1) lies outside the tree; the
    copy succeeds and asks the destination for one family F1 -/
example : ∃ c n w, deepCopyIn (some (7, lit "F1")) 1 (.mk 0 (lit "HUSB") (lit "@I1@") [] []) =
    .ok c n w [lit "F1"] := ⟨_, _, _, rfl⟩
/-- a FAM record with two role nodes copied into a document that already holds it: one empty FAM
    is appended and the pointer now resolves to it (object 6) instead of the source (object 0) -/
example :
    let fam : INode := .mk 0 (lit "FAM") [] (lit "F1")
      [.mk 1 (lit "HUSB") (lit "@I1@") [] [], .mk 2 (lit "WIFE") (lit "@I2@") [] []]
    (copyIntoDoc none [fam] 3 fam).map (fun r => (r.doc.length, r.famAdds.length, r.doc.lookup (lit "F1"))) =
      some (2, 1, some 6) ∧ Doc.lookup [fam] (lit "F1") = some 0 := by decide +kernel

end Gedcom.C07

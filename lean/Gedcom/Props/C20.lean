/-
  C20 — Warnings are reported exactly when the recorded facts warrant them.
  Property theorems (with the lemmas that serve only them), about `Gedcom.Warn.warnings` (the
  function the driver runs).
-/
import Gedcom.Lemmas.WarningsDates
import Gedcom.Lemmas.WarningsSiblings
import Gedcom.Lemmas.WarningsOrder
import Gedcom.Props.C06
namespace Gedcom.C20
open Gedcom.Warn

/-- UnparsableDate: reported for exactly the DATE values that are not valid (either end is the
    zero date: unparsable text, date phrases, half-parsed ranges), in the context of the record
    that holds them; `l` is the position of the DATE node.  No guard: holds for every document. -/
theorem unparsable_sound_complete (d : Doc) (now : Date) (inFam : Bool) (p l : Nat) :
    Warning.unparsableDate inFam p l ∈ warnings d now ↔
      (inFam = false ∧ ∃ i, Rec.indi i ∈ d ∧ i.ptr = p ∧
        ∃ e ∈ i.events, ∃ x ∈ e.dates, x.valid = false ∧ x.label = l) ∨
      (inFam = true ∧ ∃ f, Rec.fam f ∈ d ∧ f.ptr = p ∧
        ∃ e ∈ f.events, ∃ x ∈ e.dates, x.valid = false ∧ x.label = l) := by
  rw [mem_warnings_unparsable]
  simp only [mem_unparsable]
  exact or_congr ⟨fun ⟨i, hi, hb, h⟩ => ⟨hb, i, hi, h⟩, fun ⟨hb, i, hi, h⟩ => ⟨i, hi, hb, h⟩⟩
    ⟨fun ⟨f, hf, hb, h⟩ => ⟨hb, f, hf, h⟩, fun ⟨hb, f, hf, h⟩ => ⟨f, hf, hb, h⟩⟩

/-- MultipleSexes: reported for exactly the individuals with more than one SEX line. -/
theorem multiple_sexes_sound_complete (d : Doc) (now : Date) (p n : Nat) :
    Warning.multipleSexes p n ∈ warnings d now ↔
      ∃ i, Rec.indi i ∈ d ∧ i.ptr = p ∧ i.sexes.length = n ∧ 1 < n :=
  mem_warnings_multipleSexes.trans (exists_congr fun _ => and_congr_right fun _ => mem_multipleSexes)

/-- InverseSpouses: reported for exactly the families whose husband's first SEX is F and whose
    wife's first SEX is M. -/
theorem inverse_spouses_sound_complete (d : Doc) (now : Date) (fp hp wp : Nat) :
    Warning.inverseSpouses fp hp wp ∈ warnings d now ↔
      ∃ f, Rec.fam f ∈ d ∧ f.ptr = fp ∧ f.husb = some hp ∧ f.wife = some wp ∧
        firstSex (indiOf d hp) = some .f ∧ firstSex (indiOf d wp) = some .m :=
  mem_warnings_inverseSpouses.trans (exists_congr fun _ => and_congr_right fun _ => mem_inverseSpouses)

/-- `B(x)`: civil day of the first DATE of the first dated BIRT node of `x`, when it parses -/
def birthDay (d : Doc) (p : Nat) : Option Int :=
  match birthOf (indiOf d p) with
  | some (.ok t) => some (dayOf t)
  | _ => none

theorem birthDay_eq_some {d : Doc} {p : Nat} {b : Int} :
    birthDay d p = some b ↔ ∃ t, birthOf (indiOf d p) = some (.ok t) ∧ dayOf t = b := by
  unfold birthDay
  split <;> simp_all

/-- on exact days the code's test on `Years()` is a comparison of civil birth days -/
theorem bornBefore_exact {d : Doc} (hx : ExactDates d) {c p : Nat} :
    bornBefore d c p ↔ ∃ bc bp, birthDay d c = some bc ∧ birthDay d p = some bp ∧ bc < bp := by
  rw [bornBefore_general]
  constructor
  · rintro ⟨xc, xp, hc, hp, vc, vp, hlt⟩
    have fc := birthOf_fine hx hc
    have fp := birthOf_fine hx hp
    obtain ⟨tc, rfl⟩ := fc.ok_of_valid vc
    obtain ⟨tp, rfl⟩ := fp.ok_of_valid vp
    exact ⟨_, _, birthDay_eq_some.mpr ⟨tc, hc, rfl⟩, birthDay_eq_some.mpr ⟨tp, hp, rfl⟩,
      (fracLt_days fc fp).mp hlt⟩
  · rintro ⟨bc, bp, hbc, hbp, hlt⟩
    obtain ⟨tc, hc, rfl⟩ := birthDay_eq_some.mp hbc
    obtain ⟨tp, hp, rfl⟩ := birthDay_eq_some.mp hbp
    exact ⟨.ok tc, .ok tp, hc, hp, rfl, rfl,
      (fracLt_days (birthOf_fine hx hc) (birthOf_fine hx hp)).mpr hlt⟩

/-- ChildBornBeforeParent(parent, child) is reported — once, in the context of the first family
    in file order that warrants it — exactly when `child` is a CHIL of some family, `parent` its
    HUSB or WIFE, both have a valid birth date and the child's birth day is strictly before the
    parent's. -/
theorem child_born_before_parent_sound_complete (d : Doc) (now : Date) (hx : ExactDates d)
    (p c : Nat) :
    (∃ fp, Warning.childBornBeforeParent fp p c ∈ warnings d now) ↔
      ∃ f, Rec.fam f ∈ d ∧ c ∈ f.chil ∧ (f.husb = some p ∨ f.wife = some p) ∧
        ∃ bc bp, birthDay d c = some bc ∧ birthDay d p = some bp ∧ bc < bp := by
  rw [← bornBefore_exact hx]
  exact cbbp_reported

/-- … and the family named in the warning is one that warrants it -/
theorem child_born_before_parent_names_family (d : Doc) (now : Date) (hx : ExactDates d)
    (fp p c : Nat) (h : Warning.childBornBeforeParent fp p c ∈ warnings d now) :
    ∃ f, Rec.fam f ∈ d ∧ f.ptr = fp ∧ c ∈ f.chil ∧ (f.husb = some p ∨ f.wife = some p) ∧
      ∃ bc bp, birthDay d c = some bc ∧ birthDay d p = some bp ∧ bc < bp := by
  rw [← bornBefore_exact hx]
  exact rawWarnings_cbbp_iff.mp ((oncePerPair_sublist _).subset h)

/-- SiblingsBornTooClose{a, b} is reported — once, in one order or the other, in the context of
    the first family in file order that warrants it — exactly when `a ≠ b` are both CHIL of some
    family, both have a valid birth date, and the birth days are at least 2 and fewer than 274
    days apart. -/
theorem siblings_sound_complete (d : Doc) (now : Date) (hx : ExactDates d) (a b : Nat) :
    (∃ fp, Warning.siblingsBornTooClose fp a b ∈ warnings d now ∨
           Warning.siblingsBornTooClose fp b a ∈ warnings d now) ↔
      ∃ f, Rec.fam f ∈ d ∧ a ∈ f.chil ∧ b ∈ f.chil ∧ SibSpec d a b :=
  siblings_reported (siblingHit_iff hx) a b

/-- In the report of any document no (parent, child) pair and no
    unordered pair of siblings is reported twice — whatever the families, duplicate family records
    or repeated CHIL lines (the pair sets of `Warnings.oncePerPair`). -/
theorem once_per_pair (d : Doc) (now : Date) :
    (warnings d now).Pairwise fun w w' => ¬ samePair w w' :=
  (opp_once (rawWarnings d now) [] []).1

/-- once per pair, siblings: within a family no unordered pair of siblings is reported twice,
    whatever the CHIL lines are (the pair set of the loop). -/
theorem siblings_once_per_pair (d : Doc) (f : Fam) :
    (siblingsBornTooClose d f).Pairwise fun w w' => ¬ samePair w w' := by
  unfold siblingsBornTooClose
  rw [(sibInv d f).map, List.pairwise_map]
  exact (sibInv d f).nodup.imp fun {p q} h => by simpa [samePair, symPair] using h

/-- IncorrectEventOrder: "the `k2` (`d2`) was before the `k1` (`d1`)" is reported for individual
    `p` exactly when `p` has an event of kind `k1` dated `d1` and an event of kind `k2` dated `d2`,
    `k2` belongs to a later group than `k1` (birth < baptism < death < burial) and day `d2` is
    strictly before day `d1`. -/
theorem event_order_sound_complete (d : Doc) (now : Date) (hx : ExactDates d)
    (p : Nat) (k2 : EvKind) (d2 : Date) (k1 : EvKind) (d1 : Date) :
    Warning.incorrectEventOrder p k2 (.ok d2) k1 (.ok d1) ∈ warnings d now ↔
      ∃ i, Rec.indi i ∈ d ∧ i.ptr = p ∧ ∃ g1 g2, groupOf k1 = some g1 ∧ groupOf k2 = some g2 ∧
        g1 < g2 ∧ Dated i k1 (.ok d1) ∧ Dated i k2 (.ok d2) ∧ dayOf d2 < dayOf d1 := by
  have full : ∀ {i k t}, Rec.indi i ∈ d → Dated i k (.ok t) → C05.Full t :=
    fun hi ⟨_, he, _, ht⟩ => hx.fine_indi hi he ht
  exact event_order_reported fun hi h1 h2 =>
    (and_iff_right rfl).trans ((and_iff_right rfl).trans (compare_ok (full hi h2) (full hi h1)))

/-- MarriedOutOfRange(family `fp`, spouse `sp`, young | old) for the MARR node at position `k`
    among the family's events: reported exactly when `sp` is the HUSB or WIFE, has an estimated
    birth day `b` (earliest BIRT date, else earliest baptism date, all of them parsable), the MARR
    node has a valid date, and
    * young: every valid date of the node is fewer than 16 × 365.25 days from `b`,
    * old: some valid date of the node is more than 100 × 365.25 days from `b`
    (distance, so a marriage recorded *before* the birth counts as well — as coded).
    The window `lo`, `hi` of 106751 days (≈ 292 years, the range of Go's `time.Duration`) is carried
    and not used: `NewDuration` saturates (`married_sound_complete_general_partial` has no bound). -/
theorem married_sound_complete (d : Doc) (now : Date) (hx : ExactDates d) (lo hi : Int)
    (hw : DatesWithin lo hi d) (hspan : hi - lo ≤ 106751) (fp sp : Nat) (old : Bool) (k : Nat) :
    Warning.marriedOutOfRange fp sp old k ∈ warnings d now ↔
      ∃ f, Rec.fam f ∈ d ∧ f.ptr = fp ∧ (f.husb = some sp ∨ f.wife = some sp) ∧
        ∃ e, f.events[k]? = some e ∧ e.kind = .marr ∧
          ∃ i b, indiOf d sp = some i ∧ EstBirthDay i b ∧
            ((old = false ∧ (∃ t, DateV.ok t ∈ e.dates) ∧
                ∀ t, DateV.ok t ∈ e.dates → absd (dayOf t) b * 4 < 16 * 1461) ∨
             (old = true ∧ ∃ t, DateV.ok t ∈ e.dates ∧ absd (dayOf t) b * 4 > 100 * 1461)) := by
  simp only [exists_and_left]
  exact married_reported fun hf he hi =>
    marriedTest_exact (hx.fullEvs (indiOf_some hi).1) (fun _ hx' => hx.fine_fam hf he hx') old

/-- IndividualTooOld(`p`): reported exactly when `p` has an estimated death date `td` (earliest
    DEAT date, else earliest BURI date, all of them parsable) and an estimated birth date `tb`,
    and `Years(td) − Years(tb) > 100` on the fractional-year scale of `Date.Years()` (which C05
    proves strictly monotone in the calendar).  `tb`/`td` fall on the specified days
    (`EstBirthDay`, `EstDeathDay`).  Guards: today is a calendar date and every exact date of the
    document lies before today. -/
theorem too_old_sound_complete (d : Doc) (now : Date) (hx : ExactDates d) (hnow : C05.Full now)
    (lo : Int) (hpast : DatesWithin lo (dayOf now - 1) d) (p : Nat) :
    Warning.individualTooOld p ∈ warnings d now ↔
      ∃ i, Rec.indi i ∈ d ∧ i.ptr = p ∧ ∃ tb td, estBirth i = some (.ok tb) ∧
        estDeath i = some (.ok td) ∧ EstBirthDay i (dayOf tb) ∧ EstDeathDay i (dayOf td) ∧
        YearsApartGt tb td 100 := by
  rw [tooOld_reported]
  exact exists_congr fun i => and_congr_right fun hi => and_congr_right fun _ =>
    tooOld_iff (hx.fullEvs hi) hnow fun e he t ht => by have := (hpast.indi hi he ht).2; omega

/-! ### once per pair: regression about the rule before the repair

  Before fixes/C20-once-per-pair.patch the family check reported a (parent, child) pair once per
  CHIL line and per family that lists it (DESIGN defect 24).  The walk still *collects* the pair
  once per family (`rawWarnings`) and the family loop once per CHIL line
  (`childrenBornBeforeParentsRaw`); the two `oncePerPair` passes are what makes `once_per_pair`
  true.  The old witnesses are kept as a regression example. -/

def cbbpPair : Warning → Option (Nat × Nat)
  | .childBornBeforeParent _ p c => some (p, c)
  | _ => none

/-- the two-family witness: `@I1@` born 1 Jan 1900 is HUSB, `@I2@` born 1 Jan 1890 is CHIL, in
    both `@F1@` and `@F2@` -/
def witness24 : Doc :=
  [.indi ⟨1, [], [⟨.birt, [.ok ⟨1, 1, 1900⟩]⟩]⟩, .indi ⟨2, [], [⟨.birt, [.ok ⟨1, 1, 1890⟩]⟩]⟩,
   .fam ⟨1, some 1, none, [2], []⟩, .fam ⟨2, some 1, none, [2], []⟩]

/-- the same CHIL line twice in one family -/
def witness24' : Doc :=
  [.indi ⟨1, [], [⟨.birt, [.ok ⟨1, 1, 1900⟩]⟩]⟩, .indi ⟨2, [], [⟨.birt, [.ok ⟨1, 1, 1890⟩]⟩]⟩,
   .fam ⟨1, some 1, none, [2, 2], []⟩]

/-- regression (defect 24): without the pair sets the pair (I1, I2) would be reported twice on
    both witnesses; with them it is reported once -/
theorem once_per_pair_regression :
    (rawWarnings witness24 ⟨26, 9, 2026⟩).filterMap cbbpPair = [(1, 2), (1, 2)] ∧
    (warnings witness24 ⟨26, 9, 2026⟩).filterMap cbbpPair = [(1, 2)] ∧
    (childrenBornBeforeParentsRaw witness24' ⟨1, some 1, none, [2, 2], []⟩).filterMap cbbpPair =
      [(1, 2), (1, 2)] ∧
    (warnings witness24' ⟨26, 9, 2026⟩).filterMap cbbpPair = [(1, 2)] := by
  refine ⟨by decide +kernel, by decide +kernel, by decide +kernel, by decide +kernel⟩

/-- Order independence: if `d'` is `d` with its records in another order and the CHIL lines of
    each family in another order (`Reordered`), and the individuals' pointers are distinct, the
    two reports are permutations of each other once each sibling pair is written smaller pointer
    first and pair warnings are read without their family context (`norm`: which of several
    families reports a pair depends on the file order) — the same multiset of warnings. -/
theorem order_independent (d d' : Doc) (now : Date) (hn : PtrsNodup d) (h : Reordered d d') :
    ((warnings d now).map norm).Perm ((warnings d' now).map norm) := by
  have hi := indiOf_reordered hn h
  obtain ⟨d1, hp, he⟩ := h
  have hcongr : recWarnings d' now = recWarnings d now := funext (recWarnings_congr hi now)
  unfold warnings
  apply opp_perm
  unfold rawWarnings
  rw [hcongr]
  exact ((hp.flatMap_right _).map norm).trans (recsEquiv_perm d now he)

/-- counting years from March, the leap day is the last day of the year: from March on a day
    number is counted from the next 1 January, and no leap test is left -/
theorem dayNumber_march (y : Int) {m : Nat} (d : Int) (h1 : 1 ≤ m) (h2 : m ≤ 12) :
    dayNumber y m d =
      (if 3 ≤ m then daysBeforeYear (y + 1) - 365 else daysBeforeYear y) + cum false m + d := by
  unfold dayNumber
  rw [cum_leap (isLeap y) h1 h2, daysBeforeYear_succ]
  unfold daysInYear
  by_cases hm : 3 ≤ m <;> cases isLeap y <;> simp only [hm, and_true, and_false, if_true, if_false,
    Bool.false_eq_true] <;> omega

/-- `n ≤ 150` years are within 3 days of `n × 365.25` days -/
theorem years_quarter_days (y n : Int) (hn0 : 0 ≤ n) (hn : n ≤ 150) :
    -12 < 4 * (daysBeforeYear (y + n) - daysBeforeYear y) - 1461 * n ∧
    4 * (daysBeforeYear (y + n) - daysBeforeYear y) - 1461 * n < 12 := by
  unfold daysBeforeYear
  omega

/-- The same calendar day `n ≤ 150` years later is fewer than 3 days away
    from `n × 365.25` days — in quarter days `|4·Δdays − 1461·n| < 12`, over the closed-form day
    numbers of Model/Calendar.lean, for every year, month and day.  (−11 quarter days is reached,
    e.g. 1 Mar 0056 → 1 Mar 0203, across two non-leap century years.)  This is the margin the
    married-young/old oracle relies on: a marriage 3 or more days away from the 16th / 100th
    birthday is on the same side of `16 × 365.25` / `100 × 365.25` days as of the birthday. -/
theorem year_approximation (y n : Int) (m : Nat) (d : Int) (hn0 : 0 ≤ n) (hn : n ≤ 150)
    (hm1 : 1 ≤ m) (hm2 : m ≤ 12) :
    -12 < 4 * (dayNumber (y + n) m d - dayNumber y m d) - 1461 * n ∧
    4 * (dayNumber (y + n) m d - dayNumber y m d) - 1461 * n < 12 := by
  rw [dayNumber_march (y + n) d hm1 hm2, dayNumber_march y d hm1 hm2]
  split
  · have := years_quarter_days (y + 1) n hn0 hn
    rw [Int.add_right_comm] at this
    omega
  · have := years_quarter_days y n hn0 hn
    omega

/-- a marriage at least 3 days after (before) the `n`-th birthday is more (fewer) than
    `n × 365.25` days after the birth: the civil reading and the code's constant agree outside a
    3-day margin -/
theorem anniversary_margin (y n : Int) (m : Nat) (d x : Int) (hn0 : 0 ≤ n) (hn : n ≤ 150)
    (hm1 : 1 ≤ m) (hm2 : m ≤ 12) :
    (dayNumber (y + n) m d + 3 ≤ x → 4 * (x - dayNumber y m d) > 1461 * n) ∧
    (x + 3 ≤ dayNumber (y + n) m d → 4 * (x - dayNumber y m d) < 1461 * n) := by
  have := year_approximation y n m d hn0 hn hm1 hm2
  constructor <;> intro h <;> omega

/-! ### exact days inside the general date model

  The driver sorts every parsed DATE value into `ok` / `bad` / `gen` (`classifyDate`).  The
  theorems above are about `ok` and `bad`; this shows that treating an exact day as `ok` is the
  same as running the general (`gen`) reading of its two ends. -/

def exactP (t : Date) : PDate := ⟨t.day, t.month, t.year, .exact, false⟩

theorem exact_is_general (l : Nat) (t : Date) (hd : t.day ≠ 0) (hy1 : 1 ≤ t.year) (hy2 : t.year ≤ 9999) :
    let g := DateV.gen l (exactP t) (exactP t)
    g.valid = (DateV.ok t).valid ∧ startFrac (some g) = startFrac (some (.ok t)) ∧
    endFrac (some g) = endFrac (some (.ok t)) ∧ startI (some g) = startI (some (.ok t)) ∧
    endI (some g) = endI (some (.ok t)) ∧
    -- the mean of two equal ends: the same fraction `N/D`, written `(N·D + N·D) / (2·D·D)`
    yearsFrac (some g) = (
      (yearsFrac (some (.ok t))).1 * (yearsFrac (some (.ok t))).2 +
        (yearsFrac (some (.ok t))).1 * (yearsFrac (some (.ok t))).2,
      2 * ((yearsFrac (some (.ok t))).2 * (yearsFrac (some (.ok t))).2)) ∧
    subErr (some g) none = subErr (some (.ok t)) none := by
  have hy0 : ¬ t.year = 0 := by omega
  have e : (exactP t).toDate = t := rfl
  have hf : (exactP t).yearsFrac = ((t.year : Int) * t.yearsDen + t.yearsNum, t.yearsDen) := by
    simp [PDate.yearsFrac, exactP, hy0, hy2, PDate.toDate]
  refine ⟨?_, ?_, ?_, ?_, ?_, ?_, ?_⟩
  · simp [DateV.valid, PDate.isZero, exactP, hd]
  · simp [startFrac, hf]
  · simp [endFrac, hf]
  · simp [startI, timeOK, exactP, hy1, hy2, PDate.toDate]
  · simp [endI, timeOK, exactP, hy1, hy2, PDate.toDate]
  · simp only [yearsFrac, hf]
  · simp [subErr, exactP]

theorem classify_valid (r : DateRange) : (classifyDate r).valid = r.isValid := by
  unfold classifyDate
  simp only
  split
  · rename_i h
    simp only [Bool.and_eq_true, beq_iff_eq, bne_iff_ne, ne_eq, Bool.not_eq_true', decide_eq_true_eq] at h
    obtain ⟨⟨⟨⟨⟨⟨he, _⟩, _⟩, hd⟩, _⟩, _⟩, _⟩ := h
    simp [DateV.valid, DateRange.isValid, PDate.isZero, ← he, hd]
  · split
    · rename_i h
      simp only [Bool.and_eq_true] at h
      simp [DateV.valid, DateRange.isValid, h.1.2, h.2]
    · rfl

theorem dateOf_valid (l : Nat) (v : Str) :
    (dateOf l v).valid = (parseDateRange v).isValid ∧
    ((dateOf l v).valid = false → (dateOf l v).label = l) := by
  unfold dateOf
  rw [← classify_valid]
  cases classifyDate (parseDateRange v) <;> simp [relabelDate, DateV.valid, DateV.label]

/-- Per DATE node: the DATE node at position `l` with value `v`
    yields an UnparsableDate warning if and only if `NewDateRangeWithString(v)` is not valid
    (`DateNode.Warnings`; the parser is C04's model). -/
theorem unparsable_iff_invalid_parse (inFam : Bool) (p l : Nat) (k : EvKind) (v : Str) :
    unparsable inFam p [⟨k, [dateOf l v]⟩] =
      if (parseDateRange v).isValid then [] else [Warning.unparsableDate inFam p l] := by
  obtain ⟨h1, h2⟩ := dateOf_valid l v
  simp only [unparsable, datesOf, List.flatMap_cons, List.flatMap_nil, List.append_nil, h1]
  cases hv : (parseDateRange v).isValid with
  | true => simp
  | false => rw [hv] at h1; simp [h2 h1]

/-- … and in a whole document: an invalid value in an individual's event is reported -/
theorem unparsable_of_invalid_parse (d : Doc) (now : Date) (i : Indi) (hi : Rec.indi i ∈ d) (e : Ev)
    (he : e ∈ i.events) (l : Nat) (v : Str) (hm : dateOf l v ∈ e.dates)
    (hv : (parseDateRange v).isValid = false) :
    Warning.unparsableDate false i.ptr l ∈ warnings d now := by
  obtain ⟨h1, h2⟩ := dateOf_valid l v
  rw [hv] at h1
  exact (unparsable_sound_complete d now false i.ptr l).mpr
    (Or.inl ⟨rfl, i, hi, rfl, e, he, _, hm, h1, h2 h1⟩)

/-- the truncated ends of a general date whose years are 1..9999 are the first day of its start
    and the last day of its end (C05's calendar) -/
theorem dayS_gen (l : Nat) (s e : PDate) (h : timeOK s = true) : dayS (.gen l s e) = s.toDate.firstDay := by
  rw [dayS, startI, if_pos h]
  exact (div_nsPerDay _).1

theorem dayE_gen (l : Nat) (s e : PDate) (h : timeOK e = true) : dayE (.gen l s e) = e.toDate.lastDay := by
  rw [dayE, endI, if_pos h]
  exact (div_nsPerDay _).2

/-- For dates of any parsed shape whose ranges run forwards, "the `k2`
    (`x2`) was before the `k1` (`x1`)" is reported exactly when the individual has those two dated
    events, `k2` belongs to a later group than `k1`, both dates are valid, and `x2` *ends* (last
    day of its end date) before `x1` *starts* (first day of its start date) — C06 `event_order`
    on `dayS` / `dayE`, which `dayS_gen` / `dayE_gen` identify with C05's `firstDay` / `lastDay`. -/
theorem event_order_general (d : Doc) (now : Date) (p : Nat) (k2 : EvKind) (x2 : DateV)
    (k1 : EvKind) (x1 : DateV) (hf1 : dayS x1 ≤ dayE x1) (hf2 : dayS x2 ≤ dayE x2) :
    Warning.incorrectEventOrder p k2 x2 k1 x1 ∈ warnings d now ↔
      ∃ i, Rec.indi i ∈ d ∧ i.ptr = p ∧ ∃ g1 g2, groupOf k1 = some g1 ∧ groupOf k2 = some g2 ∧
        g1 < g2 ∧ Dated i k1 x1 ∧ Dated i k2 x2 ∧ x1.valid = true ∧ x2.valid = true ∧
        dayE x2 < dayS x1 := by
  refine event_order_reported fun _ _ _ => ?_
  rw [C06.event_order _ _ _ _ hf2 hf1]

/-! Non-vacuity: concrete documents that meet the guards and exercise each side (tests, not the
    property). -/

/-- parents born 1 Jan 1800 (F, listed as HUSB) and 1 Jan 1801 (M, listed as WIFE), married at 15;
    children born 2 Mar 1830, 4 Mar 1830 (2 days later), 5 Mar 1830, 3 Dec 1830 (274 days after
    the first) and 1 Jan 1799; the first child has two SEX lines, dies aged 101 and is buried
    before the death; one unparsable date -/
def sample : Doc :=
  [.indi ⟨1, [.f], [⟨.birt, [.ok ⟨1, 1, 1800⟩]⟩]⟩,
   .indi ⟨2, [.m], [⟨.birt, [.ok ⟨1, 1, 1801⟩]⟩]⟩,
   .indi ⟨3, [.m, .f], [⟨.birt, [.ok ⟨2, 3, 1830⟩]⟩, ⟨.deat, [.ok ⟨2, 3, 1931⟩]⟩,
      ⟨.buri, [.ok ⟨1, 3, 1931⟩]⟩, ⟨.other, [.bad 7]⟩]⟩,
   .indi ⟨4, [], [⟨.birt, [.ok ⟨4, 3, 1830⟩]⟩]⟩,
   .indi ⟨5, [], [⟨.birt, [.ok ⟨5, 3, 1830⟩]⟩]⟩,
   .indi ⟨6, [], [⟨.birt, [.ok ⟨1, 12, 1830⟩]⟩]⟩,
   .indi ⟨7, [], [⟨.birt, [.ok ⟨1, 1, 1799⟩]⟩]⟩,
   .fam ⟨1, some 1, some 2, [3, 4, 5, 6, 7], [⟨.marr, [.ok ⟨1, 6, 1815⟩]⟩]⟩]

def today : Date := ⟨26, 9, 2026⟩

example : ExactDates sample ∧ ExactDates witness24 := by decide +kernel
example : DatesWithin (dayOf ⟨1, 1, 1799⟩) (dayOf today - 1) sample ∧
    dayOf today - 1 - dayOf ⟨1, 1, 1799⟩ ≤ 106751 ∧ C05.Full today := by decide +kernel
example : warnings sample today =
    [.incorrectEventOrder 3 .buri (.ok ⟨1, 3, 1931⟩) .deat (.ok ⟨2, 3, 1931⟩), .individualTooOld 3,
     .multipleSexes 3 2, .unparsableDate false 3 7,
     .childBornBeforeParent 1 1 7, .childBornBeforeParent 1 2 7,
     .siblingsBornTooClose 1 3 4, .siblingsBornTooClose 1 3 5, .siblingsBornTooClose 1 4 6,
     .siblingsBornTooClose 1 5 6,
     .marriedOutOfRange 1 1 false 0, .marriedOutOfRange 1 2 false 0,
     .inverseSpouses 1 1 2] := by decide +kernel
/-- `sample` with the family first and its children reversed -/
def sample' : Doc :=
  (.fam ⟨1, some 1, some 2, [7, 6, 5, 4, 3], [⟨.marr, [.ok ⟨1, 6, 1815⟩]⟩]⟩) :: sample.dropLast

example : PtrsNodup sample := by decide +kernel
example : Reordered sample sample' :=
  ⟨.fam ⟨1, some 1, some 2, [3, 4, 5, 6, 7], [⟨.marr, [.ok ⟨1, 6, 1815⟩]⟩]⟩ :: sample.dropLast,
   by decide,
   .cons (.fam ⟨rfl, rfl, rfl, rfl, by decide⟩)
     (.cons (.indi _) (.cons (.indi _) (.cons (.indi _) (.cons (.indi _) (.cons (.indi _)
       (.cons (.indi _) (.cons (.indi _) .nil)))))))⟩
/-- the reordered document reports the sibling pairs the other way round -/
example : Warning.siblingsBornTooClose 1 4 3 ∈ warnings sample' today ∧
    Warning.siblingsBornTooClose 1 3 4 ∉ warnings sample' today := by decide +kernel
/-- children 3 and 6 are 274 days apart, 4 and 5 one day apart: not reported -/
example : Warning.siblingsBornTooClose 1 3 6 ∉ warnings sample today ∧
    Warning.siblingsBornTooClose 1 4 5 ∉ warnings sample today := by decide +kernel
/-- exactly 100 years on the Years scale (2 Jul of two non-leap years) is not too old; a day more is -/
example : warnings [.indi ⟨1, [], [⟨.birt, [.ok ⟨2, 7, 1801⟩]⟩, ⟨.deat, [.ok ⟨2, 7, 1901⟩]⟩]⟩] today = [] ∧
    warnings [.indi ⟨1, [], [⟨.birt, [.ok ⟨2, 7, 1801⟩]⟩, ⟨.deat, [.ok ⟨3, 7, 1901⟩]⟩]⟩] today =
      [.individualTooOld 1] := by decide +kernel

end Gedcom.C20

/-
  C18 — page assembly inside the model.

  `Generated.pagePrograms` are the `WriteHTMLTo` bodies of the page components of package html,
  translated from the source (go/ast) into programs over the html/core algebra with holes
  (`Gedcom.Html.Prog`).  For every program that passes the decidable obligation `progOk` (the
  literal bytes of its nodes form complete fitting tags; every non-literal in a raw sink is on the
  allow-list) and for **every** assignment of byte strings to its string holes, the rendered bytes
  are well nested and have the same element/attribute skeleton as under any other assignment with
  the same control holes — in particular the one that blanks every string.  The theorems of the
  algebra (`render_wellNested`, `structure_preserved`) are lifted over `eval`.
-/
import Gedcom.Props.C18
import Gedcom.Generated.Pages
namespace Gedcom.C18
open Gedcom.Html

theorem names_evalKV (ρ : Env) (attrs : List (Str × SExp)) :
    (attrs.map (evalKV ρ)).map (·.1) = attrs.map (·.1) := by
  simp [List.map_map, Function.comp_def, evalKV]

theorem mkTag_shape (n : Str) (l : List (Str × Str)) (b : Comp) (hc : chainLe (l.map (·.1)) = true) :
    shape (mkTag n l b) =
      .tag n ((l.filter fun a => !a.2.isEmpty).map fun kv => (kv.1, ([] : Str))) (shape b) := by
  unfold mkTag
  rw [sortAttrs_sorted l hc]; rfl

theorem isEmpty_append (a b : Str) : (a ++ b).isEmpty = (a.isEmpty && b.isEmpty) := by
  cases a <;> cases b <;> rfl

theorem evalI_same (ρ ρ' : Env) (h : sameCtl ρ ρ') (n : IExp) : evalI ρ' n = evalI ρ n := by
  cases n with
  | lit n => rfl
  | hole i =>
    obtain ⟨-, hints, -⟩ := h
    simp [evalI, hints]

theorem evalS_empty (ρ ρ' : Env) (h : sameCtl ρ ρ') (e : SExp) :
    (evalS ρ' e).isEmpty = (evalS ρ e).isEmpty := by
  induction e with
  | lit s => rfl
  | hole i => exact getD_map_eq List.isEmpty _ _ h.1 i []
  | cat a b iha ihb => simp only [evalS, isEmpty_append, iha, ihb]
  | itoa n => simp [evalS, evalI_same ρ ρ' h]

theorem attrs_shape_congr (ρ ρ' : Env) (h : sameCtl ρ ρ') (attrs : List (Str × SExp)) :
    (((attrs.map (evalKV ρ')).filter fun a => !a.2.isEmpty).map fun kv => (kv.1, ([] : Str))) =
    (((attrs.map (evalKV ρ)).filter fun a => !a.2.isEmpty).map fun kv => (kv.1, ([] : Str))) := by
  induction attrs with
  | nil => rfl
  | cons a t ih =>
    simp only [List.map_cons, List.filter_cons, evalKV, evalS_empty ρ ρ' h a.2]
    split
    · simp only [List.map_cons]; rw [ih]
    · exact ih

theorem shape_seqs (l : List Comp) : shape (seqs l) = seqs (l.map shape) := by
  induction l with
  | nil => rfl
  | cons c cs ih => simp [seqs, shape, ih]

theorem trusted_seqs (l : List Comp) : trusted (seqs l) = l.all trusted := by
  induction l with
  | nil => rfl
  | cons c cs ih => simp [seqs, trusted, ih]

/-- **Programs keep trust**: under the obligation `progOk` and the assumptions `envOk` on the
    control holes, the tree a program builds is trusted — for every content of the string holes -/
theorem eval_trusted (p : Prog) (hp : progOk p = true) (ρ : Env) (hρ : envOk ρ = true) :
    trusted (eval ρ p) = true := by
  simp only [envOk, Bool.and_eq_true] at hρ
  obtain ⟨⟨⟨hk, hl⟩, hr⟩, hg⟩ := hρ
  have wrapped : ∀ {pre post : List Piece} {c : Comp}, wrapOk pre post = true → trusted c = true →
      (wrapOk pre post && trusted c) = true := fun h1 h2 => by rw [h1, h2]; rfl
  induction p with
  | nil => rfl
  | seq a b iha ihb =>
    simp only [progOk, Bool.and_eq_true] at hp
    simp [eval, trusted, iha hp.1, ihb hp.2]
  | kid i => exact getD_all trusted _ hk i .nil rfl
  | kids i =>
    simp only [eval, trusted_seqs]
    exact getD_all (fun l => l.all trusted) _ hl i [] rfl
  | cond b t e iht ihe =>
    simp only [progOk, Bool.and_eq_true] at hp
    simp only [eval]
    split
    · exact iht hp.1
    · exact ihe hp.2
  | text s => rfl
  | raw r =>
    cases r with
    | lit s => exact hp
    | hole id =>
      show leafOk [lit (lookupRaw ρ.raws id)] = true
      unfold lookupRaw
      split
      · rename_i v hv
        exact (List.all_eq_true.mp hr) _ (lookup_mem hv)
      · decide
  | anchor s => exact anchor_trusted _
  | tableHead cols => exact tableHead_trusted _
  | number n => exact number_trusted _
  | tag name attrs body ih =>
    simp only [progOk, Bool.and_eq_true] at hp
    simp only [eval]
    have hkeys := names_evalKV ρ attrs
    rw [mkTag_trusted _ _ _ (hkeys ▸ hp.1.1) (hkeys ▸ hp.1.2)]
    exact ih hp.2
  | cell h c w s body ih =>
    simp only [progOk, Bool.and_eq_true] at hp
    exact wrapped hp.1 (ih hp.2)
  | table c body ih =>
    simp only [progOk, Bool.and_eq_true] at hp
    exact wrapped hp.1 (ih hp.2)
  | tableRow body ih => exact wrapped tr_wrap (ih hp)
  | row body ih => exact wrapped row_wrap (ih hp)
  | page t g body ih =>
    simp only [progOk, Bool.and_eq_true] at hp
    simp only [eval]
    cases g with
    | none => rw [mkPage_trusted, page0_trusted]; exact ih hp.2
    | some id => rw [mkPage_trusted, hg]; exact ih hp.2

/-- **Programs have one shape**: two assignments that differ only in the content of the string
    holes (and in the data inside the children) build trees of the same shape -/
theorem eval_shape (p : Prog) (hp : progOk p = true) (ρ ρ' : Env) (h : sameCtl ρ ρ') :
    shape (eval ρ' p) = shape (eval ρ p) := by
  have ⟨_, _, hbool, hkid, hlist, hraw, hga⟩ := h
  induction p with
  | nil => rfl
  | seq a b iha ihb =>
    simp only [progOk, Bool.and_eq_true] at hp
    simp [eval, shape, iha hp.1, ihb hp.2]
  | kid i => exact getD_map_eq shape _ _ hkid i .nil
  | kids i =>
    simp only [eval, shape_seqs]
    exact congrArg seqs (getD_map_eq (fun l => l.map shape) _ _ hlist i [])
  | cond b t e iht ihe =>
    simp only [progOk, Bool.and_eq_true] at hp
    simp only [eval, hbool]
    split
    · exact iht hp.1
    · exact ihe hp.2
  | text s => rfl
  | raw r =>
    cases r with
    | lit s => rfl
    | hole id => simp [eval, evalR, hraw]
  | anchor s => rfl
  | tableHead cols => simp [eval, shape, List.map_map]
  | number n => simp [eval, evalI_same ρ ρ' h]
  | tag name attrs body ih =>
    simp only [progOk, Bool.and_eq_true] at hp
    simp only [eval]
    rw [mkTag_shape _ _ _ (names_evalKV ρ' attrs ▸ hp.1.1),
      mkTag_shape _ _ _ (names_evalKV ρ attrs ▸ hp.1.1), attrs_shape_congr ρ ρ' h, ih hp.2]
  | cell hd c w s body ih =>
    simp only [progOk, Bool.and_eq_true] at hp
    simp [eval, shape, ih hp.2]
  | table c body ih =>
    simp only [progOk, Bool.and_eq_true] at hp
    simp [eval, shape, ih hp.2]
  | tableRow body ih => simp [eval, shape, ih hp]
  | row body ih => simp [eval, shape, ih hp]
  | page t g body ih =>
    simp only [progOk, Bool.and_eq_true] at hp
    simp only [eval, mkPage, shape, ih hp.2, hga]

theorem prog_structure_preserved (p : Prog) (hp : progOk p = true) (ρ ρ' : Env) (hρ : envOk ρ = true)
    (h : sameCtl ρ ρ') :
    wellNested (render (eval ρ' p)) = true ∧
    skeleton (render (eval ρ' p)) = skeleton (render (eval ρ p)) :=
  same_shape_structure _ _ (eval_shape p hp ρ ρ' h) (eval_trusted p hp ρ hρ)

theorem sameCtl_blank (ρ : Env) : sameCtl (blankEnv ρ) ρ := by
  refine ⟨?_, rfl, rfl, rfl, rfl, rfl, rfl⟩
  simp only [blankEnv, List.map_map]
  apply List.map_congr_left
  intro s _
  cases s <;> simp

theorem prog_structure_blank (p : Prog) (hp : progOk p = true) (ρ : Env) (hρ : envOk ρ = true) :
    wellNested (render (eval ρ p)) = true ∧
    skeleton (render (eval ρ p)) = skeleton (render (eval (blankEnv ρ) p)) :=
  -- `envOk` does not read the strings
  prog_structure_preserved p hp (blankEnv ρ) ρ hρ (sameCtl_blank ρ)

/-- every program regenerated from package html passes the obligation: literal fragments are
    complete fitting tags, attribute lists are in `core.Tag`'s order, and no hole reaches a raw
    sink unless its call is on the allow-list (`rawSinkAllowList`, with reasons) -/
theorem page_programs_ok : Generated.pagePrograms.all (fun np => progOk np.2) = true := by
  decide +kernel

theorem program_ok {name : String} {p : Prog} (hmem : (name, p) ∈ Generated.pagePrograms) : progOk p = true :=
  List.all_eq_true.mp page_programs_ok _ hmem

theorem envOk_intro (ρ : Env) (hk : ρ.kids.all trusted = true) (hl : ρ.lists.all (·.all trusted) = true)
    (hr : ρ.raws.all (fun kv => leafOk [lit kv.2]) = true) (hg : trusted (mkPage [] .nil ρ.ga) = true) :
    envOk ρ = true := by
  simp [envOk, hk, hl, hr, hg]

/-- **Structure of a page component is independent of file content.**  For every regenerated
    program, every assignment `ρ` whose control holes satisfy `envOk`, and every other assignment
    `ρ'` of byte strings to the string holes (`sameCtl`: same ints, bools, raw holes, child shapes;
    a string is empty in `ρ'` iff it is in `ρ`): the bytes rendered under `ρ'` are well nested and
    tokenize to the same tags, attribute names and nesting as under `ρ`. -/
theorem page_structure_preserved (name : String) (p : Prog) (hmem : (name, p) ∈ Generated.pagePrograms)
    (ρ ρ' : Env) (hρ : envOk ρ = true) (h : sameCtl ρ ρ') :
    wellNested (render (eval ρ' p)) = true ∧
    skeleton (render (eval ρ' p)) = skeleton (render (eval ρ p)) :=
  prog_structure_preserved p (program_ok hmem) ρ ρ' hρ h

/-- … in particular the page has the skeleton it has when every non-empty string is `x`: no
    content of a GEDCOM file can add, remove or reorder a tag or an attribute -/
theorem page_structure_blank (name : String) (p : Prog) (hmem : (name, p) ∈ Generated.pagePrograms)
    (ρ : Env) (hρ : envOk ρ = true) :
    wellNested (render (eval ρ p)) = true ∧
    skeleton (render (eval ρ p)) = skeleton (render (eval (blankEnv ρ) p)) :=
  prog_structure_blank p (program_ok hmem) ρ hρ

/-- a program in which a string hole reaches a raw sink by a call that is not on the allow-list is
    rejected, and so is one whose literal HTML does not close what it opens -/
theorem progOk_rejects :
    progOk (.raw (.hole 12345)) = false ∧ progOk (.raw (.lit b!"<td>")) = false ∧
    progOk (.tag b!"a b" [] .nil) = false ∧ progOk (.tag b!"a" [(b!"x\"y", .hole 0)] .nil) = false := by
  decide +kernel

/-- a Google Analytics id that cannot leave its attribute or its script: no `<`, no `"` -/
def inertB (g : Str) : Bool := g.all fun b => b != 60 && b != 34

/-- the page frame with the two slots of the Google Analytics id left open -/
def gaTemplate : List Piece :=
  [lit Generated.pageHead] ++ fmtPieces Generated.gaFmt [.data .anchor [], .data .anchor []]
    ++ tagOpen Generated.pageTitleTag [] ++ [.data .text []] ++ tagClose Generated.pageTitleTag
    ++ [lit Generated.pageMid]

theorem gaTemplate_ok : wrapOk gaTemplate [lit Generated.pageTail] = true := by decide +kernel

/-- **The Google Analytics assumption of `envOk`, discharged**: the page frame is trusted for every
    id without `<` and `"` (the id is a command line option, written raw into an attribute and a
    script) -/
theorem ga_inert_trusted (g : Str) (hg : inertB g = true) : trusted (mkPage [] .nil g) = true := by
  cases hge : g with
  | nil => exact page0_trusted
  | cons x xs =>
    rw [← hge]
    have hne : g.isEmpty = false := by rw [hge]; rfl
    have hraw : rawGaId g = g := by
      unfold rawGaId
      have : Generated.gaEscTable = [] := rfl
      rw [this, escWith_nil]
    have hpre : (Comp.page [] g .nil footerRow).pre = gaTemplate.map (fill g) := by
      -- the `if` of `gaPieces` goes first: left to `rfl`, the kernel evaluates `fmtPieces` on the
      -- whole format to get through it
      simp only [Comp.pre, gaTemplate, gaPieces, hne, hraw, List.map_append, ← fmtPieces_map (fill g) (fun _ => rfl),
        Bool.false_eq_true, if_false]
      rfl
    show (wrapOk (Comp.page [] g .nil footerRow).pre (Comp.page [] g .nil footerRow).post
        && trusted Comp.nil && trusted footerRow) = true
    rw [hpre]
    have := wrapOk_fill g (fun b hb => by simpa using (List.all_eq_true.mp hg) b hb) gaTemplate
      [lit Generated.pageTail] gaTemplate_ok
    simp only [Comp.post]
    rw [this]
    obtain ⟨_, _, _, _, _, hfooter⟩ := constants_trusted
    simp [trusted, hfooter]

theorem envOk_of_inert (ρ : Env) (hk : ρ.kids.all trusted = true) (hl : ρ.lists.all (·.all trusted) = true)
    (hr : ρ.raws.all (fun kv => leafOk [lit kv.2]) = true) (hg : inertB ρ.ga = true) : envOk ρ = true :=
  envOk_intro ρ hk hl hr (ga_inert_trusted _ hg)

/-- a program instance without children and raw holes needs no assumption at all beyond an inert
    Google Analytics id: whatever the strings, well nested and of one skeleton -/
theorem page_structure_leaf (name : String) (p : Prog) (hmem : (name, p) ∈ Generated.pagePrograms)
    (strs strs' : List Str) (ints : List Int) (bools : List Bool) (ga : Str) (hg : inertB ga = true)
    (he : strs'.map List.isEmpty = strs.map List.isEmpty) :
    wellNested (render (eval { strs := strs', ints := ints, bools := bools, ga := ga } p)) = true ∧
    skeleton (render (eval { strs := strs', ints := ints, bools := bools, ga := ga } p)) =
      skeleton (render (eval { strs := strs, ints := ints, bools := bools, ga := ga } p)) :=
  page_structure_preserved name p hmem _ _ (envOk_of_inert _ rfl rfl rfl hg) ⟨he, rfl, rfl, rfl, rfl, rfl, rfl⟩

/-- the assumption of `envOk` on a raw hole holds for every value without `<` (ages: digits, `y`,
    `m`, `~`, `unknown`) -/
theorem raw_hole_inert (v : Str) (h : ∀ b ∈ v, b ≠ 60) : leafOk [lit v] = true :=
  leafOk_lit h

/-- a page assembled from regenerated programs all the way down: the children of every program
    are again program instances, or execution-only components that are trusted themselves -/
inductive Assembled : Comp → Prop
  | leaf (c : Comp) (h : trusted c = true) : Assembled c
  | prog (name : String) (p : Prog) (hmem : (name, p) ∈ Generated.pagePrograms) (ρ : Env)
      (hk : ∀ k ∈ ρ.kids, Assembled k) (hl : ∀ l ∈ ρ.lists, ∀ k ∈ l, Assembled k)
      (hr : ρ.raws.all (fun kv => leafOk [lit kv.2]) = true) (hg : trusted (mkPage [] .nil ρ.ga) = true) :
      Assembled (eval ρ p)

/-- … is trusted, hence well nested, whatever strings the holes of any level hold -/
theorem assembled_trusted (c : Comp) (h : Assembled c) : trusted c = true := by
  induction h with
  | leaf c h => exact h
  | prog name p hmem ρ hk hl hr hg ihk ihl =>
    exact eval_trusted p (program_ok hmem) ρ (envOk_intro ρ (List.all_eq_true.mpr ihk)
      (List.all_eq_true.mpr fun l hl' => List.all_eq_true.mpr (ihl l hl')) hr hg)

theorem assembled_wellNested (c : Comp) (h : Assembled c) : wellNested (render c) = true :=
  render_wellNested c (assembled_trusted c h)

/-- two pages assembled by the same programs at every level, with the same control holes and
    arbitrary strings in the string holes of every level -/
inductive SameAssembly : Comp → Comp → Prop
  | leaf (c c' : Comp) (hs : shape c' = shape c) (h : trusted c = true) : SameAssembly c c'
  | prog (name : String) (p : Prog) (hmem : (name, p) ∈ Generated.pagePrograms) (ρ ρ' : Env)
      (hstr : ρ'.strs.map List.isEmpty = ρ.strs.map List.isEmpty) (hi : ρ'.ints = ρ.ints)
      (hb : ρ'.bools = ρ.bools) (hraw : ρ'.raws = ρ.raws) (hga : ρ'.ga = ρ.ga)
      (hkl : ρ'.kids.length = ρ.kids.length)
      (hk : ∀ i, SameAssembly (ρ.kids.getD i .nil) (ρ'.kids.getD i .nil))
      (hll : ρ'.lists.length = ρ.lists.length)
      (hlen : ∀ j, (ρ'.lists.getD j []).length = (ρ.lists.getD j []).length)
      (hl : ∀ j i, SameAssembly ((ρ.lists.getD j []).getD i .nil) ((ρ'.lists.getD j []).getD i .nil))
      (hr : ρ.raws.all (fun kv => leafOk [lit kv.2]) = true) (hg : trusted (mkPage [] .nil ρ.ga) = true) :
      SameAssembly (eval ρ p) (eval ρ' p)

theorem sameAssembly_shape (c c' : Comp) (h : SameAssembly c c') : trusted c = true ∧ shape c' = shape c := by
  induction h with
  | leaf c c' hs h => exact ⟨h, hs⟩
  | prog name p hmem ρ ρ' hstr hi hb hraw hga hkl hk hll hlen hl hr hg ihk ihl =>
    constructor
    · exact eval_trusted p (program_ok hmem) ρ (envOk_intro ρ
        (all_of_getD trusted _ .nil fun i => (ihk i).1)
        (all_of_getD (fun l => l.all trusted) _ [] fun j => all_of_getD trusted _ .nil fun i => (ihl j i).1)
        hr hg)
    · apply eval_shape p (program_ok hmem) ρ ρ'
      refine ⟨hstr, hi, hb, ?_, ?_, hraw, hga⟩
      · exact map_eq_of_getD shape _ _ .nil hkl fun i => (ihk i).2
      · exact map_eq_of_getD (fun l => l.map shape) _ _ [] hll fun j =>
          map_eq_of_getD shape _ _ .nil (hlen j) fun i => (ihl j i).2

/-- **Whole pages.**  Assembled from regenerated programs at every level (leaves: components
    outside the translator's fragment, assumed trusted), a page is well nested and its skeleton
    does not depend on what any string hole of any level holds. -/
theorem assembly_structure_preserved (c c' : Comp) (h : SameAssembly c c') :
    wellNested (render c') = true ∧ skeleton (render c') = skeleton (render c) := by
  obtain ⟨ht, hs⟩ := sameAssembly_shape c c' h
  exact same_shape_structure c c' hs ht

/-! ### the program builders are the composites of the model

  `Prog.div`, `Prog.link`, … (what the translator emits for `core.NewDiv`, `core.NewLink`, …) build,
  under every assignment, exactly the trees of `Html.div`, `Html.link`, … — the composites that the
  correspondence on random html/core trees ties to the Go constructors byte for byte. -/

theorem eval_seqs (ρ : Env) (l : List Prog) : eval ρ (Prog.seqs l) = seqs (l.map (eval ρ)) := by
  induction l with
  | nil => rfl
  | cons c cs ih => simp [Prog.seqs, seqs, eval, ih]

theorem eval_div (ρ : Env) (c : SExp) (b : Prog) : eval ρ (Prog.div c b) = div (evalS ρ c) (eval ρ b) := rfl
theorem eval_span (ρ : Env) (c : SExp) (b : Prog) : eval ρ (Prog.span c b) = span (evalS ρ c) (eval ρ b) := rfl
theorem eval_heading (ρ : Env) (n : Int) (c : SExp) (b : Prog) :
    eval ρ (Prog.heading n c b) = heading n (evalS ρ c) (eval ρ b) := rfl
theorem eval_column (ρ : Env) (w : Int) (b : Prog) : eval ρ (Prog.column w b) = column w (eval ρ b) := rfl
theorem eval_badgePill (ρ : Env) (color cls : SExp) (v : Prog) :
    eval ρ (Prog.badgePill color cls v) = badgePill (evalS ρ color) (evalS ρ cls) (eval ρ v) := by
  unfold badgePill
  rw [List.append_assoc, List.append_assoc]; rfl
theorem eval_bigTitle (ρ : Env) (n : Int) (t : Prog) : eval ρ (Prog.bigTitle n t) = bigTitle n (eval ρ t) := rfl
theorem eval_cardNoCount (ρ : Env) (t b : Prog) :
    eval ρ (Prog.cardNoCount t b) = card (eval ρ t) (-1) (eval ρ b) := rfl
theorem eval_link (ρ : Env) (b : Prog) (d s : SExp) :
    eval ρ (Prog.link b d s) = link (eval ρ b) (evalS ρ d) (evalS ρ s) := rfl
theorem eval_keyedRow (ρ : Env) (t : SExp) (v : Prog) :
    eval ρ (Prog.keyedRow t v) = keyedTableRow (evalS ρ t) true (eval ρ v) := rfl
theorem eval_navAnchor (ρ : Env) (a : Bool) (h : SExp) (b : Prog) :
    eval ρ (Prog.navAnchor a h b) = navItem (eval ρ b) a (evalS ρ h) := rfl
theorem eval_octicon (ρ : Env) (n s : SExp) :
    eval ρ (Prog.octicon n s) = octicon (evalS ρ n) (evalS ρ s) := rfl
theorem eval_space (ρ : Env) : eval ρ Prog.space = space ∧ eval ρ Prog.empty = empty ∧
    eval ρ Prog.lineBreak = lineBreak ∧ eval ρ Prog.horizontalRule = horizontalRule ∧
    eval ρ Prog.horizontalRuleRow = horizontalRuleRow := ⟨rfl, rfl, rfl, rfl, rfl⟩
theorem eval_lines (ρ : Env) (l : List Prog) : eval ρ (Prog.lines l) = lines (l.map (eval ρ)) := by
  induction l with
  | nil => rfl
  | cons c cs ih =>
    cases cs with
    | nil => rfl
    | cons d ds => simp only [Prog.lines, List.map_cons, lines, eval] at ih ⊢; rw [ih]; rfl
theorem eval_countBadge (ρ : Env) (n : IExp) : eval ρ (Prog.countBadge n) = countBadge (evalI ρ n) := by
  unfold Prog.countBadge countBadge
  rw [eval_badgePill]; rfl
theorem eval_cardCount (ρ : Env) (t : Prog) (n : IExp) (b : Prog) (h : evalI ρ n ≠ -1) :
    eval ρ (Prog.cardCount t n b) = card (eval ρ t) (evalI ρ n) (eval ρ b) := by
  have hc : (evalI ρ n == -1) = false := by simpa using h
  simp only [card, hc]
  rfl
theorem eval_navPills (ρ : Env) (l : List Prog) :
    eval ρ (Prog.navPills (Prog.seqs l)) = navPills (l.map (eval ρ)) := by
  unfold navPills; rw [← eval_seqs]; rfl
theorem eval_navPillsRow (ρ : Env) (l : List Prog) :
    eval ρ (Prog.navPillsRow (Prog.seqs l)) = navPillsRow (l.map (eval ρ)) := by
  unfold navPillsRow; rw [← eval_navPills]; rfl
theorem eval_navTabs (ρ : Env) (l : List Prog) :
    eval ρ (Prog.navTabs (Prog.seqs l)) = navTabs (l.map (eval ρ)) := by
  unfold navTabs; rw [← eval_seqs]; rfl

/-! ### Non-vacuity -/

/-- a hostile value in every hole of a link program: same skeleton as the blank one, well nested -/
example :
    let p := Prog.link (.text (.hole 0)) (.hole 1) (.lit [])
    let evil : Str := b!"\"></a><script>alert(1)</script>'&"
    let ρ : Env := { strs := [evil, evil] }
    progOk p = true ∧ envOk ρ = true ∧ wellNested (render (eval ρ p)) = true ∧
    skeleton (render (eval ρ p)) = skeleton (render (eval (blankEnv ρ) p)) := by
  intro p evil ρ
  have hp : progOk p = true := by decide +kernel
  have hρ : envOk ρ = true := by decide +kernel
  exact ⟨hp, hρ, prog_structure_blank p hp ρ hρ⟩

/-- emptiness is control: an empty destination drops the `href` attribute (`core.NewTag`) -/
example :
    let p := Prog.link (.text (.hole 0)) (.hole 1) (.lit [])
    skeleton (render (eval { strs := [b!"a", []] } p)) ≠ skeleton (render (eval { strs := [b!"a", b!"x"] } p)) := by
  decide +kernel

end Gedcom.C18

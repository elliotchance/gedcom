/-
  C10 — when does the merged document decode again?  `output_redecodes` (Props/C10Compose.lean)
  needs `recordsBelowFam` of both inputs.  Here, without any condition on where role lines sit:
  * `output_redecodes_iff` — for inputs made of legal parts (everything the decoder returns, C02
    `decode_legal`) and any comparisons: the merged document decodes to itself **iff** its records,
    in the order the merge emits them (merged individuals first, then the other records), satisfy
    the role-order condition `rolesOKF false` — the Boolean the driver prints as `legal=` for every
    `mergedocs` request and the harness compares with what the real decoder does with the real
    output;
  * `roles_counterexample` — the condition on the inputs cannot be dropped: a document that the
    decoder accepts (a CHIL line inside an INDI record that follows a FAM record) merged with the
    empty document comes out with the individual *before* the family, and that text is rejected
    by the decoder ("CHIL without a family").  Replayed on the implementation by the harness
    (shape `roles-outside-fam`).
-/
import Gedcom.Props.C10Compose
namespace Gedcom.C10
open Gedcom.Match Gedcom.MergeD Gedcom.Dec

theorem output_redecodes_iff (res : List Res) (Ld Rd : List INode) (st st' : MSt)
    (indis : List (Res × INode)) (others : List INode) (bom : Bool) (o : Opts)
    (hm : o.allowMultiLine = false)
    (hl : LegalF (eraseList Ld)) (hr : LegalF (eraseList Rd))
    (h : mergeDocs res Ld Rd st = .ok indis others st') :
    decode o (encode ⟨bom, eraseList (indis.map (·.2)) ++ eraseList others⟩) =
        .ok ⟨bom, eraseList (indis.map (·.2)) ++ eraseList others⟩ ↔
      rolesOKF false (eraseList (indis.map (·.2)) ++ eraseList others) = true := by
  constructor
  · intro hd
    exact (C02.decode_legal o hm _ _ hd).roles
  · intro hroles
    exact output_redecodes_partial res Ld Rd st st' indis others bom o hl hr h hroles

/-- the witness: `0 @F1@ FAM`, `0 @I1@ INDI`, `1 CHIL @I2@` -/
def rolesWitness : List Node :=
  [.mk (lit "FAM") [] (lit "F1") [],
   .mk (lit "INDI") [] (lit "I1") [.mk (lit "CHIL") (lit "@I2@") [] []]]
def rolesWitnessL : List INode := (labelList 0 rolesWitness).1
def rolesWitnessSt : MSt := { next := (labelList 0 rolesWitness).2, writes := [], oof := false }
/-- what the merge with the empty document returns: the individual first -/
def rolesWitnessOut : List Node :=
  [.mk (lit "INDI") [] (lit "I1") [.mk (lit "CHIL") (lit "@I2@") [] []],
   .mk (lit "FAM") [] (lit "F1") []]

/-- The input is a legal document (the decoder returns it for its own
    text), its CHIL line is not below a FAM record, the merge with the empty document succeeds,
    and the merged document does not decode: line 2 is rejected. -/
theorem roles_counterexample :
    legalDocB ⟨false, rolesWitness⟩ = true ∧
    decode ⟨false, false⟩ (encode ⟨false, rolesWitness⟩) = .ok ⟨false, rolesWitness⟩ ∧
    recordsBelowFam rolesWitnessL = false ∧
    (mergeDocs [(some 1, none)] rolesWitnessL [] rolesWitnessSt).nodes.any (· == rolesWitnessOut) = true ∧
    rolesOKF false rolesWitnessOut = false ∧
    (match decode ⟨false, false⟩ (encode ⟨false, rolesWitnessOut⟩) with
     | .error 2 => true
     | _ => false) = true := by
  have hlegal : legalDocB ⟨false, rolesWitness⟩ = true := by decide +kernel
  exact ⟨hlegal, C01.decode_encode _ (C01.legal_of_check _ hlegal) _, by decide +kernel, by decide +kernel,
    by decide +kernel, by decide +kernel⟩

end Gedcom.C10

/-
  C16 — query results equal what the Go API gives.

  Theorems about the evaluator the driver runs (`Gedcom.Q.evalExpr`, `evalPipe`, `evalVar`,
  `applyOpStr` in Model/Query.lean), for all documents, inputs, programs and variable
  environments.  The function and operator tables are the regenerated ones
  (`Generated.Query.functions`, `opTruthNumeric`, `opTruthText`, `nanIsNumeric`): the facts about
  them are closed by `decide`, so a changed table breaks the proof.
-/
import Gedcom.Lemmas.Query
import Gedcom.Generated.QuerySrc
namespace Gedcom.C16
open Gedcom.Q

/-! the regenerated function table maps the documented names to their implementations -/

theorem fnOf_First : fnOf (ascii "First") = .first := by decide +kernel
theorem fnOf_Last : fnOf (ascii "Last") = .last := by decide +kernel
theorem fnOf_Length : fnOf (ascii "Length") = .length := by decide +kernel
theorem fnOf_Only : fnOf (ascii "Only") = .only := by decide +kernel
theorem fnOf_Combine : fnOf (ascii "Combine") = .combine := by decide +kernel
theorem fnOf_NodesWithTagPath : fnOf (ascii "NodesWithTagPath") = .tagPath := by decide +kernel

theorem bind_ok {α β} (a : α) (f : α → Outcome β) : (Outcome.ok a >>= f) = f a := rfl

/-- An accessor applied to a list is applied to every element, in order, and
    the results form a new list whose element type is the accessor's result type: whenever the
    accessor has a result type on the element type (`returnType`) and succeeds on every element
    with a non-nil result `g x`, the result on the list is the list of the `g x`. -/
theorem accessor_maps (now : Nat) (docs : List Forest) (q : Str) (nm : String) (elem rt : Ty) (isNil : Bool)
    (vs : List Val) (g : Val → Val)
    (hrt : returnType elem (q.drop 1) = .ok rt)
    (hel : ∀ x ∈ vs, accessSingle now docs (q.drop 1) x = .ok (g x) ∧ g x ≠ .nil) :
    evalAccessor now docs q (.slice nm elem isNil vs) = .ok (.slice "" rt false (vs.map g)) := by
  have hmap := mapO_ok (accessElem now docs (q.drop 1)) g vs fun x hx => accessElem_ok (hel x hx).1 (hel x hx).2
  unfold evalAccessor
  simp only [hrt, hmap, Outcome.ok_bind]
  rfl

/-- an element on which the accessor fails makes the whole list fail with that error: no
    partial results -/
theorem accessor_error_propagates (now : Nat) (docs : List Forest) (q : Str) (nm : String) (elem rt : Ty) (isNil : Bool)
    (x : Val) (vs : List Val) (k : ErrKind)
    (hrt : returnType elem (q.drop 1) = .ok rt) (hx : accessSingle now docs (q.drop 1) x = .error k) :
    evalAccessor now docs q (.slice nm elem isNil (x :: vs)) = .error k := by
  unfold evalAccessor
  simp only [hrt, Outcome.ok_bind, mapO, accessElem, hx, Outcome.error_bind]

/-- `First(n)` of a non-nil list is its prefix of length `min n len` (all of
    it when `n` exceeds the length), of the same list type. -/
theorem first_is_take (env : Env) (lk : Lookup) (f : Str) (a : Stmt) (nm : String) (e : Ty) (vs : List Val)
    (r : Val) (s : Str) (n : Nat) (hf : fnOf f = .first)
    (ha : evalStmt env lk a (.slice nm e false vs) = .ok r) (hs : fmtV r = some s) (hn : Q.atoi s = some (n : Int)) :
    evalExpr env lk (.call f [a]) (.slice nm e false vs) = .ok (.slice nm e false (vs.take n)) := by
  rw [evalExpr, hf]
  exact (firstLast_eq ha hs hn).trans (if_neg (Int.not_lt.mpr (Int.natCast_nonneg n)))

/-- `Last(n)` of a non-nil list is its suffix of length `min n len`. -/
theorem last_is_suffix (env : Env) (lk : Lookup) (f : Str) (a : Stmt) (nm : String) (e : Ty) (vs : List Val)
    (r : Val) (s : Str) (n : Nat) (hf : fnOf f = .last)
    (ha : evalStmt env lk a (.slice nm e false vs) = .ok r) (hs : fmtV r = some s) (hn : Q.atoi s = some (n : Int)) :
    evalExpr env lk (.call f [a]) (.slice nm e false vs) = .ok (.slice nm e false (vs.drop (vs.length - n))) := by
  rw [evalExpr, hf]
  exact (firstLast_eq ha hs hn).trans (by rw [if_neg (Int.not_lt.mpr (Int.natCast_nonneg n)), Int.toNat_sub]; rfl)

theorem take_length_min (vs : List Val) (n : Nat) : (vs.take n).length = min n vs.length := by simp

theorem suffix_length_min (vs : List Val) (n : Nat) : (vs.drop (vs.length - n)).length = min n vs.length := by
  simp; omega

/-- a negative count is not clamped: Go's `Value.Slice` panics (which `Engine.Evaluate` reports
    as an error once it recovers) -/
theorem first_negative_panics (env : Env) (lk : Lookup) (f : Str) (a : Stmt) (nm : String) (e : Ty) (vs : List Val)
    (r : Val) (s : Str) (n : Int) (hf : fnOf f = .first ∨ fnOf f = .last) (hneg : n < 0)
    (ha : evalStmt env lk a (.slice nm e false vs) = .ok r) (hs : fmtV r = some s) (hn : Q.atoi s = some n) :
    evalExpr env lk (.call f [a]) (.slice nm e false vs) = .panic .sliceBounds := by
  rcases hf with hf | hf
  · rw [evalExpr, hf]
    exact (firstLast_eq ha hs hn).trans (if_pos hneg)
  · rw [evalExpr, hf]
    exact (firstLast_eq ha hs hn).trans (if_pos hneg)

/-- `Length` is the number of elements of a list and 1 for anything else;
    arguments are ignored. -/
theorem length_spec (env : Env) (lk : Lookup) (f : Str) (args : List Stmt) (v : Val) (hf : fnOf f = .length) :
    evalExpr env lk (.call f args) v =
      .ok (.int (match v with | .slice _ _ _ vs => (vs.length : Int) | _ => 1)) := by
  unfold evalExpr
  rw [hf]
  cases v <;> rfl

/-- `Only(c)` keeps exactly the elements on which the condition evaluates to
    true, in their original order; the result is an (unnamed) list of the same element type. -/
theorem only_is_filter (env : Env) (lk : Lookup) (f : Str) (c : Stmt) (nm : String) (e : Ty) (isNil : Bool)
    (vs : List Val) (p : Val → Bool) (hf : fnOf f = .only) (he : e ≠ .opaque "interface {}")
    (hc : ∀ x ∈ vs, evalStmt env lk c x = .ok (.bool (p x))) :
    evalExpr env lk (.call f [c]) (.slice nm e isNil vs) = .ok (.slice "" e false (vs.filter p)) := by
  have hkeep := filterO_ok (fun x => do let r ← evalStmt env lk c x; keepIf r) p vs
    fun x hx => by simp only [hc x hx, Outcome.ok_bind, keepIf]
  unfold evalExpr
  rw [hf]
  simp only [onlyWith, hkeep, Outcome.ok_bind, Outcome.pure_eq]

/-- a condition whose result is not a bool selects nothing -/
theorem only_nonbool_drops (r : Val) (h : ∀ b, r ≠ .bool b) (h' : r ≠ .someBool) : keepIf r = .ok false := by
  cases r with
  | bool b => exact absurd rfl (h b)
  | someBool => exact absurd rfl h'
  | _ => rfl

/-- `Only(p)` and `Only(not p)` split a list without loss, duplication or
    reordering: both are sublists and their lengths add up (of the filter `Only` is: `only_is_filter`). -/
theorem only_partition (vs : List Val) (p : Val → Bool) :
    (vs.filter p).length + (vs.filter (fun x => !p x)).length = vs.length ∧
    (vs.filter p).Sublist vs ∧ (vs.filter (fun x => !p x)).Sublist vs := by
  refine ⟨?_, List.filter_sublist, List.filter_sublist⟩
  simpa [List.countP_eq_length_filter] using (List.length_eq_countP_add_countP p (l := vs)).symm

/-- `Combine(a, b)` of two lists with the same element type is the first
    followed by the second, with the list type of the first. -/
theorem combine_is_append (env : Env) (lk : Lookup) (f : Str) (a b : Stmt) (v : Val)
    (nm nm' : String) (e : Ty) (n1 n2 : Bool) (xs ys : List Val) (hf : fnOf f = .combine)
    (ha : evalStmt env lk a v = .ok (.slice nm e n1 xs)) (hb : evalStmt env lk b v = .ok (.slice nm' e n2 ys)) :
    evalExpr env lk (.call f [a, b]) v = .ok (.slice nm e false (xs ++ ys)) := by
  rw [combine_eq hf ha, evalCombine_cons hb, if_pos (beq_self_eq_true e)]
  rfl

/-- the list fact behind `Combine(E, E) | Length = 2 · (E | Length)` (`combine_is_append`, `length_spec`) -/
theorem combine_self_length (xs : List Val) : (xs ++ xs).length = 2 * xs.length := by simp; omega

/-- lists of different element types cannot be combined: `reflect.AppendSlice` panics -/
theorem combine_mismatch_panics (env : Env) (lk : Lookup) (f : Str) (a b : Stmt) (v : Val)
    (nm nm' : String) (e e' : Ty) (n1 n2 : Bool) (xs ys : List Val) (hf : fnOf f = .combine) (hne : e' ≠ e)
    (ha : evalStmt env lk a v = .ok (.slice nm e n1 xs)) (hb : evalStmt env lk b v = .ok (.slice nm' e' n2 ys)) :
    evalExpr env lk (.call f [a, b]) v = .panic .appendSlice := by
  rw [combine_eq hf ha, evalCombine_cons hb, if_neg (by simpa using hne)]
  rfl

/-- The nodes at a tag path below `n`: `n` itself for the empty path, otherwise
    the nodes at the rest of the path below every child (in order) carrying the first tag. -/
theorem tagpath_spec (n : Node) (t : Str) (ts : List Str) :
    tagPath [] n = [n] ∧
    tagPath (t :: ts) n = (n.kids.filter (fun k => k.tag == t)).flatMap (tagPath ts) := ⟨rfl, rfl⟩

/-- Evaluating `e₁ | … | eₖ | f₁ | … | fₘ` is evaluating `e₁ | … | eₖ` and
    feeding the result to `f₁ | … | fₘ`; a failure of the first part is the failure of the whole. -/
theorem pipe_is_compose (env : Env) (lk : Lookup) (es fs : List Expr) (v : Val) :
    evalPipe env lk (es ++ fs) v = (evalPipe env lk es v >>= evalPipe env lk fs) := by
  induction es generalizing v with
  | nil => rfl
  | cons e es ih => simp only [List.cons_append, evalPipe, ih, bind_assoc]

theorem pipe_single (env : Env) (lk : Lookup) (e : Expr) (v : Val) :
    evalPipe env lk [e] v = evalExpr env lk e v := by
  simp only [evalPipe]
  exact bind_pure _

/-- A variable evaluates exactly as the pipeline it names, on the current
    input (not on the document): wherever `x` stands, the body of the first statement named `x`
    may stand instead. -/
theorem variable_inline (env : Env) (guard : Bool) (fuel : Nat) (active : List Str) (x : Str) (s : Stmt) (v : Val)
    (hl : lookupVar env.docs.length env.eng x = some (.stmt s)) (hg : (guard && active.contains x) = false) :
    evalExpr env (evalVar env guard (fuel + 1) active) (.var x) v =
      evalPipe env (evalVar env guard fuel (x :: active)) s.body v := by
  rw [evalExpr, evalVar]
  simp only [hl, hg]
  cases s
  rfl

/-- the document variables are bound first: `DocumentN` is the N-th document whatever the query
    defines -/
theorem document_variable (env : Env) (guard : Bool) (fuel : Nat) (active : List Str) (x : Str) (i : Nat) (v : Val)
    (hl : lookupVar env.docs.length env.eng x = some (.document i)) :
    evalExpr env (evalVar env guard (fuel + 1) active) (.var x) v = .ok (.doc i) := by
  rw [evalExpr, evalVar]
  simp only [hl]

/-- On a single (non-list) item an object evaluates every field on that item;
    the result maps each key to its field's value. -/
theorem object_fields (env : Env) (lk : Lookup) (fs : List (Str × Stmt)) (v : Val) (hv : v.isSlice = false) :
    evalExpr env lk (.obj fs) v = (evalFields env lk fs v >>= fun kvs => pure (.map kvs)) := by
  rw [evalExpr, mapDeep_nonslice hv]

theorem object_field_values (env : Env) (lk : Lookup) (k : Str) (s : Stmt) (rest : List (Str × Stmt)) (v r : Val)
    (rs : List (Str × Val)) (hs : evalStmt env lk s v = .ok r) (hr : evalFields env lk rest v = .ok rs) :
    evalFields env lk ((k, s) :: rest) v = .ok ((k, r) :: rs) := by
  simp [evalFields, hs, hr]

/-- On every pair of operand strings `!=` is the negation of `=`. -/
theorem neq_is_not_eq (nan : Bool) (l r : Str) :
    applyOpStr nan "!=" l r = (applyOpStr nan "=" l r).map (!·) := by
  unfold applyOpStr
  cases compareOperands nan l r with
  | numeric o => cases o <;> decide
  | text o => cases o <;> decide
  | unordered => decide
  | undetermined => rfl

/-- all six operators agree with one three-way comparison, numerically and textually: `>=` is
    `> or =`, `<=` is `< or =` (regenerated truth tables) -/
theorem ge_le_spec (nan : Bool) (l r : Str) (hnn : compareOperands nan l r ≠ .unordered) :
    applyOpStr nan ">=" l r = (do let g ← applyOpStr nan ">" l r; let e ← applyOpStr nan "=" l r; pure (g || e)) ∧
    applyOpStr nan "<=" l r = (do let g ← applyOpStr nan "<" l r; let e ← applyOpStr nan "=" l r; pure (g || e)) := by
  unfold applyOpStr
  cases h : compareOperands nan l r with
  | numeric o => cases o <;> decide
  | text o => cases o <;> decide
  | unordered => exact absurd h hnn
  | undetermined => exact ⟨rfl, rfl⟩

def b2n (b : Bool) : Nat := if b then 1 else 0

/-- `trichotomy`.  Whenever the comparison is decided by the model and no NaN is compared as a
    number, exactly one of `<`, `=`, `>` holds. -/
theorem trichotomy_of_ordered (nan : Bool) (l r : Str) (lt eq gt : Bool)
    (hnn : compareOperands nan l r ≠ .unordered)
    (h1 : applyOpStr nan "<" l r = some lt) (h2 : applyOpStr nan "=" l r = some eq)
    (h3 : applyOpStr nan ">" l r = some gt) :
    b2n lt + b2n eq + b2n gt = 1 := by
  unfold applyOpStr at h1 h2 h3
  revert lt eq gt
  cases h : compareOperands nan l r with
  -- at each order the `<`, `=`, `>` entries of the truth table are closed terms, exactly one of them true
  | numeric o => cases o <;> decide
  | text o => cases o <;> decide
  | unordered => exact absurd h hnn
  | undetermined => nofun

theorem nanIsNumeric_now : Generated.Query.nanIsNumeric = false := by decide

/-- with the regenerated flag (`NaN` spellings are text, not numbers) no comparison is unordered -/
theorem never_unordered (l r : Str) : compareOperands Generated.Query.nanIsNumeric l r ≠ .unordered := by
  rw [nanIsNumeric_now]
  unfold compareOperands
  generalize parseNum l = nl
  generalize parseNum r = nr
  by_cases hc : (isNumericNum false nl && isNumericNum false nr) = true
  · have ⟨hl, hr⟩ := (Bool.and_eq_true _ _).mp hc
    simp only [if_pos hc]
    -- the two cases that answer `unordered` have a NaN, which does not count as a number
    split
    · cases hl
    · cases hr
    all_goals nofun
  · simp only [if_neg hc]
    split <;> nofun

/-- `trichotomy` for the evaluator of the current tree: exactly one of `<`, `=`, `>`. -/
theorem trichotomy (l r : Str) (lt eq gt : Bool)
    (h1 : applyOpStr Generated.Query.nanIsNumeric "<" l r = some lt)
    (h2 : applyOpStr Generated.Query.nanIsNumeric "=" l r = some eq)
    (h3 : applyOpStr Generated.Query.nanIsNumeric ">" l r = some gt) :
    b2n lt + b2n eq + b2n gt = 1 :=
  trichotomy_of_ordered _ l r lt eq gt (never_unordered l r) h1 h2 h3

/-- the full statement is false of code that treats NaN as a number (the tree before the repair):
    with `nanIsNumeric = true`, `"Nan"` is neither `<`, `=` nor `>` than itself -/
theorem nan_counterexample :
    applyOpStr true "<" (ascii "Nan") (ascii "Nan") = some false ∧
    applyOpStr true "=" (ascii "Nan") (ascii "Nan") = some false ∧
    applyOpStr true ">" (ascii "Nan") (ascii "Nan") = some false := by decide +kernel

/-- …and after the repair a person called Nan is found by her name -/
theorem nan_repaired : applyOpStr false "=" (ascii "Nan") (ascii "nan ") = some true := by decide +kernel

/-- Two operands are compared as numbers exactly when both are accepted
    by (the model of) `strconv.ParseFloat` — a NaN spelling only if the code counts it as a
    number — and otherwise as lower-cased, trimmed text in byte order (for ASCII operands; the
    model does not determine `strings.ToLower` beyond ASCII and answers `undetermined` there). -/
theorem numeric_else_text (nan : Bool) (l r : Str) :
    (isNumericNum nan (parseNum l) = true ∧ isNumericNum nan (parseNum r) = true →
        ∀ o, compareOperands nan l r ≠ .text o) ∧
    (¬ (isNumericNum nan (parseNum l) = true ∧ isNumericNum nan (parseNum r) = true) →
      isAsciiStr l = true → isAsciiStr r = true →
        compareOperands nan l r = .text (cmpStr (Gedcom.trimSpace (toLowerAscii l)) (Gedcom.trimSpace (toLowerAscii r)))) := by
  unfold compareOperands
  constructor
  · intro ⟨h1, h2⟩ o
    simp only [h1, h2, Bool.and_self, if_true]
    split <;> simp
  · intro h ha hb
    have : ¬ (isNumericNum nan (parseNum l) && isNumericNum nan (parseNum r)) = true := by
      rwa [Bool.and_eq_true]
    simp [this, ha, hb]

theorem cmpStr_eq_iff (a b : Str) : cmpStr a b = .eq ↔ a = b := by
  induction a generalizing b with
  | nil => cases b <;> simp [cmpStr]
  | cons x xs ih =>
    cases b with
    | nil => simp [cmpStr]
    | cons y ys =>
      -- heads that compare `<` or `>` differ; otherwise they are equal and the tails decide
      rw [cmpStr, List.cons.injEq, ← ih]
      split
      · next h => exact ⟨nofun, fun e => absurd (e.1 ▸ h) (UInt8.lt_irrefl _)⟩
      · split
        · next h => exact ⟨nofun, fun e => absurd (e.1 ▸ h) (UInt8.lt_irrefl _)⟩
        · next h1 h2 =>
          exact ⟨fun e => ⟨UInt8.le_antisymm (UInt8.not_lt.mp h2) (UInt8.not_lt.mp h1), e⟩, And.right⟩

/-- a person with a death event is not living, whatever the year -/
theorem living_no_death (now : Nat) (n : Node) (h : (kidsWithTag n "DEAT").isEmpty = false) :
    individualIsLiving now n = false := by
  simp [individualIsLiving, h]

/-- without a death event and without any birth / baptism date a person counts as living -/
theorem living_unknown_birth (now : Nat) (n : Node) (hd : (kidsWithTag n "DEAT").isEmpty = true)
    (hb : estimatedBirthDate n = none) : individualIsLiving now n = true := by
  simp [individualIsLiving, hd, birthYears, hb, livingTest]

theorem livingTest_antitone (now later maxAge : Nat) (by_ : Int × Nat) (hle : now ≤ later)
    (h : livingTest later maxAge by_ = true) : livingTest now maxAge by_ = true := by
  unfold livingTest at h ⊢
  simp only [Bool.or_eq_true, decide_eq_true_eq] at h ⊢
  rcases h with h | h
  · exact Or.inl h
  · refine Or.inr ?_
    have h1 : (now : Int) ≤ (later : Int) := by exact_mod_cast hle
    have h2 : (0 : Int) ≤ (by_.2 : Int) := Int.natCast_nonneg _
    have := Int.mul_le_mul_of_nonneg_right h1 h2
    omega

/-- the living test is antitone in the current year: who is not living now is not living in
    any later year -/
theorem living_antitone (now later : Nat) (n : Node) (hle : now ≤ later)
    (h : individualIsLiving later n = true) : individualIsLiving now n = true := by
  unfold individualIsLiving at h ⊢
  split at h
  · cases h
  · split at h
    · next hd hm => rw [if_neg hd, if_pos hm]
    · next hd hm =>
      rw [if_neg hd, if_neg hm]
      exact livingTest_antitone now later _ _ hle h

/-- `Spouses`, `Families`, `Parents` and the `Individual` of a HUSB/WIFE/CHIL node are the
    reference-resolution functions of the C14 model; a panic there is the recovered error -/
theorem spouses_is_resolve (now : Nat) (docs : List Forest) (d : Nat) (n : Node) :
    callMenu now docs "IndividualNode" "Spouses" (.node d n) =
      some (ofRes (Resolve.spouses resFlags (docs.getD d []) ⟨0, n⟩)
        (fun l => .slice "IndividualNodes" (.ptr "IndividualNode") false (l.map (entVal d "IndividualNode")))) := by
  rfl

/-- a constant evaluates to its text, whatever the input -/
theorem const_is_value (env : Env) (lk : Lookup) (s : Str) (v : Val) : evalExpr env lk (.const s) v = .ok (.str s) := by
  rw [evalExpr]

/-- `?` (as an expression and as the function `?`) looks at the *type* of the input only -/
theorem question_is_type_listing (env : Env) (lk : Lookup) (v : Val) :
    evalExpr env lk .question v = questionOf env.varNames v := by
  rw [evalExpr]

/-- for a value of a receiver type in the reflection tables the listing is: the accessors of the
    (pointer) type, the functions and the variable names, sorted bytewise -/
theorem question_lists (vars : List Str) (r : String) (ms : List (String × Nat × Nat × Ty))
    (h : Generated.Query.methods.find? (·.1 == r) = some (r, ms)) :
    questionList (some r) vars =
      .ok (.slice "" .str false ((sortStrs (ms.map (fun m => ascii ("." ++ m.1)) ++
        Generated.Query.functions.map (fun f => ascii f.1) ++ vars)).map .str)) := by
  simp [questionList, h]

/-- `?` on a list is `?` on the element type (for pointer, struct and scalar element types) -/
theorem question_of_list (vars : List Str) (nm : String) (k : String) :
    questionTy vars (.slice nm (.ptr k)) = questionTy vars (.ptr k) ∧
    questionTy vars (.slice nm .date) = questionTy vars .date ∧
    questionTy vars (.slice nm .str) = questionTy vars .str := by
  refine ⟨?_, ?_, ?_⟩ <;> simp [questionTy]

/-- a comparison on a list is the comparison on every element, in order (a `[]bool`) -/
theorem binary_maps_over_list (env : Env) (lk : Lookup) (l r : Expr) (op : String) (nm : String) (e : Ty) (isNil : Bool)
    (vs : List Val) :
    evalExpr env lk (.bin l op r) (.slice nm e isNil vs) =
      (mapDeepList .bool (binaryOn op (evalExpr env lk l) (evalExpr env lk r)) vs >>= fun rs => pure (.slice "" .bool false rs)) := by
  rw [evalExpr, mapDeep]

/-- on a single item it is the operator applied to the two operands evaluated on that item -/
theorem binary_on_item (env : Env) (lk : Lookup) (l r : Expr) (op : String) (v a b : Val) (hv : v.isSlice = false)
    (hl : evalExpr env lk l v = .ok a) (hr : evalExpr env lk r v = .ok b) :
    evalExpr env lk (.bin l op r) v = .ok (applyOp op a b) := by
  rw [evalExpr, mapDeep_nonslice hv, binaryOn, hl, hr]
  rfl

/-- MergeDocumentsAndIndividuals: an argument that is not a document is an error -/
theorem merge_requires_documents (a b : Unit → Outcome Val) (x : Val) (ha : a () = .ok x)
    (hx : ∀ i, x ≠ .doc i) : mergeWith a b = .error .notDocument := by
  unfold mergeWith
  rw [ha]
  cases x with
  | doc i => exact absurd rfl (hx i)
  | _ => rfl

/-- methods with arguments are not callable from a query: reflection's `Call` with no arguments
    panics, which `evaluateAccessor` recovers into an error — for every receiver type in the tables -/
theorem method_with_arguments_is_error (now : Nat) (docs : List Forest) (acc : Str) (v : Val) (t : Ty) (recv : String)
    (nin nout : Nat) (out : Ty) (ht : v.ty = some t) (hr : recvOfTy t = some recv) (hk : knownRecv recv = true)
    (hm : methodInfo recv acc = some (nin + 1, nout, out)) :
    accessSingle now docs acc v = .error .methodPanicked := by
  unfold accessSingle
  simp [ht, hr, hk, hm]

/-- a method wins over a struct field of the same name: when reflection finds a niladic method the
    field table is not consulted -/
theorem method_before_field (now : Nat) (docs : List Forest) (acc : Str) (v : Val) (t : Ty) (recv : String)
    (nout : Nat) (out : Ty) (r : MenuResult) (ht : v.ty = some t) (hr : recvOfTy t = some recv) (hk : knownRecv recv = true)
    (hm : methodInfo recv acc = some (0, nout + 1, out))
    (hc : callMenu now docs recv (strOfAscii? acc) v = some r) :
    accessSingle now docs acc v = r.toOutcome := by
  unfold accessSingle
  simp [ht, hr, hk, hm, hc]

/-- struct fields: an unexported field is an error (`field.Interface()` panics, recovered), a field
    of a nil pointer is "no such accessor" (`FieldByName` on the zero Value panics inside getField) -/
theorem unexported_field_is_error (now : Nat) (docs : List Forest) (acc : Str) (v : Val) (t : Ty) (recv : String) (fi : Bool × Ty)
    (ht : v.ty = some t) (hr : recvOfTy t = some recv) (hk : knownRecv recv = true) (hm : methodInfo recv acc = none)
    (hf : fieldInfo recv acc = some fi) (hn : v.isNilPtr = false) (he : isExportedName acc = false) :
    accessSingle now docs acc v = .error .methodPanicked := by
  unfold accessSingle
  simp [ht, hr, hk, hm, hf, hn, he]

theorem nil_pointer_field_is_no_accessor (now : Nat) (docs : List Forest) (acc : Str) (k : String) (fi : Bool × Ty)
    (hk : knownRecv k = true) (hm : methodInfo k acc = none) (hf : fieldInfo k acc = some fi) :
    accessSingle now docs acc (.nilNode k) = .error .noSuchAccessor := by
  unfold accessSingle
  simp [Val.ty, recvOfTy, hk, hm, hf, Val.isNilPtr]

/-- over a list a field gives a list of the field's (regenerated) type only if `FieldByName`
    succeeds on the zero struct; a field promoted through an embedded pointer does not: the
    reflection panic `nilType` (recovered by Engine.Evaluate) -/
theorem promoted_field_over_list_panics (k : String) (acc : Str) (fty : Ty) (hk : knownRecv k = true)
    (hm : methodInfo k acc = none) (hf : fieldInfo k acc = some (false, fty)) :
    returnType (.ptr k) acc = .panic .nilType := by
  unfold returnType
  simp [recvOfTy, hk, hm, hf]

/-- the fields of a `gedcom.Date` (struct value): Day, Month, Year, IsEndOfRange, Constraint -/
theorem date_fields (p : PDate) (e : Bool) :
    fieldMenu "Day" (.date p e) = some (.int p.day) ∧ fieldMenu "Year" (.date p e) = some (.int p.year) ∧
    fieldMenu "Month" (.date p e) = some (.named "time.Month" p.month) ∧ fieldMenu "IsEndOfRange" (.date p e) = some (.bool e) ∧
    fieldMenu "Constraint" (.date p e) = some (.named "gedcom.DateConstraint" p.constraint.toNat) := by
  refine ⟨rfl, rfl, rfl, rfl, rfl⟩

/-- `StartDate` / `EndDate` are the two ends of the parsed range (shared date model of C04/C05); of a
    method with several results the first one is the value: `StartAndEndDates` = `StartDate` -/
theorem start_end_date_spec (now : Nat) (docs : List Forest) (d : Nat) (n : Node) :
    callMenu now docs "DateNode" "StartDate" (.node d n) = some (.val (.date (parseDateRange n.value).start false)) ∧
    callMenu now docs "DateNode" "EndDate" (.node d n) = some (.val (.date (parseDateRange n.value).end_ true)) ∧
    callMenu now docs "DateNode" "StartAndEndDates" (.node d n) = callMenu now docs "DateNode" "StartDate" (.node d n) := by
  refine ⟨rfl, rfl, rfl⟩

/-- the embedded `*SimpleNode`: the field `SimpleNode` and the method `RawSimpleNode` give the same
    value, and its Tag / Value / Pointer / Nodes are the node's -/
theorem raw_simple_node_spec (now : Nat) (docs : List Forest) (d : Nat) (n : Node) :
    fieldMenu "SimpleNode" (.node d n) = some (mkRaw d n) ∧
    callMenu now docs "NameNode" "RawSimpleNode" (.node d n) = some (.val (mkRaw d n)) ∧
    callMenu now docs "SimpleNode" "Value" (.raw d n) = some (.val (.str n.value)) ∧
    callMenu now docs "SimpleNode" "Nodes" (.raw d n) = some (.val (mkNodes d n.kids)) := by
  refine ⟨rfl, rfl, rfl, rfl⟩

/-- `ShallowCopy` (of the types that can be created without a family or a document): same tag,
    value and pointer, no children, in no document -/
theorem shallow_copy_spec (k : Nat) (n : Node)
    (h : (Node.kind n == "HusbandNode" || Node.kind n == "WifeNode" || Node.kind n == "ChildNode" ||
          Node.kind n == "IndividualNode" || Node.kind n == "FamilyNode") = false) :
    shallowCopy k n = .val (.node k (.mk n.tag n.value n.ptr [])) := by
  unfold shallowCopy
  simp only [h]
  rfl

/-- `AllEvents` is the order-preserving filter of the children by `Tag.IsEvent` (regenerated tag
    table); `EstimatedBirthDate` is the date `IsLiving` uses -/
theorem all_events_is_filter (now : Nat) (docs : List Forest) (d : Nat) (n : Node) :
    callMenu now docs "IndividualNode" "AllEvents" (.node d n) =
      some (.val (.slice "Nodes" .nodeI (n.kids.filter (fun k => tagIsEvent k.tag)).isEmpty
        ((n.kids.filter (fun k => tagIsEvent k.tag)).map (.node d)))) ∧
    callMenu now docs "IndividualNode" "EstimatedBirthDate" (.node d n) = some (.val (optDate d (estimatedBirthDate n))) := by
  refine ⟨rfl, rfl⟩

/-! The Go source, translated (harness/extract_querysrc.go, Model/QuerySrc.lean)

  The decision structure of q/binary_expr.go and the index arithmetic of First / Last are read
  from the source with go/ast on every run (`Generated.QuerySrc`), interpreted by the small
  functions of Model/QuerySrc.lean, and proved equal to the hand-written model definitions the
  theorems above are about — for all operands, all lists and all counts.  A source shape outside
  the translated fragment is `.bad` and fails the `…_in_fragment` obligations. -/

section Source
open Gedcom.QuerySrc

/-- every piece of binary_expr.go was recognised: the numeric condition, `ParseFloat(_, 64)`, the
    normalisation functions, the body of every operator function, the `Operators` rows -/
theorem ops_source_in_fragment : Generated.QuerySrc.ops.ok = true := by decide +kernel

/-- the operator names of the composite literal are the ones reflection sees, in the same order -/
theorem ops_table_is_reflected :
    Generated.QuerySrc.ops.table.map (·.1) = Generated.Query.operators.map (·.1) := by decide +kernel

/-- the statements of First / Last after `strconv.Atoi` were all recognised -/
theorem slicing_source_in_fragment :
    Generated.QuerySrc.firstStmts.all Stmt.ok = true ∧ Generated.QuerySrc.lastStmts.all Stmt.ok = true ∧
    Generated.QuerySrc.firstCountVar ≠ "" ∧ Generated.QuerySrc.lastCountVar ≠ "" := by decide +kernel

theorem applyNorm_lower_trim (s : Str) :
    applyNorm ["ToLower", "TrimSpace"] s = if isAsciiStr s then some (trimSpace (toLowerAscii s)) else none :=
  rfl

theorem text_branch (l r : Str) :
    textCmp ["ToLower", "TrimSpace"] ["ToLower", "TrimSpace"] l r =
    (if !(isAsciiStr l && isAsciiStr r) then Cmp.undetermined
     else Cmp.text (cmpStr (trimSpace (toLowerAscii l)) (trimSpace (toLowerAscii r)))) := by
  unfold textCmp
  rw [applyNorm_lower_trim, applyNorm_lower_trim]
  cases isAsciiStr l <;> cases isAsciiStr r <;> rfl

/-- "Numeric iff `binaryFloats`' condition (both ParseFloat calls succeed and
    neither value is NaN), else `TrimSpace(ToLower(·))` text" — as translated from the source — is
    the model's `compareOperands` at the regenerated NaN flag, for all operands. -/
theorem srcCmp_is_model (l r : Str) :
    srcCmp Generated.QuerySrc.ops l r = compareOperands Generated.Query.nanIsNumeric l r := by
  rw [nanIsNumeric_now]
  unfold srcCmp compareOperands
  simp only [Generated.QuerySrc.ops]
  rw [text_branch]
  -- for each form of the two parsed numbers both sides take the same branch, by evaluation
  generalize parseNum l = nl
  generalize parseNum r = nr
  generalize (if (!(isAsciiStr l && isAsciiStr r)) = true then Cmp.undetermined else _) = text
  cases nl with
  | none => rfl
  | some a =>
    cases nr with
    | none => cases a <;> rfl
    | some b => cases a <;> cases b <;> rfl

theorem relop_is_truth_table (l r : Str) (op : String) {fn : String} {num text : RelOp}
    (ht : Generated.QuerySrc.ops.table.lookup op = some fn)
    (hf : Generated.QuerySrc.ops.fns.lookup fn = some (.numericElseText num text))
    (h : ∀ o, num.holds o = opTruth Generated.Query.opTruthNumeric op o ∧
              text.holds o = opTruth Generated.Query.opTruthText op o) :
    srcApply Generated.QuerySrc.ops op l r = applyOpStr Generated.Query.nanIsNumeric op l r := by
  have hnu := never_unordered l r
  unfold applyOpStr srcApply
  rw [ht]
  simp only [evalFn, hf]
  rw [← srcCmp_is_model] at hnu ⊢
  cases hcmp : srcCmp Generated.QuerySrc.ops l r with
  | numeric o => exact (h o).1
  | text o => exact (h o).2
  | unordered => exact absurd hcmp hnu
  | undetermined => rfl

theorem operators_are_the_source (op : String) (hop : op ∈ ["=", "!=", "<", "<=", ">", ">="]) (l r : Str) :
    srcApply Generated.QuerySrc.ops op l r = applyOpStr Generated.Query.nanIsNumeric op l r := by
  have heq := relop_is_truth_table l r "=" rfl rfl (by intro o; cases o <;> decide)
  simp only [List.mem_cons, List.mem_nil_iff, or_false] at hop
  rcases hop with h | h | h | h | h | h <;> subst h
  · exact heq
  · -- `!=` is the negation of `equal` in the source
    have hneg : srcApply Generated.QuerySrc.ops "!=" l r = (srcApply Generated.QuerySrc.ops "=" l r).map (!·) := rfl
    rw [hneg, heq, neq_is_not_eq]
  · exact relop_is_truth_table l r "<" rfl rfl (by intro o; cases o <;> decide)
  · exact relop_is_truth_table l r "<=" rfl rfl (by intro o; cases o <;> decide)
  · exact relop_is_truth_table l r ">" rfl rfl (by intro o; cases o <;> decide)
  · exact relop_is_truth_table l r ">=" rfl rfl (by intro o; cases o <;> decide)

theorem sliceResult_prefix (vs : List Val) (m : Int) (hm : m ≤ vs.length) :
    sliceResult vs (some (0, m)) = if m < 0 then .panic .sliceBounds else .ok (vs.take m.toNat) := by
  have : ((0 : Int) < 0 ∨ m < 0 ∨ m > vs.length) ↔ m < 0 := by omega
  simp only [sliceResult, this, Int.toNat_zero, List.drop_zero, Int.sub_zero]

theorem sliceResult_suffix (vs : List Val) (s : Int) (h0 : 0 ≤ s) :
    sliceResult vs (some (s, vs.length)) = if s > vs.length then .panic .sliceBounds else .ok (vs.drop s.toNat) := by
  have : (s < 0 ∨ (vs.length : Int) < s ∨ (vs.length : Int) > vs.length) ↔ s > vs.length := by omega
  simp only [sliceResult, this]
  split
  · rfl
  · rw [List.take_of_length_le]
    rw [List.length_drop]; omega

theorem run_firstStmts (len n : Int) :
    run len Generated.QuerySrc.firstStmts [(Generated.QuerySrc.firstCountVar, n)]
      = some (0, if n ≥ len then len else n) := by
  simp only [Generated.QuerySrc.firstStmts, Generated.QuerySrc.firstCountVar, run, IExp.eval, BExp.eval,
    List.lookup, bind, Option.bind, pure, String.reduceBEq, decide_eq_true_eq]
  split <;> rfl

theorem run_lastStmts (len n : Int) (hn : n ≠ 0) :
    run len Generated.QuerySrc.lastStmts [(Generated.QuerySrc.lastCountVar, n)]
      = some (if len - n < 0 then 0 else len - n, len) := by
  simp only [Generated.QuerySrc.lastStmts, Generated.QuerySrc.lastCountVar, run, IExp.eval, BExp.eval,
    List.lookup, bind, Option.bind, pure, String.reduceBEq, decide_eq_true_eq, beq_iff_eq, if_neg hn]
  split <;> rfl

/-- Running the translated statements of FirstExpr.Evaluate (clamp
    `max >= len`, `in.Slice(0, max)`) and slicing with Go's bounds check is the model's `firstN`,
    for every list and every count (negative ones included: the panic). -/
theorem first_source_is_model (vs : List Val) (n : Int) :
    sliceResult vs (run vs.length Generated.QuerySrc.firstStmts [(Generated.QuerySrc.firstCountVar, n)]) = firstN vs n := by
  rw [run_firstStmts]
  refine sliceResult_prefix vs _ ?_
  split <;> omega

/-- The same for LastExpr.Evaluate (`x == 0`, `start := l - x`, clamp
    `start < 0`, `in.Slice(start, l)`) and `lastN`. -/
theorem last_source_is_model (vs : List Val) (n : Int) :
    sliceResult vs (run vs.length Generated.QuerySrc.lastStmts [(Generated.QuerySrc.lastCountVar, n)]) = lastN vs n := by
  by_cases hn : n = 0
  · subst hn; rfl
  · have hb : ¬ (n == 0) = true := by simpa using hn
    rw [run_lastStmts _ _ hn, lastN, if_neg hb]
    refine sliceResult_suffix vs _ ?_
    split <;> omega

end Source

/-- The evaluator is a function of the query, the fuel and the documents (being a Lean function is
    all this uses): the same query on the same documents has one result. -/
theorem deterministic (now fuel : Nat) (docs : List Forest) (eng : Engine) (o₁ o₂ : Outcome Val)
    (h₁ : evalTop now fuel docs eng = o₁) (h₂ : evalTop now fuel docs eng = o₂) : o₁ = o₂ := h₁ ▸ h₂

/-! non-vacuity: the hypotheses above are met by concrete queries on a concrete document -/

def exDoc : Forest :=
  [.mk (ascii "INDI") [] (ascii "I1") [.mk (ascii "NAME") (ascii "Nan /Doe/") [] [], .mk (ascii "SEX") (ascii "F") [] []],
   .mk (ascii "INDI") [] (ascii "I2") [.mk (ascii "NAME") (ascii "John /Smith/") [] []],
   .mk (ascii "INDI") [] (ascii "I3") []]

def st (es : List Expr) : Stmt := .mk [] es
def acc (s : String) : Expr := .acc (ascii s)
def fn (s : String) (args : List Stmt) : Expr := .call (ascii s) args
def k (s : String) : Expr := .const (ascii s)
def strs (xs : List String) : Val := .slice "" .str false (xs.map (fun s => .str (ascii s)))

def sameStrs (o : Outcome Val) (want : List String) : Bool :=
  match o with
  | .ok (.slice _ .str false vs) => (vs.map fun v => match v with | .str s => s | _ => [0]) == want.map ascii
  | _ => false

def isInt (o : Outcome Val) (n : Int) : Bool := match o with | .ok (.int m) => m == n | _ => false

/-- `.Individuals | .Name | .GivenName` maps over the three individuals (the third has no name:
    a typed nil pointer, whose GivenName is "") -/
example : sameStrs (evalTop 2026 3 [exDoc] [st [acc ".Individuals", acc ".Name", acc ".GivenName"]]) ["Nan", "John", ""] = true := by decide +kernel
/-- First / Last at and beyond the boundary n = len + 1 -/
example : isInt (evalTop 2026 3 [exDoc] [st [acc ".Individuals", fn "First" [st [k "4"]], fn "Length" []]]) 3 = true := by decide +kernel
example : isInt (evalTop 2026 3 [exDoc] [st [acc ".Individuals", fn "Last" [st [k "4"]], fn "Length" []]]) 3 = true := by decide +kernel
example : sameStrs (evalTop 2026 3 [exDoc] [st [acc ".Individuals", fn "Last" [st [k "2"]], acc ".Pointer"]]) ["I2", "I3"] = true := by decide +kernel
/-- Only with a pipeline condition; the person called Nan is found (defect 17 repaired) -/
example : sameStrs (evalTop 2026 3 [exDoc] [st [acc ".Individuals",
    fn "Only" [st [acc ".Name", .bin (acc ".GivenName") "=" (k "nan")]], acc ".Pointer"]]) ["I1"] = true := by decide +kernel
/-- Combine(E, E) | Length = 2 · (E | Length) -/
example : isInt (evalTop 2026 3 [exDoc] [st [fn "Combine" [st [acc ".Individuals"], st [acc ".Individuals"]], fn "Length" []]]) 6 = true := by decide +kernel
/-- a variable and its definition; shadowing: the first definition wins -/
example : isInt (evalTop 2026 4 [exDoc] [.mk (ascii "X") [acc ".Individuals"], .mk (ascii "X") [acc ".Families"],
    st [.var (ascii "X"), fn "Length" []]]) 3 = true := by decide +kernel
/-- numeric versus text comparison: "10" > "9" as numbers, "abc" < "ABD" ignoring case -/
example : applyOpStr false ">" (ascii "10") (ascii "9") = some true ∧ applyOpStr false ">" (ascii "10") (ascii "9x") = some false ∧
    applyOpStr false "<" (ascii "abc") (ascii "ABD") = some true ∧ applyOpStr false "=" (ascii " 1e1") (ascii "10") = some false ∧
    applyOpStr false "=" (ascii "1e1") (ascii "10.0") = some true := by decide +kernel

end Gedcom.C16

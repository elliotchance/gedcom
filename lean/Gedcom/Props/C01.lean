/-
  C01 — Encode then decode returns the same document.
  The property theorems, with the lemmas that serve only them.  `encode`/`decode` are the
  byte-level models in Gedcom/Model/Decoder.lean that the driver executes and the correspondence
  ties to `Document.String()` and `NewDecoder(..).Decode()`.  No bound on node count, nesting
  depth or string length.
-/
import Gedcom.Lemmas.RoundTrip
import Gedcom.Lemmas.MultiLine
import Gedcom.Generated.DecoderFacts
import Gedcom.Generated.EncoderFacts
namespace Gedcom.C01
open Gedcom Gedcom.Dec

/-- "Built through the public API from GEDCOM-legal parts": every tag a non-empty word
    (`[0-9A-Za-z_]+`); values without line breaks and already in trimmed form; pointers
    without `@` or line breaks; INDI and FAM records carry no value (the API cannot give them
    one); every HUSB/WIFE/CHIL node comes after some FAM node in document order (such nodes
    cannot be created without a family). -/
structure Legal (d : Doc) : Prop where
  nodes : LegalF d.nodes
  roles : rolesOKF false d.nodes = true

theorem stripBOM_encode (d : Doc) : stripBOM (encode d) = (d.hasBOM, encForest 0 d.nodes) := by
  unfold encode stripBOM
  cases hb : d.hasBOM
  · -- the text is empty or starts with the digit of level 0
    cases hn : d.nodes with
    | nil => simp [encForest, BOM]
    | cons t ts =>
      obtain ⟨tg, v, p, ks⟩ := t
      have : natToDec 0 = [48] := by rw [natToDec]; simp
      simp [encForest, encNode, renderLine, this, BOM, List.isPrefixOf]
  · simp [BOM, List.isPrefixOf]

/-- the hypothesis of `decode_encode_multiline` is weaker than `Legal` -/
theorem legalML_of_legal (d : Doc) (h : Legal d) : legalMLDocB d = true :=
  legalMLF_of_legal false d.nodes h.nodes h.roles

/-- both round-trip theorems below are instances: continuation lines need `AllowMultiLine` -/
theorem decode_encode_of (d : Doc) (o : Opts) (hm : o.allowMultiLine = true ∨ LegalF d.nodes)
    (h : legalMLDocB d = true) : decode o (encode d) = .ok d := by
  obtain ⟨n', hrun, htop⟩ :=
    run_textF o d.nodes hm 0 ⟨[], [], false⟩ 1 [] (Nat.zero_le _) (fun _ _ hf => nomatch hf) h
  rw [List.append_nil] at hrun
  obtain ⟨s'', hlast, htrim⟩ := run_last_blank o (setFam (famAfterF false d.nodes) _) n' htop
  rw [decode_eq, stripBOM_encode, splitLines, hrun, hlast]
  simp only [htrim, closeTo_setFam]
  exact congrArg (fun f => Outcome.ok ⟨d.hasBOM, f⟩) (rebuild_listing d.nodes)

/-- **Round trip.** For every legal document, with or without BOM, and *every* combination
    of `AllowMultiLine` and `AllowInvalidIndents`, decoding the encoder's text yields exactly
    the same document: same tag, value, pointer, child order and nesting at every position,
    same BOM flag (the node kind is a function of the tag, `Generated.kindOfTag`).  In
    particular the encoder's text is always accepted (`.ok`, never `.error` or `.panic`). -/
theorem decode_encode (d : Doc) (h : Legal d) (o : Opts) : decode o (encode d) = .ok d :=
  decode_encode_of d o (Or.inr h.nodes) (legalML_of_legal d h)

/-- the encoder's text is never rejected -/
theorem encode_accepted (d : Doc) (h : Legal d) (o : Opts) :
    (∀ n, decode o (encode d) ≠ .error n) ∧ (∀ c, decode o (encode d) ≠ .panic c) := by
  rw [decode_encode d h o]
  exact ⟨fun _ => by simp, fun _ => by simp⟩

/-- **Round trip with multi-line values.** `AllowMultiLine` makes the decoder return documents
    whose values contain line feeds (every blank or unparsable line continues the previous value);
    `Document.String()` writes such a value over several physical lines.  For every document that
    satisfies `legalMLDocB` — tags, pointers and record lines as in `Legal`; values in trimmed form
    without carriage returns, whose parts after each line feed are lines the decoder would again
    treat as continuations at that position (blank, not in the line grammar, or a HUSB/WIFE/CHIL
    line before any family) — decoding the encoder's text with `AllowMultiLine` yields exactly the
    same document, with or without `AllowInvalidIndents`.  Every `Legal` document satisfies the
    hypothesis (`legalML_of_legal`), and the harness asks the model to evaluate it on every
    document the real decoder returns under `AllowMultiLine`. -/
theorem decode_encode_multiline (d : Doc) (h : legalMLDocB d = true) (o : Opts)
    (hm : o.allowMultiLine = true) : decode o (encode d) = .ok d :=
  decode_encode_of d o (Or.inl hm) h

/-- every decimal level the encoder writes reads back (any depth, not only 0–9) -/
theorem level_round_trip (n : Nat) : decToNat (natToDec n) = n := decToNat_natToDec n

/-- one written line reads back field by field -/
theorem line_round_trip (l : Line) (h : LegalLine l) : parseLine (renderLine l) = some l :=
  parseLine_renderLine l h

/-- the executable legality check the driver answers `legal` requests with implies `Legal`
    (so every forest the harness generates and the model accepts as legal is covered by
    `decode_encode`) -/
theorem legal_of_check (d : Doc) (h : legalDocB d = true) : Legal d := by
  unfold legalDocB at h
  rw [Bool.and_eq_true] at h
  exact ⟨legalFB_sound _ h.1, h.2⟩

/-- **Obligation on the regenerated decoder facts.** What the byte-level model hard-codes about
    decoder.go and the library calls it makes is what the current source says: the code points
    `strings.TrimSpace` strips (probed on every valid code point on every run) are exactly the
    model's table, invalid or truncated UTF-8 is kept, `trimNodeValue` goes through
    `strings.TrimSpace`, `readLine` ends a line at LF and at CR and nowhere else, and the byte
    order mark is EF BB BF. -/
theorem decoder_source_facts :
    Generated.goSpaceSeqs = spaceSeqs ∧ Generated.goTrimKeepsInvalid = true ∧
    Generated.trimUsesTrimSpace = true ∧ Generated.readLineBreaks = [LF, CR] ∧
    Generated.bomBytes = BOM := by decide +kernel

/-- **The line writer is the source's.** `Generated.gedcomLineProgram` is translated on every
    run, statement by statement, from the body of `SimpleNode.GEDCOMLine` (guarded buffer writes,
    `Sprintf` formats split into literal bytes and fields).  Running the translated program on a
    line gives exactly the model's `renderLine`, for every level, pointer, tag and value. -/
theorem renderLine_is_the_source_program (l : Line) :
    Emit.supported Generated.gedcomLineProgram = true ∧
    Emit.runProgram Generated.gedcomLineProgram l = renderLine l := by
  refine ⟨by decide, ?_⟩
  simp only [Generated.gedcomLineProgram, Emit.runProgram, List.flatMap_cons, List.flatMap_nil,
    Emit.Emit.eval, Emit.evalPieces, Emit.Piece.eval, renderLine, List.append_nil]
  by_cases hp : l.ptr = [] <;> by_cases hv : l.value = [] <;> simp [hp, hv, SP, AT]

/-- **Obligation on the regenerated encoder facts**: `SimpleNode.GEDCOMLine` is the only
    `GEDCOMLine` method (every node type embeds `SimpleNode`), `renderNode` appends one LF to a
    line and writes children one level deeper, `Encode` writes the byte order mark first and the
    root nodes in order. -/
theorem encoder_source_facts :
    Generated.gedcomLineMethods = 1 ∧ Generated.lineTerminator = [LF] ∧
    Generated.childIndentDelta = 1 ∧ Generated.encodeBOMFirst = true := by decide +kernel

/-! Non-vacuity (a test on a literal, not the property): a document with BOM, a FAM with
    HUSB, a value that looks like a pointer, a numeric tag with a pointer containing a space
    on a nested node, three levels deep — it meets `Legal`. -/
def sample : Doc := ⟨true,
  [.mk tFAM [] [70, 49] [.mk tHUSB [64, 73, 49, 64] [] []],
   .mk tINDI [] [73, 49]
     [.mk [78, 65, 77, 69] [64, 73, 49, 64] []
       [.mk [49, 50, 51] [48] [112, 32, 113] [.mk [95, 88] [49, 32, 78, 79, 84, 69, 32, 120] [] []]]]]⟩

example : Legal sample := legal_of_check sample (by decide +kernel)

/-- non-vacuity: a NOTE whose value runs over three physical lines (one of them blank) below a
    record, a second root after it -/
example :
    legalMLDocB ⟨false, [.mk [73, 78, 68, 73] [] [73, 49]
        [.mk [78, 79, 84, 69] [97, 10, 10, 98, 32, 99] [] []],
      .mk [88] [49] [] []]⟩ = true := by decide +kernel

end Gedcom.C01

/-
  C19 — Publishing yields a closed, confined, deterministic set of files.
  Property theorems (with the lemmas that serve only them), about the functions the driver
  executes (`sanitize`, `uniqueKey`, `individualKeys`, `placeEntries`, `Page*`, `Site.fileNames`,
  `runSched`) and about the transition system of the publish protocol, with the facts regenerated
  from the code (`Generated.Publish`).
  Unbounded: all names, all documents, all job counts ≥ 1, all writers (any failure pattern),
  all schedules.
-/
import Gedcom.Lemmas.PublishNames
import Gedcom.Lemmas.PublishProtocol
import Gedcom.Generated.PublishSrc
namespace Gedcom.C19
open Gedcom.Publish

/-! ## (i) Naming -/

theorem fact_keep_safe : ∀ b ∈ Generated.keyKeep, safeByte b = true := by decide +kernel
theorem fact_table_ok : tableOk Generated.sourceKeyByte = true := by decide +kernel
theorem fact_table_safe : ∀ e ∈ Generated.sourceKeyByte, e.all safeByte = true := by decide +kernel
theorem fact_suffix : Generated.pageSourceSuffix = html := by decide
theorem fact_keyed : Generated.individualsKeyedWithPlaces = true := by decide
theorem fact_slink : Generated.surnameLinkUsesIndexLetter = true := by decide
theorem fact_escapes : Generated.sourceKeyEscapesFixed = true := by decide
theorem fact_avoid : Generated.keysAvoidReserved = true := by decide
theorem fact_skip : Generated.keysSkipHidden = true := by decide
theorem fact_fixed_nodup : fixedNames.Nodup := by
  -- compared as base-256 numerals: the kernel compares two numerals in one step, two byte lists
  -- byte by byte, and 26 of the names share their first twelve bytes
  have : (fixedNames.map fun n => n.foldl (fun a b => a * 256 + b.toNat) 0).Nodup := by decide +kernel
  exact nodup_of_map _ this
theorem fact_fixed_head : ∀ k ∈ fixedKeys, k.head? ≠ some 95 ∧ k ≠ [] := by decide +kernel
theorem fact_fixed_plain : ∀ n ∈ fixedNames, plain n = true := by decide +kernel
/-- a plain name ends in the suffix, so it is its key with the suffix put back -/
theorem fact_fixed_names : fixedNames = fixedKeys.map (· ++ html) := by
  unfold fixedKeys
  rw [List.map_map]
  refine ((List.map_congr_left fun n hn => ?_).trans (List.map_id _)).symm
  have := fact_fixed_plain n hn
  unfold plain at this
  simp only [Bool.and_eq_true, beq_iff_eq] at this
  show n.take (n.length - html.length) ++ html = n
  calc n.take (n.length - html.length) ++ html
      = n.take (n.length - html.length) ++ n.drop (n.length - html.length) := by rw [this.1]
    _ = n := List.take_append_drop _ n

/-- the facts the naming theorems rest on, regenerated from the code on every run: key bytes are
    safe file-name bytes; the source pointer encoding is total (256 entries), per byte, each entry
    the byte itself or its `_xx` escape, all safe; the fixed names are `key.html`, pairwise distinct
    and do not start with `_`; the six behavioural flags of the repaired code are on (the last one:
    `PageIndividual` finds the record itself, so the model may index individuals by position even
    when records share a pointer) -/
theorem naming_facts :
    (∀ b ∈ Generated.keyKeep, safeByte b = true)
    ∧ tableOk Generated.sourceKeyByte = true
    ∧ Generated.sourceKeyBytewise = true
    ∧ (∀ e ∈ Generated.sourceKeyByte, e.all safeByte = true)
    ∧ Generated.pageSourceSuffix = html
    ∧ fixedNames = fixedKeys.map (· ++ html) ∧ fixedNames.Nodup
    ∧ Generated.individualsKeyedWithPlaces = true
    ∧ Generated.surnameLinkUsesIndexLetter = true
    ∧ Generated.sourceKeyEscapesFixed = true
    ∧ Generated.keysAvoidReserved = true
    ∧ Generated.keysSkipHidden = true
    ∧ Generated.pageIndividualByIdentity = true :=
  ⟨fact_keep_safe, fact_table_ok, by decide, fact_table_safe, fact_suffix, fact_fixed_names,
   fact_fixed_nodup, fact_keyed, fact_slink, fact_escapes, fact_avoid, fact_skip, by decide⟩

theorem keep_dash : ∀ b ∈ Generated.keyDash, keep b = true := by decide
theorem keep_fold : ∀ e ∈ Generated.lowerFold, keep e.2 = true := by decide +kernel
theorem keep_digits : ∀ n, n < 58 → 48 ≤ n → keep (UInt8.ofNat n) = true := by decide +kernel

theorem keep_safe (b : UInt8) (h : keep b = true) : safeByte b = true := by
  unfold keep at h
  exact fact_keep_safe b (by simpa using h)

theorem foldAt_keep {s : Str} {c : UInt8} {n : Nat} (h : foldAt s = some (c, n)) : keep c = true := by
  unfold foldAt at h
  split at h
  · rename_i e he
    cases h
    exact keep_fold e (List.mem_of_find?_eq_some he)
  · cases h

theorem sanGo_confined (inRun : Bool) (k : Nat) (s : Str) : ∀ b ∈ sanGo inRun k s, keep b = true := by
  induction s generalizing inRun k with
  | nil => simp [sanGo]
  | cons x xs ih =>
    cases k with
    | succ k => simp only [sanGo]; exact ih _ _
    | zero =>
      simp only [sanGo]
      split
      · rename_i c n hf
        exact List.forall_mem_cons.mpr ⟨foldAt_keep hf, ih _ _⟩
      · split
        · rename_i hk
          have hk : x < 128 ∧ keep (lowerAscii x) = true := by simpa using hk
          exact List.forall_mem_cons.mpr ⟨hk.2, ih _ _⟩
        · split
          · exact ih _ _
          · exact List.forall_mem_append.mpr ⟨keep_dash, ih _ _⟩

/-- **File keys are confined**: every byte of `sanitize s` is in `[a-z0-9_-]`, for every byte
    string `s` (names with path separators, dots, NUL, invalid UTF-8, …) -/
theorem sanitize_confined (s : Str) : ∀ b ∈ sanitize s, keep b = true := sanGo_confined false 0 s

theorem natToDec_keep (i : Nat) : ∀ b ∈ natToDec i, keep b = true := by
  intro b hb
  have := natToDec_digits _ b hb
  have h := keep_digits b.toNat (by omega) this.1
  simpa using h

theorem candidate_confined (s : Str) (i : Nat) (hs : ∀ b ∈ s, keep b = true) :
    ∀ b ∈ candidate s i, keep b = true := by
  unfold candidate
  split
  · exact hs
  · exact List.forall_mem_append.mpr
      ⟨List.forall_mem_append.mpr ⟨hs, by decide⟩, natToDec_keep i⟩

/-- invariant of `GetIndividuals` -/
structure KeysOk (places keys : List Str) : Prop where
  nodup : keys.Nodup
  fresh : ∀ k ∈ keys, k ∉ places
  confined : ∀ k ∈ keys, ∀ b ∈ k, keep b = true

theorem getIndividuals_ok (places : List Str) (acc names : List Str) (h : KeysOk places acc) :
    KeysOk places (getIndividuals places acc names)
    ∧ (getIndividuals places acc names).length = acc.length + names.length := by
  induction names generalizing acc with
  | nil => simp [getIndividuals, h]
  | cons n ns ih =>
    simp only [getIndividuals]
    have hs := uniqueKey_isSome acc places (sanitize n)
    cases hk : uniqueKey acc places (sanitize n) with
    | none => simp [hk] at hs
    | some k =>
      simp only []
      obtain ⟨h1, h2, i, hi⟩ := uniqueKey_fresh hk
      have hacc : KeysOk places (acc ++ [k]) := by
        refine ⟨?_, ?_, ?_⟩
        · rw [List.nodup_append]
          refine ⟨h.nodup, by simp, ?_⟩
          intro a ha b hb
          obtain rfl := List.mem_singleton.mp hb
          exact fun e => h1 (e ▸ ha)
        · exact List.forall_mem_append.mpr ⟨h.fresh, by simpa using h2⟩
        · have hk' := candidate_confined _ i (sanitize_confined n)
          rw [← hi] at hk'
          exact List.forall_mem_append.mpr ⟨h.confined, by simpa using hk'⟩
      have := ih (acc ++ [k]) hacc
      refine ⟨this.1, ?_⟩
      rw [this.2]; simp; omega

/-- **Names are injective** (given one consistent places map): the keys `GetIndividuals` hands out
    are pairwise distinct, differ from every place key it was given, are confined, and there is
    exactly one per individual — for all names and all place keys. -/
theorem names_injective (names places : List Str) :
    (individualKeys names places).Nodup
    ∧ (∀ k ∈ individualKeys names places, k ∉ places)
    ∧ (∀ k ∈ individualKeys names places, ∀ b ∈ k, keep b = true)
    ∧ (individualKeys names places).length = names.length := by
  obtain ⟨ok, len⟩ := getIndividuals_ok places [] names ⟨List.nodup_nil, by simp, by simp⟩
  exact ⟨ok.nodup, ok.fresh, ok.confined, by simpa [individualKeys] using len⟩

theorem zipFilter_sublist (ks : List Str) (hs : List Bool) : (zipFilter ks hs).Sublist ks := by
  induction ks generalizing hs with
  | nil => cases hs <;> simp [zipFilter]
  | cons x xs ih =>
    cases hs with
    | nil => simp [zipFilter]
    | cons h hs =>
      simp only [zipFilter]
      split
      · exact (ih hs).cons _
      · exact (ih hs).cons_cons _

theorem zipFilter_sub (ks : List Str) (hs : List Bool) : ∀ k ∈ zipFilter ks hs, k ∈ ks :=
  fun _ hk => (zipFilter_sublist ks hs).subset hk

theorem zipFilter_mem (ks : List Str) (hs : List Bool) (i : Nat) (k : Str)
    (hk : ks[i]? = some k) (hh : hs[i]? = some false) : k ∈ zipFilter ks hs := by
  induction ks generalizing hs i with
  | nil => simp at hk
  | cons x xs ih =>
    cases hs with
    | nil => simp at hh
    | cons h hs =>
      cases i with
      | zero =>
        obtain rfl : x = k := Option.some.inj hk
        obtain rfl : h = false := Option.some.inj hh
        exact List.mem_cons_self
      | succ i =>
        rw [List.getElem?_cons_succ] at hk hh
        have := ih hs i hk hh
        simp only [zipFilter]
        split
        · exact this
        · exact List.mem_cons_of_mem _ this

theorem plain_of_safe (k : Str) (h : ∀ b ∈ k, safeByte b = true) : plain (k ++ html) = true := by
  unfold plain
  have hl : (k ++ html).length - html.length = k.length := by simp
  simp only [hl, List.drop_left, List.take_left, beq_self_eq_true, Bool.true_and]
  exact List.all_eq_true.mpr h

theorem plain_of_keep (k : Str) (h : ∀ b ∈ k, keep b = true) : plain (k ++ html) = true :=
  plain_of_safe k (fun b hb => keep_safe b (h b hb))

theorem isFixedKey_iff (k : Str) : isFixedKey k = true ↔ k ∈ fixedKeys := by
  unfold isFixedKey
  rw [List.contains_iff_mem, fact_fixed_names]
  constructor
  · intro h
    obtain ⟨k', hk', e⟩ := List.mem_map.mp h
    rw [← List.append_cancel_right e]; exact hk'
  · intro h; exact List.mem_map.mpr ⟨k, h, rfl⟩

theorem sourceKeyRaw_safe (ptr : Str) : ∀ b ∈ sourceKeyRaw ptr, safeByte b = true := by
  intro b hb
  obtain ⟨c, _, hc⟩ := List.mem_flatMap.mp hb
  exact List.all_eq_true.mp (fact_table_safe _ (List.fst_mem_of_mem_zipIdx (tableOk_mem _ fact_table_ok c))) b hc

theorem hexDigit_safe : ∀ d, d < 16 → safeByte (hexDigit d) = true := by decide +kernel

theorem escapeFirst_safe (k : Str) (h : ∀ b ∈ k, safeByte b = true) : ∀ b ∈ escapeFirst k, safeByte b = true := by
  cases k with
  | nil => simp [escapeFirst]
  | cons x t =>
    intro b hb
    simp only [escapeFirst, List.mem_cons] at hb
    rcases hb with rfl | rfl | rfl | hb
    · decide
    · exact hexDigit_safe _ (by have := UInt8.toNat_lt x; omega)
    · exact hexDigit_safe _ (Nat.mod_lt _ (by omega))
    · exact h b (by simp [hb])

theorem sourceKey_safe (ptr : Str) : ∀ b ∈ sourceKey ptr, safeByte b = true := by
  unfold sourceKey
  simp only []
  split
  · exact escapeFirst_safe _ (sourceKeyRaw_safe ptr)
  · exact sourceKeyRaw_safe ptr

theorem sourceKey_decode (ptr : Str) : decodeKey (sourceKey ptr) = ptr := by
  have hraw : decodeKey (sourceKeyRaw ptr) = ptr := decode_flatMap _ fact_table_ok ptr
  unfold sourceKey
  simp only []
  split
  · rename_i h
    simp only [Bool.and_eq_true] at h
    rw [decode_escapeFirst _ (fact_fixed_head _ ((isFixedKey_iff _).mp h.2)).1, hraw]
  · exact hraw

theorem sourceKey_not_fixed (ptr : Str) : sourceKey ptr ∉ fixedKeys := by
  unfold sourceKey
  simp only [fact_escapes, Bool.true_and]
  split
  · rename_i h
    have hf := fact_fixed_head _ ((isFixedKey_iff _).mp h)
    intro hm
    have := (fact_fixed_head _ hm).1
    cases hr : sourceKeyRaw ptr with
    | nil => exact hf.2 hr
    | cons b t => rw [hr] at this; simp [escapeFirst] at this
  · rename_i h
    intro hm
    exact h ((isFixedKey_iff _).mpr hm)

theorem sourceKey_injective (p q : Str) (h : sourceKey p = sourceKey q) : p = q := by
  rw [← sourceKey_decode p, ← sourceKey_decode q, h]

/-- **Source pages never share a name**: different pointers give different file names -/
theorem sources_injective (p q : Str) (h : pageSource p = pageSource q) : p = q :=
  sourceKey_injective p q (List.append_cancel_right h)

def validLetters : List UInt8 := Generated.symbolLetter :: (List.range 26).map (fun i => UInt8.ofNat (97 + i))

/-- the pages `sendFiles` names by a literal of the source -/
def pageLiterals : List Str :=
  [Generated.pagePlacesName, Generated.pageFamiliesName, Generated.pageSurnamesName,
   Generated.pageSourcesName, Generated.pageStatisticsName]

theorem fixedNames_eq : fixedNames = pageLiterals ++ validLetters.map pageIndividuals := rfl

theorem mem_validLetters {l : UInt8} :
    l ∈ validLetters ↔ l = Generated.symbolLetter ∨ (97 ≤ l.toNat ∧ l.toNat ≤ 122) := by
  constructor
  · revert l; decide
  · rintro (h | h)
    · exact h ▸ List.mem_cons_self
    · refine List.mem_cons_of_mem _ (List.mem_map.mpr ⟨l.toNat - 97, List.mem_range.mpr (by omega), ?_⟩)
      rw [show 97 + (l.toNat - 97) = l.toNat by omega]; simp

theorem validLetters_nodup : validLetters.Nodup :=
  nodup_of_map pageIndividuals (List.nodup_append.mp (fixedNames_eq ▸ fact_fixed_nodup)).2.1

theorem letterPages_fixed (ls : List UInt8) (hl : ∀ l ∈ ls, l ∈ validLetters) :
    ∀ n ∈ ls.map pageIndividuals ++ pageLiterals, n ∈ fixedNames := by
  intro n hn
  rw [fixedNames_eq]
  rcases List.mem_append.mp hn with hn | hn
  · obtain ⟨l, hl', rfl⟩ := List.mem_map.mp hn
    exact List.mem_append_right _ (List.mem_map_of_mem (hl l hl'))
  · exact List.mem_append_left _ hn

/-- the index letters the code computes are `#` or `a`..`z`, whatever the surnames -/
theorem indexLetter_range (surname : Str) :
    indexLetter surname = Generated.symbolLetter
    ∨ (97 ≤ (indexLetter surname).toNat ∧ (indexLetter surname).toNat ≤ 122) := by
  unfold indexLetter
  split
  · exact Or.inl rfl
  · rename_i b _
    split
    · exact Or.inl rfl
    · rename_i h
      right
      have h : 97 ≤ b ∧ b ≤ 122 := by simpa using h
      exact ⟨UInt8.le_iff_toNat_le.mp h.1, UInt8.le_iff_toNat_le.mp h.2⟩

theorem indexLetters_eq (surnames : List Str) :
    indexLetters surnames = validLetters.filter (surnames.map indexLetter).contains := by
  simp only [indexLetters, validLetters, List.filter_cons]
  split <;> rfl

theorem indexLetters_range (surnames : List Str) :
    ∀ l ∈ indexLetters surnames, l = Generated.symbolLetter ∨ (97 ≤ l.toNat ∧ l.toNat ≤ 122) :=
  fun _ hl => mem_validLetters.mp (List.mem_filter.mp (indexLetters_eq surnames ▸ hl)).1

theorem indexLetters_nodup (surnames : List Str) : (indexLetters surnames).Nodup :=
  indexLetters_eq surnames ▸ validLetters_nodup.sublist List.filter_sublist

theorem placeKey_mem (s : Site) : ∀ k ∈ s.placeKeys,
    k ∉ s.reserved ∧ ∃ p i, k = candidate (sanitize p) i := by
  intro k hk
  unfold Site.placeKeys Site.placeEntries at hk
  obtain ⟨kv, hkv, rfl⟩ := List.mem_map.mp hk
  rw [placeEntriesR_key _ _ kv hkv]
  obtain ⟨h1, i, h2⟩ := placeKey_spec s.reserved kv.2
  exact ⟨h1, kv.2, i, h2⟩

/-- the keys of the individual pages are keys `GetIndividuals` handed out (to the people who get
    a page, or to everybody and then filtered) -/
theorem individualPageKeys_sub (s : Site) :
    ∃ ns, s.individualPageKeys.Sublist (individualKeys ns s.keyPlaces) := by
  unfold Site.individualPageKeys
  split
  · exact ⟨_, List.Sublist.refl _⟩
  · exact ⟨_, zipFilter_sublist _ _⟩

theorem reserved_eq (s : Site) : s.reserved = fixedKeys ++ s.sourcePtrs.map sourceKey := by
  simp [Site.reserved, reservedKeys, fact_avoid]

theorem keyPlaces_eq (s : Site) :
    s.keyPlaces = (if s.showPlaces then s.placeKeys else []) ++ s.reserved := by
  simp [Site.keyPlaces, fact_keyed]

theorem ite_sublist {α} (b : Bool) (l : List α) : (if b then l else []).Sublist l := by
  cases b <;> simp

theorem regroup (A I P S : List Str) (pl fa su so st : Str) :
    ((A ++ I) ++ (pl :: P) ++ [fa] ++ [su] ++ (so :: S) ++ [st]).Perm
      ((A ++ [pl, fa, su, so, st]) ++ S ++ P ++ I) := by
  rw [List.perm_iff_count]
  intro a
  simp only [List.count_append, List.count_cons, List.count_nil]
  omega

theorem fileNames_sub (s : Site) : ∃ all, s.fileNames.Sublist all ∧
    all.Perm ((s.letters.map pageIndividuals ++ pageLiterals) ++ s.sourceFiles
      ++ (if s.showPlaces then s.placeFiles else []) ++ s.individualFiles) := by
  refine ⟨_, ?_, regroup _ _ _ _ _ _ _ _ _⟩
  unfold Site.fileNames
  refine List.Sublist.append (List.Sublist.append (List.Sublist.append (List.Sublist.append
    (List.Sublist.append (ite_sublist _ _) ?_) (ite_sublist _ _)) (ite_sublist _ _)) (ite_sublist _ _)) (ite_sublist _ _)
  show (if s.showPlaces then Generated.pagePlacesName :: s.placeFiles else []).Sublist
    (Generated.pagePlacesName :: (if s.showPlaces then s.placeFiles else []))
  cases s.showPlaces <;> simp

/-- **Names are confined** (full strength): whatever the names, places and pointers in the file —
    `../x`, `a/b`, `S/../x`, NUL, invalid UTF-8 — every file name `sendFiles` produces is a plain
    `[A-Za-z0-9_-]*.html` name: no separator, no dot but the suffix, so it stays inside the output
    directory.  (`s.letters` are the letters `GetIndexLetters` computed, `indexLetters_range`.) -/
theorem names_confined (s : Site)
    (hl : ∀ l ∈ s.letters, l = Generated.symbolLetter ∨ (97 ≤ l.toNat ∧ l.toNat ≤ 122)) :
    ∀ n ∈ s.fileNames, plain n = true := by
  intro n hn
  obtain ⟨all, hsub, hperm⟩ := fileNames_sub s
  have hn := hperm.subset (hsub.subset hn)
  simp only [List.mem_append] at hn
  rcases hn with ((hn | hn) | hn) | hn
  · exact fact_fixed_plain n
      (letterPages_fixed s.letters (fun l hl' => mem_validLetters.mpr (hl l hl')) n (List.mem_append.mpr hn))
  · obtain ⟨p, _, rfl⟩ := List.mem_map.mp hn
    unfold pageSource
    rw [fact_suffix]
    exact plain_of_safe _ (sourceKey_safe p)
  · obtain ⟨k, hk, rfl⟩ := List.mem_map.mp ((ite_sublist _ _).subset hn)
    obtain ⟨_, p, i, rfl⟩ := placeKey_mem s k hk
    exact plain_of_keep _ (candidate_confined _ i (sanitize_confined p))
  · obtain ⟨k, hk, rfl⟩ := List.mem_map.mp hn
    obtain ⟨ns, hsub⟩ := individualPageKeys_sub s
    obtain ⟨-, -, confined, -⟩ := names_injective ns s.keyPlaces
    exact plain_of_keep k (confined k (hsub.subset hk))

/-- … in particular for the letters `GetIndexLetters` computes from the surnames of the listed
    individuals (digits, symbols, multi-byte first letters): no hypothesis left -/
theorem names_confined_site (s : Site) (surnames : List Str) (h : s.letters = indexLetters surnames) :
    ∀ n ∈ s.fileNames, plain n = true :=
  names_confined s (fun l hl => indexLetters_range surnames l (h ▸ hl))

/-- the hostile pointers of the property: `0 @S/../x@ SOUR` is written to `S_2f_2e_2e_2fx.html`
    (the unrepaired code wrote `S/../x.html`, outside the output directory) and `0 @places@ SOUR`
    to `_70laces.html`, not over the place list -/
theorem source_name_witness :
    pageSource bs!"S/../x" = bs!"S_2f_2e_2e_2fx.html" ∧ plain (pageSource bs!"S/../x") = true
    ∧ plain bs!"S/../x.html" = false ∧ pageSource bs!"S1" = bs!"S1.html"
    ∧ pageSource bs!"places" = bs!"_70laces.html" := by
  decide +kernel

/-- **No two pages share a name** — all page kinds, fixed pages included: the file names
    `sendFiles` produces are pairwise distinct, for every document (any names, places, pointers —
    a person called "Places", a place called "Statistics", a source `@ann-smith@` next to Ann
    Smith, `@sources@`), every visibility and every subset of page groups.  Hypotheses: the index
    letters are distinct letters (`indexLetters_nodup`, `indexLetters_range`) and the source
    records have distinct pointers. -/
theorem site_names_injective (s : Site)
    (hl : ∀ l ∈ s.letters, l = Generated.symbolLetter ∨ (97 ≤ l.toNat ∧ l.toNat ≤ 122))
    (hln : s.letters.Nodup) (hsp : s.sourcePtrs.Nodup) : s.fileNames.Nodup := by
  obtain ⟨all, hsub, hperm⟩ := fileNames_sub s
  refine List.Nodup.sublist hsub (hperm.nodup_iff.mpr ?_)
  -- up to order the letter pages are among the fixed pages …
  obtain ⟨L, hL, hLs⟩ := exists_perm_sublist hln validLetters_nodup fun l hl' => mem_validLetters.mpr (hl l hl')
  have hF : (s.letters.map pageIndividuals ++ pageLiterals).Perm (pageLiterals ++ L.map pageIndividuals) :=
    List.perm_append_comm.trans ((hL.symm.map _).append_left _)
  have hFs : (pageLiterals ++ L.map pageIndividuals).Sublist (fixedKeys.map (· ++ html)) := by
    rw [← fact_fixed_names, fixedNames_eq]
    exact (hLs.map _).append_left _
  refine (((hF.append_right _).append_right _).append_right _).nodup_iff.mpr
    (List.Nodup.sublist (((hFs.append_right _).append_right _).append_right _) ?_)
  -- … so every name is `key ++ html`: the keys of the fixed, source, place and individual pages
  have hS : s.sourceFiles = (s.sourcePtrs.map sourceKey).map (· ++ html) := by
    simp [Site.sourceFiles, pageSource, fact_suffix, List.map_map, Function.comp_def]
  have hP : (if s.showPlaces then s.placeFiles else [])
      = (if s.showPlaces then s.placeKeys else []).map (· ++ html) := by
    cases s.showPlaces <;> rfl
  rw [hS, hP, Site.individualFiles, ← List.map_append, ← List.map_append, ← List.map_append]
  apply nodup_map fun _ _ => List.append_cancel_right
  have hFn : fixedKeys.Nodup := nodup_of_map _ (fact_fixed_names ▸ fact_fixed_nodup)
  have hSn : (s.sourcePtrs.map sourceKey).Nodup := nodup_map sourceKey_injective hsp
  have hPn : (if s.showPlaces then s.placeKeys else []).Nodup :=
    (placeEntriesR_keys_nodup _ _).sublist (ite_sublist _ _)
  obtain ⟨ns, hksub⟩ := individualPageKeys_sub s
  obtain ⟨hKn, hKfresh, -, -⟩ := names_injective ns s.keyPlaces
  rw [← reserved_eq]
  refine List.nodup_append.mpr ⟨List.nodup_append.mpr ⟨?_, hPn, ?_⟩, hKn.sublist hksub, ?_⟩
  · rw [reserved_eq]
    refine List.nodup_append.mpr ⟨hFn, hSn, ?_⟩
    intro a ha b hb e
    subst e
    obtain ⟨p, _, rfl⟩ := List.mem_map.mp hb
    exact sourceKey_not_fixed p ha
  · intro a ha b hb e
    subst e
    exact (placeKey_mem s a ((ite_sublist _ _).subset hb)).1 ha
  · intro a ha b hb e
    subst e
    exact hKfresh a (hksub.subset hb) (keyPlaces_eq s ▸ List.mem_append.mpr (List.mem_append.mp ha).symm)

/-- … with the letters `GetIndexLetters` computes: the only hypothesis left is that the source
    records have distinct pointers -/
theorem site_names_injective_letters (s : Site) (surnames : List Str) (h : s.letters = indexLetters surnames)
    (hsp : s.sourcePtrs.Nodup) : s.fileNames.Nodup :=
  site_names_injective s (fun l hl => indexLetters_range surnames l (h ▸ hl))
    (h ▸ indexLetters_nodup surnames) hsp

/-- what the reserved keys are for: with a nil places map and no reserved keys (the code before
    the repairs) a person and a place get the same file, "Oldtown" born in "Oldtown", and a
    person called "Places" gets the file of the place list -/
theorem names_injective_counterexample :
    individualKeys [bs!"Oldtown"] [] = [bs!"oldtown"]
    ∧ (placeEntries [bs!"Oldtown"]).map (·.1) = [bs!"oldtown"]
    ∧ individualKeys [bs!"Oldtown"] [bs!"oldtown"] = [bs!"oldtown-1"]
    ∧ individualKeys [bs!"Places"] [] = [bs!"places"]
    ∧ individualKeys [bs!"Places"] fixedKeys = [bs!"places-1"] := by
  decide +kernel

/-! ## The naming rules are the source (go/ast translation, `Generated.PublishSrc`) -/

section Source
open Gedcom.PublishSrc

/-- every translated piece of `sourceKey`, `isFixedPageKey`, `getUniqueKey` and
    `indexLetterForSurname` is inside the translated fragment (no `.bad`, every shape recognised) -/
theorem naming_source_translated :
    Generated.sourceKeySrc.ok = true ∧ Generated.fixedSrc.ok = true
    ∧ Generated.uniqueKeySrc.ok = true ∧ Generated.indexLetterSrc.ok = true := by decide

/-- the per-byte table the model uses is the byte rule of `sourceKey` in the source (which bytes
    the case keeps, `_%02x` for the others), run on all 256 bytes -/
theorem sourceKey_table_is_the_source :
    (List.range 256).map (fun n => Generated.sourceKeySrc.byte (UInt8.ofNat n)) = Generated.sourceKeyByte := by
  decide +kernel

theorem sourceKey_byte_is_the_source (c : UInt8) :
    Generated.sourceKeySrc.byte c = Generated.sourceKeyByte.getD c.toNat [c] := by
  have hc : c.toNat < 256 := UInt8.toNat_lt c
  rw [← sourceKey_table_is_the_source, List.getD_eq_getElem?_getD, List.getElem?_map,
    List.getElem?_range hc]
  simp

/-- … the rewrite of a key that names a fixed page (`_%02x%s` of `key[0]`, `key[1:]`) is
    `escapeFirst` … -/
theorem sourceKey_escape_is_the_source (k : Str) (hk : k ≠ []) :
    Generated.sourceKeySrc.escape k = some (escapeFirst k) := by
  cases k with
  | nil => exact absurd rfl hk
  | cons b t => simp [SourceKeySrc.escape, Generated.sourceKeySrc, fmtRun, fmtOne, hex02, escapeFirst]

/-- the page names `isFixedPageKey` compares with, in source order, are the model's fixed names -/
theorem fixed_names_are_the_source : Generated.fixedSrc.names = fixedNames := rfl

theorem isFixedKey_is_the_source (k : Str) : Generated.fixedSrc.isFixed k = isFixedKey k := by
  have hs : ([46, 104, 116, 109, 108] : Str) = html := by decide
  unfold FixedSrc.isFixed isFixedKey
  rw [fixed_names_are_the_source]
  simp [Generated.fixedSrc, fmtRun, fmtOne, hs]

/-- … so the model's `sourceKey` is the source's, for every pointer -/
theorem sourceKey_is_the_source (ptr : Str) :
    sourceKey ptr = sourceKeyOf Generated.sourceKeySrc Generated.fixedSrc ptr := by
  have hraw : sourceKeyRaw ptr = ptr.flatMap Generated.sourceKeySrc.byte := by
    unfold sourceKeyRaw
    congr 1
    funext c
    exact (sourceKey_byte_is_the_source c).symm
  unfold sourceKey sourceKeyOf
  simp only [fact_escapes, Bool.true_and, ← hraw, isFixedKey_is_the_source]
  split
  · rename_i h
    have hne : sourceKeyRaw ptr ≠ [] := (fact_fixed_head _ ((isFixedKey_iff _).mp h)).2
    rw [sourceKey_escape_is_the_source _ hne]; rfl
  · rfl

/-- the numbered candidate of `getUniqueKey` (`%s-%d` of `s`, `i`, for `i > 0`) is `candidate` -/
theorem uniqueKey_candidate_is_the_source (s : Str) (i : Nat) :
    Generated.uniqueKeySrc.candidate s i = some (candidate s i) := by
  unfold UniqueKeySrc.candidate candidate
  split
  · rfl
  · simp [Generated.uniqueKeySrc, fmtRun, fmtOne]

/-- the `continue` conditions of the probing loop, in source order: a candidate is passed over iff
    it is an individual key, a place key, a reserved key or a fixed page key — checked for every
    candidate, numbered ones included -/
theorem uniqueKey_skip_is_the_source (taken places reserved : List Str) (c : Str) :
    Generated.uniqueKeySrc.skip Generated.fixedSrc.isFixed taken places reserved c
      = (taken.contains c || (places ++ (fixedKeys ++ reserved)).contains c) := by
  have hf : isFixedKey c = fixedKeys.contains c := by
    rw [Bool.eq_iff_iff, isFixedKey_iff]; simp
  simp only [UniqueKeySrc.skip, Generated.uniqueKeySrc, List.any_cons, List.any_nil, KCond.eval,
    isFixedKey_is_the_source, hf, Bool.or_false]
  rw [Bool.eq_iff_iff]
  simp only [Bool.or_eq_true, List.contains_iff_mem, List.mem_append]
  -- the source asks for the reserved keys before the fixed ones
  rw [or_comm (a := c ∈ reserved)]

/-- **`getUniqueKey` is the source**: the model's search (`uniqueKey`, with the reserved keys among
    the keys to keep off — what `names_injective` and `site_names_injective` are about) takes the
    first candidate of the source's loop that none of its `continue` conditions passes over -/
theorem uniqueKey_is_the_source (taken places reserved : List Str) (s : Str) :
    uniqueKey taken (places ++ (fixedKeys ++ reserved)) s
      = ((List.range (taken.length + (places ++ (fixedKeys ++ reserved)).length + 1)).filterMap
          (Generated.uniqueKeySrc.candidate s)).find?
          (fun c => !Generated.uniqueKeySrc.skip Generated.fixedSrc.isFixed taken places reserved c) := by
  have hc : Generated.uniqueKeySrc.candidate s = some ∘ candidate s :=
    funext (uniqueKey_candidate_is_the_source s)
  have hs : (fun c => !Generated.uniqueKeySrc.skip Generated.fixedSrc.isFixed taken places reserved c)
      = fun c => !taken.contains c && !(places ++ (fixedKeys ++ reserved)).contains c :=
    funext fun c => by rw [uniqueKey_skip_is_the_source, Bool.not_or]
  rw [hc, hs, List.filterMap_eq_map]
  rfl

/-- the index-letter rule of the source (`name == ""`, `name[0] < 'a'`, `name[0] > 'z'` give the
    symbol letter, else the first byte of the lower-cased surname) is `indexLetter` -/
theorem indexLetter_is_the_source (surname : Str) :
    Generated.indexLetterSrc.letter (lowerFirst surname) = indexLetter surname := by
  unfold indexLetter
  cases lowerFirst surname with
  | none => rfl
  | some b =>
    have hc : anyCond (some b) Generated.indexLetterSrc.symbolIf = (b < 97 || b > 122) := by
      simp [anyCond, Generated.indexLetterSrc, BCond.eval, UInt8.lt_iff_toNat_lt]
    simp only [IndexLetterSrc.letter, hc, Option.getD_some]

end Source

/-! ## Links -/

/-- **Links are closed** (links to individuals): in every page group — constructed before or after
    the places were collected — a link to the i-th individual is `#` (hidden) or names a generated
    file, provided individual pages are published. -/
theorem links_closed (s : Site) (late : Bool) (i : Nat) (hs : s.showIndividuals = true) :
    pageIndividualV s.names s.hidden (s.linkPlaces late) i = [35]
    ∨ pageIndividualV s.names s.hidden (s.linkPlaces late) i ∈ s.fileNames := by
  have hlp : s.linkPlaces late = s.keyPlaces := by
    simp [Site.linkPlaces, Site.keyPlaces, fact_keyed, Bool.and_comm]
  rw [hlp]
  unfold pageIndividualV pageIndividual
  cases s.hidden.getD i false with
  | true => exact Or.inl rfl
  | false =>
    simp only [Bool.false_eq_true, if_false]
    cases hk : (individualKeys (keyedNames s.names s.hidden) s.keyPlaces)[keyRank s.hidden i]? with
    | none => exact Or.inl rfl
    | some k =>
      right
      have hmem : k ++ html ∈ s.individualFiles := by
        unfold Site.individualFiles Site.individualPageKeys
        simp only [fact_skip, if_true]
        exact List.mem_map_of_mem (List.mem_of_getElem? hk)
      simp only [Site.fileNames, hs, if_true, List.mem_append, hmem, or_true, true_or]

/-- **Links are closed** (links to places): `#` or the page of a published place -/
theorem place_links_closed (s : Site) (pretty : Str) (hs : s.showPlaces = true) :
    pagePlace pretty s.placeEntries = [35]
    ∨ pagePlace pretty s.placeEntries ∈ s.fileNames := by
  unfold pagePlace
  cases hf : s.placeEntries.find? (fun kv => kv.2 == pretty) with
  | none => exact Or.inl rfl
  | some kv =>
    right
    have hmem : kv.1 ++ html ∈ s.placeFiles :=
      List.mem_map_of_mem (List.mem_map_of_mem (List.mem_of_find?_eq_some hf))
    simp only [Site.fileNames, hs, if_true, List.mem_append, List.mem_cons, hmem, or_true, true_or]

theorem indexLetter_mem (surnames : List Str) (sn : Str) (h : sn ∈ surnames) :
    indexLetter sn ∈ indexLetters surnames :=
  indexLetters_eq surnames ▸ List.mem_filter.mpr
    ⟨mem_validLetters.mpr (indexLetter_range sn), List.contains_iff_mem.mpr (List.mem_map_of_mem h)⟩

/-- **Links are closed** (letter links): the link of a surname on the surname page goes to the
    individual list page of that surname's letter, which is generated whenever somebody listed
    has the surname — digits, symbols and multi-byte letters go to the symbol page. -/
theorem letter_links_closed (surnames : List Str) (sn : Str) (h : sn ∈ surnames) :
    surnameLinkPage sn ∈ (indexLetters surnames).map pageIndividuals := by
  unfold surnameLinkPage
  simp only [fact_slink, if_true]
  exact List.mem_map.mpr ⟨_, indexLetter_mem surnames sn h, rfl⟩

/-- what is *not* closed: with a page group switched off, the other pages still link into it —
    known finding (`-no-individuals`: the family page links to `ann-smith.html`) -/
theorem links_disabled_group_counterexample :
    let s : Site := { names := [bs!"Ann Smith"], hidden := [false], letters := [115],
                      places := [], sourcePtrs := [],
                      showIndividuals := false, showPlaces := true, showFamilies := true,
                      showSurnames := true, showSources := true, showStatistics := true }
    pageIndividualV s.names s.hidden (s.linkPlaces true) 0 = bs!"ann-smith.html"
    ∧ pageIndividualV s.names s.hidden (s.linkPlaces true) 0 ∉ s.fileNames := by
  decide +kernel

/-! ## Determinism -/

/-- **The names are a function of the inputs only**: the Go code looks an individual up by
    ranging over a map, in an order the runtime picks anew every time; whatever that order is
    (`order` = any permutation of the entries), the page name is the one the model computes — so
    the file names and the links do not depend on the run, the schedule or the history. -/
theorem deterministic_in_inputs (names places : List Str) (order : List (Str × Nat))
    (hp : order.Perm (individualEntries names places)) (hidden : Bool) (i : Nat) :
    pageIndividualIn order hidden i = pageIndividual names places hidden i := by
  unfold pageIndividualIn pageIndividual
  cases hidden with
  | true => rfl
  | false =>
    simp only [Bool.false_eq_true, if_false]
    have hu : ∀ a ∈ order, ∀ b ∈ order, (a.2 == i) = true → (b.2 == i) = true → a = b := by
      intro a ha b hb h1 h2
      have ha' := hp.mem_iff.mp ha
      have hb' := hp.mem_iff.mp hb
      exact zipIdx_snd_unique _ 0 a ha' b hb' ((eq_of_beq h1).trans (eq_of_beq h2).symm)
    rw [find_perm_unique _ order _ hp hu]
    have := zipIdx_find (individualKeys names places) 0 i
    simp only [Nat.add_zero] at this
    unfold individualEntries
    rw [this]
    cases (individualKeys names places)[i]? <;> rfl

/-- the same for places, from the PLAC values of the file: the pretty name of a value and its key
    are functions of the value (`prettyPlaceName`, `sanitize`, the reserved keys), the first
    spelling in the document names the page, and `PagePlace`, which ranges over the places map, gives
    the same page for every iteration order (`order` = any permutation of the entries) -/
theorem deterministic_places (s : Site) (order : List (Str × Str))
    (hp : order.Perm (placeEntriesR s.reserved (s.places.map prettyOf))) (pretty : Str) :
    pagePlace pretty order = pagePlace pretty s.placeEntries := by
  unfold pagePlace Site.placeEntries
  have hu : ∀ a ∈ order, ∀ b ∈ order, (a.2 == pretty) = true → (b.2 == pretty) = true → a = b := by
    intro a ha b hb h1 h2
    have ha' := placeEntriesR_key _ _ a (hp.mem_iff.mp ha)
    have hb' := placeEntriesR_key _ _ b (hp.mem_iff.mp hb)
    have h2' : a.2 = b.2 := (eq_of_beq h1).trans (eq_of_beq h2).symm
    exact Prod.ext (by rw [ha', hb', h2']) h2'
  rw [find_perm_unique _ order _ hp hu]

/-- `prettyPlaceName` on the spellings that share a page: one pretty name, one key -/
example : prettyOf bs!"Paris,,France" = bs!"Paris, France" ∧ prettyOf bs!" ,Paris,France, " = bs!"Paris, France"
    ∧ prettyOf bs!",," = bs!"(none)" ∧ sanitize (prettyOf bs!"Old,Town") = bs!"old-town" := by
  decide +kernel

/-! ## (ii) The publish protocol -/

/-- the facts of the error path the protocol model is built on, as found in the code today (the
    last two are read by no definition: they license `St.returned` and `Step.close`) -/
theorem protocol_flags :
    Generated.publishRecordsError = true ∧ Generated.publishBreaksOnError = true ∧
    Generated.workerPoolWaits = true ∧ Generated.filesClosesChannel = true :=
  ⟨records_error, by decide, by decide, by decide⟩

/-- **Termination (ranking function).**  Every step of every goroutine strictly decreases
    `St.rank`, so no schedule is infinite: the step relation is well founded — for every number of
    jobs, every channel capacity and every writer (any failure pattern, in particular "fails at the
    k-th file" for every k). -/
theorem publish_terminates (cap : Nat) (fails : Writer) :
    WellFounded (fun s' s : St => Step cap fails s s') :=
  Subrelation.wf (fun h => step_decreases h) (InvImage.wf St.rank Nat.lt_wfRel.wf)

/-- … with an explicit bound: from the start, no schedule is longer than `3·files + jobs + 1` -/
theorem publish_bounded (files : List Nat) (jobs cap n : Nat) (fails : Writer) (s : St)
    (h : StepsN cap fails n (St.init files jobs) s) : n ≤ 3 * files.length + jobs + 1 := by
  have := stepsN_rank h
  rw [rank_init] at this
  omega

/-- **No deadlock of `Publish`.**  As long as some worker is still in its loop some goroutine can
    move (capacity ≥ 1, i.e. jobs ≥ 1) — so every maximal schedule ends with `Publish` returned.
    (The producer goroutine may stay blocked for ever after a failure: a leak, not a hang.) -/
theorem no_deadlock (cap : Nat) (hcap : 0 < cap) (fails : Writer) (s : St) (h : ¬ s.returned) :
    ∃ s', Step cap fails s s' := by
  obtain ⟨w, hw⟩ := Classical.not_forall.mp h
  obtain ⟨hw, hne⟩ := Classical.not_imp.mp hw
  obtain ⟨i, hi⟩ := List.mem_iff_getElem?.mp hw
  cases w with
  | done => simp at hne
  | failed => simp at hne
  | holding f =>
    cases hf : fails s.log.length with
    | true => exact ⟨_, .writeFail s i f hi hf⟩
    | false => exact ⟨_, .writeOk s i f hi hf⟩
  | idle =>
    cases hc : s.chan with
    | cons f rest => exact ⟨_, .take s i f rest hi hc⟩
    | nil =>
      cases hcl : s.closed with
      | true => exact ⟨_, .finish s i hi hc hcl⟩
      | false =>
        cases ht : s.todo with
        | nil => exact ⟨_, .close s ht hcl⟩
        | cons f rest => exact ⟨_, .produce s f rest ht (by simp [hc, hcap])⟩

/-- **A failure is reported.**  In every reachable state — in particular when `Publish` returns —
    `err` is set iff some `WriteFile` call has failed, on every schedule. -/
theorem failure_reported (files : List Nat) (jobs cap : Nat) (fails : Writer) (s : St)
    (h : Steps cap fails (St.init files jobs) s) :
    s.err.isSome = true ↔ ∃ e ∈ s.log, e.2 = false :=
  (Inv.of_steps h).err

/-- **Publishing stops at a failure**: a worker whose `WriteFile` failed takes no further file
    (it is `failed` for ever), so at most `jobs` calls fail on any schedule.  Stated as: a failed
    worker never moves again. -/
theorem failed_worker_stops (cap : Nat) (fails : Writer) (s s' : St) (i : Nat)
    (hw : s.workers[i]? = some .failed) (h : Step cap fails s s') : s'.workers[i]? = some .failed := by
  have hset : ∀ j w w', s.workers[j]? = some w → w ≠ .failed → (setW s.workers j w')[i]? = some .failed := by
    intro j w w' hj hne
    unfold setW
    by_cases hij : j = i
    · subst hij; rw [hw] at hj; cases hj; exact absurd rfl hne
    · rw [List.getElem?_set_ne hij]; exact hw
  cases h with
  | produce f rest h1 h2 => exact hw
  | close h1 h2 => exact hw
  | take j f rest h1 h2 => exact hset j _ _ h1 (by simp)
  | finish j h1 h2 h3 => exact hset j _ _ h1 (by simp)
  | writeOk j f h1 h2 => exact hset j _ _ h1 (by simp)
  | writeFail j f h1 h2 => exact hset j _ _ h1 (by simp)

/-- with no worker at all (`-jobs 0`) `Publish` returns at once: nothing written, nil returned
    (witness; the property quantifies over jobs ≥ 1) -/
theorem jobs_zero_silent (files : List Nat) :
    (St.init files 0).returned ∧ (St.init files 0).log = [] ∧ (St.init files 0).err = none := by
  simp [St.init, St.returned]

/-- **Nothing is lost or written twice, on any schedule**: in every reachable state every file is
    at exactly one place — handed to the writer, inside a worker, in the channel, or with the
    producer. -/
theorem files_conserved (files : List Nat) (jobs cap : Nat) (fails : Writer) (s : St)
    (h : Steps cap fails (St.init files jobs) s) :
    files.Perm (s.log.map (·.1) ++ held s.workers ++ s.chan ++ s.todo) :=
  (Inv.of_steps h).conserved

/-- **The set of written files does not depend on the schedule or on the number of jobs**: when
    the writer never fails and `Publish` has returned, exactly the files of `sendFiles` were
    written, each once, and `err` is nil — for every jobs ≥ 1 and every interleaving. -/
theorem schedule_independent (files : List Nat) (jobs cap : Nat) (hj : 0 < jobs) (s : St)
    (h : Steps cap (fun _ => false) (St.init files jobs) s) (hr : s.returned) :
    files.Perm (s.log.map (·.1)) ∧ (∀ e ∈ s.log, e.2 = true) ∧ s.err = none := by
  have inv := Inv.of_steps h
  have clean : ¬ (Worker.failed ∈ s.workers ∨ ∃ e ∈ s.log, e.2 = false) := fun hf => by
    simpa using inv.failed hf
  -- every worker is `done`, and there is one: the channel was closed and empty, nothing is left to send
  obtain ⟨w, hw⟩ : ∃ w, w ∈ s.workers :=
    List.exists_mem_of_ne_nil _ (List.ne_nil_of_length_pos (inv.jobs ▸ hj))
  have hdone : w = Worker.done := (hr w hw).resolve_right fun e => clean (.inl (e ▸ hw))
  obtain ⟨hclosed, hchan⟩ := inv.done (hdone ▸ hw)
  have hcons := inv.conserved
  rw [held_nil_of_done s.workers hr, hchan, inv.closed hclosed] at hcons
  refine ⟨by simpa using hcons, fun e he => ?_, ?_⟩
  · exact Bool.of_not_eq_false fun hf => clean (.inr ⟨e, he, hf⟩)
  · exact Option.not_isSome_iff_eq_none.mp fun he => clean (.inr (inv.err.mp he))

/-- the scheduler the driver runs only takes steps of the transition system -/
theorem runSched_sound (cap : Nat) (fails : Writer) (fuel : Nat) (sched : List Nat) (s : St) :
    Steps cap fails s (runSched cap fails fuel sched s) := by
  induction fuel generalizing sched s with
  | zero => exact .refl s
  | succ fuel ih =>
    rcases runSched_succ cap fails fuel sched s with ⟨e, _⟩ | ⟨t, ht, e⟩
    · rw [e]; exact .refl s
    · rw [e]; exact steps_head ht (ih _ _)

/-- **Every schedule ends with `Publish` returned**: the executable scheduler (what the driver
    runs, any list of picks) reaches a state in which every worker has left its loop, for every
    jobs ≥ 1, every writer and every fuel above the bound of `publish_bounded`. -/
theorem every_schedule_returns (files : List Nat) (jobs : Nat) (hj : 0 < jobs) (fails : Writer)
    (sched : List Nat) (fuel : Nat) (hf : 3 * files.length + jobs + 1 ≤ fuel) :
    (runSched jobs fails (fuel + 1) sched (St.init files jobs)).returned :=
  runSched_returns jobs fails (fuel + 1) sched _ (by rw [rank_init]; omega)
    (fun t ht => no_deadlock jobs hj fails t ht)

/-! ## Non-vacuity -/

/-- a failing writer at the third call, two jobs, one concrete schedule: the run ends with
    `Publish` returned, the error recorded and the other files written -/
example :
    let s := runSched 2 (fun n => n == 2) 100 [3, 1, 4, 1, 5, 9, 2, 6] (St.init [0, 1, 2, 3, 4] 2)
    s.workers = [.failed, .done] ∧ s.err = some 2 ∧ s.log.length = 5 := by decide +kernel

/-- the hypotheses of `schedule_independent` are met by a real run: 16 jobs, 3 files -/
example :
    let s := runSched 16 (fun _ => false) 200 [7, 2, 9, 4, 1, 1, 8, 3, 5] (St.init [0, 1, 2] 16)
    s.workers.all (· == .done) = true ∧ s.log.length = 3 ∧ s.err = none := by decide +kernel

example : individualKeys [bs!"Old Town", bs!"old-town", bs!"Old,Town"] [bs!"old-town-2"]
    = [bs!"old-town", bs!"old-town-1", bs!"old-town-3"] := by decide +kernel

example : sanitize bs!"../x" = bs!"-x" ∧ sanitize bs!"a/b" = bs!"a-b" ∧ sanitize bs!"王 1st" = bs!"-1st" := by
  decide +kernel

/-- a site that meets the hypotheses of `names_confined`, `site_names_injective` and `links_closed`
    with hostile input: a person called like a place, like a fixed page and like a source; a place
    called like a fixed page; sources called like a fixed page and with path separators -/
example :
    let s : Site := { names := [bs!"../x", bs!"Oldtown", bs!"Places", bs!"s1"], hidden := [false, false, false, false],
                      letters := [35, 111, 112, 115],
                      places := [bs!"Oldtown", bs!"a/b", bs!"Statistics", bs!"statistics"],
                      sourcePtrs := [bs!"S/../x", bs!"sources", bs!"s1"],
                      showIndividuals := true, showPlaces := true, showFamilies := true,
                      showSurnames := true, showSources := true, showStatistics := true }
    s.fileNames.all plain = true ∧ s.fileNames.Nodup ∧ s.letters.Nodup ∧ s.sourcePtrs.Nodup
    ∧ pageIndividualV s.names s.hidden (s.linkPlaces false) 1 = bs!"oldtown-1.html"
    ∧ pageIndividualV s.names s.hidden (s.linkPlaces false) 2 = bs!"places-1.html"
    ∧ pageIndividualV s.names s.hidden (s.linkPlaces false) 3 = bs!"s1-1.html"
    ∧ s.placeKeys = [bs!"oldtown", bs!"a-b", bs!"statistics-1"]
    ∧ s.sourceFiles = [bs!"S_2f_2e_2e_2fx.html", bs!"_73ources.html", bs!"s1.html"] := by
  decide +kernel

/-- a hidden living person takes no page name: the dead namesake is `ann-smith.html` -/
example : individualKeysV [bs!"Ann Smith", bs!"Ann Smith", bs!"Bob"] [true, false, false] []
    = [none, some bs!"ann-smith", some bs!"bob"]
    ∧ pageIndividualV [bs!"Ann Smith", bs!"Ann Smith"] [true, false] [] 1 = bs!"ann-smith.html"
    ∧ pageIndividualV [bs!"Ann Smith", bs!"Ann Smith"] [true, false] [] 0 = bs!"#"
    ∧ pageIndividualV [bs!"Ann Smith", bs!"Ann Smith"] [false, false] [] 1 = bs!"ann-smith-1.html" := by
  decide +kernel

/-- records that share a pointer: the model has no pointers at all — an individual is its position
    in the document (what `PageIndividual` does since it looks the record itself up), so three
    records `@I1@` with different or equal names keep their own keys -/
example : individualKeysV [bs!"Ann Smith", bs!"Bob Jones", bs!"Ann Smith"] [false, false, false] []
    = [some bs!"ann-smith", some bs!"bob-jones", some bs!"ann-smith-1"]
    ∧ pageIndividualV [bs!"Ann Smith", bs!"Bob Jones", bs!"Ann Smith"] [false, false, false] [] 2 = bs!"ann-smith-1.html" := by
  decide +kernel

end Gedcom.C19

/-
  C05 — Date bounds and the Years scale agree with the calendar.
  Property theorems (with the lemmas that serve only them).  Years are exact fractions here
  (`Date.yearsLt` compares by cross-multiplication), with no upper bound on the year; the same clauses about the binary64
  values the implementation compares are in Props/C05Float.
-/
import Gedcom.Lemmas.Calendar
import Gedcom.Generated.DateSrc
namespace Gedcom.C05

/-- the leap-year rule of the model is the Gregorian one -/
theorem leap_rule (y : Int) : isLeap y = true ↔ (4 ∣ y ∧ (¬ 100 ∣ y ∨ 400 ∣ y)) := by
  rw [isLeap_iff]; omega

/-- consecutive civil days have consecutive day numbers: inside a month by definition, … -/
theorem day_succ (y : Int) (m : Nat) (d : Int) : dayNumber y m (d + 1) = dayNumber y m d + 1 := by
  unfold dayNumber; omega
/-- … from the last day of a month to the first of the next (leap Februaries included), … -/
theorem month_succ (y : Int) (m : Nat) (hm : 1 ≤ m) (hm' : m < 12) :
    dayNumber y (m+1) 1 = dayNumber y m (dim (isLeap y) m) + 1 :=
  month_roll y m hm hm'
/-- … and from 31 December to 1 January (century and 400-year rules included). -/
theorem year_succ (y : Int) : dayNumber (y+1) 1 1 = dayNumber y 12 31 + 1 :=
  year_roll y

/-- the number of days from first to last day is the calendar's length of the period:
    1, the month's length (29 for a leap February) or the year's length (366 in leap years) -/
theorem period_days (d : Date) (h : d.WF) : d.lastDay - d.firstDay + 1 = d.periodDays := by
  unfold Date.firstDay Date.lastDay Date.periodDays
  obtain ⟨_, h2⟩ := h
  rcases h2 with ⟨hm, _⟩ | ⟨hm1, hm2, hd⟩
  · have h1 : yearDay (d.year : Int) 1 1 = 1 := rfl
    rw [if_pos hm, if_pos hm, if_pos hm, dayNumber_eq, dayNumber_eq, year_last, h1]
    omega
  · have hm0 : ¬ d.month = 0 := by omega
    rw [if_neg hm0, if_neg hm0, if_neg hm0]
    split
    · unfold dayNumber; omega
    · omega

theorem periodDays_pos (d : Date) (h : d.WF) : 1 ≤ d.periodDays := by
  unfold Date.periodDays
  obtain ⟨_, h2⟩ := h
  split
  · rcases daysInYear_cases (d.year : Int) with e | e <;> omega
  · split
    · have := dim_pos (isLeap d.year) (m := d.month) (by omega) (by omega)
      omega
    · exact Int.le_refl 1

/-- the period denoted by a valid date starts no later than it ends -/
theorem start_le_end (d : Date) (h : d.WF) : d.startInstant ≤ d.endInstant := by
  have := period_days d h
  have := periodDays_pos d h
  unfold Date.startInstant Date.endInstant nsPerDay
  omega

/-- start bound = 00:00:00.000000000 of the first day, end bound = last nanosecond of the
    last day: together exactly `periodDays` whole days -/
theorem period_length (d : Date) (h : d.WF) :
    d.endInstant - d.startInstant + 1 = d.periodDays * nsPerDay := by
  have := period_days d h
  unfold Date.startInstant Date.endInstant
  rw [← this]
  simp only [nsPerDay]
  omega

theorem full_first (y : Nat) {m : Nat} (h1 : 1 ≤ m) (h2 : m ≤ 12) : Full ⟨1, m, y⟩ :=
  ⟨h1, h2, Nat.le_refl 1, by have := (dim_pos (isLeap y) h1 h2).1; simp only; omega⟩

theorem full_last (y : Nat) {m : Nat} (h1 : 1 ≤ m) (h2 : m ≤ 12) :
    Full ⟨(dim (isLeap y) m).toNat, m, y⟩ := by
  have := (dim_pos (isLeap y) h1 h2).1
  exact ⟨h1, h2, by simp only; omega, by simp only; omega⟩

/-- the fractional-year value is strictly increasing in calendar order, for every pair of
    full dates (in particular from each day to the next) -/
theorem years_strict_mono (a b : Date) (ha : Full a) (hb : Full b)
    (h : a.firstDay < b.firstDay) : a.yearsLt b :=
  (yearsLt_iff a b ha hb).mpr ((firstDay_lt_iff a b ha hb).mp h)

/-- `IsBefore` / `IsAfter` on full dates agree with calendar order -/
theorem isBefore_iff (a b : Date) (ha : Full a) (hb : Full b) :
    a.isBefore b = true ↔ a.firstDay < b.firstDay := by
  unfold Date.isBefore
  rw [decide_eq_true_eq, yearsLt_iff a b ha hb, firstDay_lt_iff a b ha hb]

theorem isAfter_iff (a b : Date) (ha : Full a) (hb : Full b) :
    a.isAfter b = true ↔ b.firstDay < a.firstDay :=
  isBefore_iff b a hb ha

theorem full_wf {d : Date} (h : Full d) (hy : 1 ≤ d.year) : d.WF := by
  obtain ⟨hm1, hm12, hday⟩ := h
  exact ⟨hy, .inr ⟨hm1, hm12, .inr hday⟩⟩

theorem yearsLt_of_num {a b : Date} (hy : a.year = b.year) (h : a.yearsNum < b.yearsNum) :
    a.yearsLt b := by
  unfold Date.yearsLt Date.yearsDen
  rw [hy]
  exact Int.mul_lt_mul_of_pos_right (Int.add_lt_add_left h _) (yearsDen_pos b)

/-- the Years value of a month-year date is the mean of those of its first and its last day -/
theorem month_yearsNum (y m : Nat) (h1 : 1 ≤ m) (h2 : m ≤ 12) :
    let p : Date := ⟨0, m, y⟩
    let f : Date := ⟨1, m, y⟩
    let l : Date := ⟨(dim (isLeap y) m).toNat, m, y⟩
    2 * p.yearsNum = f.yearsNum + l.yearsNum ∧ f.yearsNum < l.yearsNum := by
  have hd := dim_pos (isLeap y) h1 h2
  have m0 : ¬ m = 0 := by omega
  have l0 : ¬ (dim (isLeap (y : Int)) m).toNat = 0 := by omega
  simp only [Date.yearsNum, yearDay, m0, l0, if_false, if_true]
  omega

theorem years_strictly_inside_month (y m : Nat) (h1 : 1 ≤ m) (h2 : m ≤ 12) :
    (⟨1, m, y⟩ : Date).yearsLt ⟨0, m, y⟩ ∧
    (⟨0, m, y⟩ : Date).yearsLt ⟨(dim (isLeap y) m).toNat, m, y⟩ := by
  have := month_yearsNum y m h1 h2
  exact ⟨yearsLt_of_num rfl (by omega), yearsLt_of_num rfl (by omega)⟩

/-- a month-year date lies inside its month on the Years scale -/
theorem years_inside_month (y m : Nat) (h1 : 1 ≤ m) (h2 : m ≤ 12) :
    let p : Date := ⟨0, m, y⟩
    let f : Date := ⟨1, m, y⟩
    let l : Date := ⟨(dim (isLeap y) m).toNat, m, y⟩
    f.yearsLe p ∧ p.yearsLe l :=
  (years_strictly_inside_month y m h1 h2).imp Int.le_of_lt Int.le_of_lt

theorem years_strictly_inside_year (y : Nat) :
    (⟨1, 1, y⟩ : Date).yearsLt ⟨0, 0, y⟩ ∧ (⟨0, 0, y⟩ : Date).yearsLt ⟨31, 12, y⟩ := by
  have h1 : yearDay (y : Int) 1 1 = 1 := rfl
  have hl := year_last (y : Int)
  have := daysInYear_cases (y : Int)
  refine ⟨yearsLt_of_num rfl ?_, yearsLt_of_num rfl ?_⟩
  · show 2 * yearDay (y : Int) 1 1 < daysInYear y + 1
    omega
  · show daysInYear (y : Int) + 1 < 2 * yearDay (y : Int) 12 31
    omega

/-- a year-only date lies inside its year on the Years scale -/
theorem years_inside_year (y : Nat) :
    let p : Date := ⟨0, 0, y⟩
    let f : Date := ⟨1, 1, y⟩
    let l : Date := ⟨31, 12, y⟩
    f.yearsLe p ∧ p.yearsLe l :=
  (years_strictly_inside_year y).imp Int.le_of_lt Int.le_of_lt

/-- `DateNodes.Minimum()` returns a date of the list that no date of the list is below on the
    Years scale (and `none` only for the empty list) -/
theorem minimum_is_min (ds : List Date) (k : Nat) (h : minimumIdx ds = some k) :
    ∃ x, ds[k]? = some x ∧ ∀ d ∈ ds, ¬ d.yearsLt x :=
  select_spec minimumIdx.go (fun d m => d.yearsLt m) (fun _ _ => rfl) (fun _ _ _ => rfl)
    (fun _ _ _ _ _ => rfl) yearsLt_irrefl yearsLt_trans ds k h

/-- `DateNodes.Maximum()` returns a date of the list that is below no date of the list -/
theorem maximum_is_max (ds : List Date) (k : Nat) (h : maximumIdx ds = some k) :
    ∃ x, ds[k]? = some x ∧ ∀ d ∈ ds, ¬ x.yearsLt d :=
  select_spec maximumIdx.go (fun d m => m.yearsLt d) (fun _ _ => rfl) (fun _ _ _ => rfl)
    (fun _ _ _ _ _ => rfl) yearsLt_irrefl (fun h1 h2 => yearsLt_trans h2 h1) ds k h

/-- the Years order is a strict order (what sorting and min/max rely on) -/
theorem years_order_strict (a b c : Date) :
    ¬ a.yearsLt a ∧ (a.yearsLt b → b.yearsLt c → a.yearsLt c) :=
  ⟨yearsLt_irrefl a, fun h1 h2 => yearsLt_trans h1 h2⟩

/-! Non-vacuity (tests on literals, not the property): a leap February, a century year. -/
example : (⟨0, 2, 2000⟩ : Date).WF ∧ (⟨0, 2, 2000⟩ : Date).periodDays = 29 := by decide +kernel
example : (⟨0, 2, 1900⟩ : Date).WF ∧ (⟨0, 2, 1900⟩ : Date).periodDays = 28 := by decide +kernel
example : Full ⟨29, 2, 2000⟩ ∧ Full ⟨1, 3, 2000⟩ ∧
    (⟨29, 2, 2000⟩ : Date).firstDay < (⟨1, 3, 2000⟩ : Date).firstDay := by
  unfold Full; decide +kernel

/-- **Obligation on the regenerated source shape of the date arithmetic.** `Date.IsBefore` and
    `Date.IsAfter` are the strict comparisons of the two `Years()` values (what `isBefore_iff` /
    `isAfter_iff` model), `Date.Years` distinguishes exactly the cases day+month+year /
    month+year / year in that order, and `Date.Time` builds its instant from the same three cases
    and moves an end-of-range date to the last nanosecond of its day / month / year. -/
theorem date_source_shape :
    Generated.statementsOfIsBefore =
      ["leftYears := date.Years()", "rightYears := date2.Years()", "return leftYears < rightYears"] ∧
    Generated.statementsOfIsAfter =
      ["leftYears := date.Years()", "rightYears := date2.Years()", "return leftYears > rightYears"] ∧
    Generated.conditionsOfYears =
      ["if hasDay && hasMonth && hasYear => return", "if hasMonth && hasYear => return",
       "if hasYear => return"] ∧
    Generated.conditionsOfTime =
      ["case date.Day != 0 && date.Month != 0 && date.Year != 0",
       "case date.Month != 0 && date.Year != 0", "case date.Year != 0", "default",
       "if date.IsEndOfRange && ok", "case date.Day != 0", "case date.Month != 0",
       "case date.Year != 0"] := by decide +kernel

end Gedcom.C05

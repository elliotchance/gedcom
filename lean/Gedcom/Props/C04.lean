/-
  C04 — every documented date form parses to its documented meaning.

  Property theorems (with the lemmas that serve only them); they are about `parseDateRange`,
  `DateRange.toString` and `dateNodeToString` of Gedcom/Model/DateParse.lean — the functions the driver executes and the
  correspondence ties to `NewDateRangeWithString`, `DateRange.String`, `DateNode.String`.
  Keyword lists, keyword → constraint, month words and printed spellings are the *generated*
  ones (Gedcom/Generated/Dates.lean): per-word facts are decided over those lists (so a changed
  list re-checks them) and lifted to all letter cases, all spacings and all numeric values.
-/
import Gedcom.Lemmas.DateCanonical
import Gedcom.Lemmas.DateConverse
namespace Gedcom.C04
open Gedcom

/-! ## the documented grammar -/

/-- every keyword spelling of the exported lists `DateWordsAbout`, `DateWordsAfter`, `DateWordsBefore` -/
def keywords : List Str := Generated.wordsAbout ++ Generated.wordsAfter ++ Generated.wordsBefore

/-- `w'` is `w` written in some letter case: any upper/lower choice per character -/
def CaseVariant (w w' : Str) : Prop := lowerStr w' = lowerStr w

instance (w w' : Str) : Decidable (CaseVariant w w') := by unfold CaseVariant; exact inferInstance

def inList (l : List Str) (w : Str) : Bool := l.any fun x => lowerStr x == lowerStr w

/-- documented meaning of a keyword: the list it stands in -/
def docConstraint (w : Str) : Constraint :=
  if inList Generated.wordsAbout w then .about
  else if inList Generated.wordsAfter w then .after
  else if inList Generated.wordsBefore w then .before
  else .exact

def Body.year : Body → Nat
  | .Y _ y => y | .MY _ _ y => y | .DMY _ _ _ _ y => y | .ZMY _ _ _ y => y

def Body.day : Body → Nat
  | .DMY _ d _ _ _ => d | _ => 0

/-- the date a sentence is documented to denote (one end) -/
def meaning (x : Sentence) : PDate :=
  { day := Body.day x.body
    month := ((x.body.word.bind monthOfWord).getD 0)
    year := Body.year x.body
    constraint := match x.kw with | some T => docConstraint T | none => .exact
    parseError := false }

/-- `x` is a sentence of the documented grammar: the keyword (if any) is a listed keyword in any
    letter case; the month (if any) is a listed month word in any letter case; the year is
    1..9999 (any number of leading zeros); a day needs a month and lies in 1..(days in month),
    leap years by the Gregorian rule (any number of leading zeros) -/
structure Documented (x : Sentence) : Prop where
  kw : ∀ T, x.kw = some T → ∃ k ∈ keywords, CaseVariant k T
  month : ∀ M, x.body.word = some M → ∃ wm ∈ Generated.monthWords, CaseVariant wm.1 M
  year : 1 ≤ Body.year x.body ∧ Body.year x.body ≤ 9999
  day : match x.body with
        | .DMY _ d M _ y => ∀ m, monthOfWord M = some m → 1 ≤ d ∧ (d : Int) ≤ dim (isLeap y) m
        | .ZMY _ _ _ _ => False
        | _ => True

/-- the bytes of an ASCII string literal -/
def lit (s : String) : Str := s.toList.map fun c => UInt8.ofNat c.toNat

/-- Evaluating `lit "…"` as it stands makes the kernel encode the literal to UTF-8 and decode it
    again; a literal is `String.ofList` of its characters, and this equation skips the round trip. -/
theorem lit_ofList (l : List Char) : lit (String.ofList l) = l.map fun c => UInt8.ofNat c.toNat := by
  unfold lit; rw [String.toList_ofList]

/-! ## facts about the generated lists -/

/-- the month names and abbreviations listed in the documentation of `Date` -/
def documentedMonths : List (String × Nat) :=
  [("apr", 4), ("april", 4), ("aug", 8), ("august", 8), ("dec", 12), ("december", 12), ("feb", 2),
   ("february", 2), ("jan", 1), ("january", 1), ("jul", 7), ("july", 7), ("jun", 6), ("june", 6),
   ("mar", 3), ("march", 3), ("may", 5), ("nov", 11), ("november", 11), ("oct", 10), ("october", 10),
   ("sep", 9), ("september", 9)]

/-- the keyword spellings of the property statement with their documented meaning -/
def documentedKeywords : List (String × Constraint) :=
  [("abt", .about), ("abt.", .about), ("about", .about), ("c.", .about), ("ca", .about),
   ("ca.", .about), ("cca", .about), ("cca.", .about), ("circa", .about),
   ("aft", .after), ("aft.", .after), ("after", .after),
   ("bef", .before), ("bef.", .before), ("before", .before)]

/-- **The regenerated tables contain the documented grammar**: every documented month word maps to
    its month, every documented keyword spelling stands in the list of its constraint, and the
    documented between/and words are listed.  (Additions to the lists do not disturb this;
    a removed or re-mapped word does.) -/
theorem documented_words_present :
    (∀ p ∈ documentedMonths, monthOf (lit p.1) = some p.2) ∧
    (∀ p ∈ documentedKeywords, inList keywords (lit p.1) = true ∧ docConstraint (lit p.1) = p.2) ∧
    (∀ w ∈ ["between", "bet", "bet.", "from"], inList Generated.wordsBetween (lit w) = true) ∧
    (∀ w ∈ ["and", "to", "-"], inList Generated.wordsAnd (lit w) = true) := by decide +kernel

theorem mem_dateKeywords {k : Str} : k ∈ dateKeywords ↔ k ∈ keywords := by
  unfold dateKeywords keywords
  rw [mem_sortLenDesc]
  simp only [List.mem_append, or_assoc]
  exact or_congr_right or_comm

/-- every listed keyword: the probed `DateConstraintFromString` gives the constraint of the list
    the word stands in -/
theorem keywords_constraint :
    ∀ k ∈ keywords, constraintFromString k = docConstraint k ∧ docConstraint k ≠ .exact := by
  decide +kernel

/-- the constraint probe was consistent (case-insensitive, Exact outside the lists) and the source
    of the two patterns does not paste a `DateWords*` constant unquoted into the pattern (or the
    declaration could not be located) -/
theorem generated_flags :
    Generated.constraintProbeConsistent = true ∧ Generated.dateRegexpQuoted ≠ some false ∧
    Generated.dateRangeRegexpQuoted ≠ some false := by decide

theorem kwTok_of_documented {T : Str} (h : ∃ k ∈ keywords, CaseVariant k T) : KwTok T := by
  obtain ⟨k, hk, hv⟩ := h
  exact ⟨k, mem_dateKeywords.mpr hk, hv⟩

theorem docConstraint_lower_eq {s t : Str} (h : lowerStr s = lowerStr t) :
    docConstraint s = docConstraint t := by
  unfold docConstraint inList
  rw [h]

theorem constraint_of_documented {T : Str} (h : ∃ k ∈ keywords, CaseVariant k T) :
    constraintFromString T = docConstraint T := by
  obtain ⟨k, hk, hv⟩ := h
  have : constraintFromString T = constraintFromString k := by
    unfold constraintFromString; rw [hv]
  rw [this, (keywords_constraint k hk).1, docConstraint_lower_eq hv]

theorem month_of_documented {M : Str} (h : ∃ wm ∈ Generated.monthWords, CaseVariant wm.1 M) :
    ∃ m, MonthTok M m := by
  obtain ⟨wm, hwm, hv⟩ := h
  exact ⟨wm.2, monthVariant_facts hwm hv⟩

theorem wf_of_words {x : Sentence} (hkw : ∀ T, x.kw = some T → ∃ k ∈ keywords, CaseVariant k T)
    (hmonth : ∀ M, x.body.word = some M → ∃ wm ∈ Generated.monthWords, CaseVariant wm.1 M) :
    x.WF :=
  wf_of_monthTok (fun T hT => kwTok_of_documented (hkw T hT)) fun M hM =>
    month_of_documented (hmonth M hM)

theorem wf_of_documented {x : Sentence} (h : Documented x) : x.WF := wf_of_words h.kw h.month

theorem kwText_constraint {x : Sentence} (h : ∀ T, x.kw = some T → ∃ k ∈ keywords, CaseVariant k T) :
    constraintFromString x.kwText = (match x.kw with | some T => docConstraint T | none => .exact) := by
  cases hk : x.kw with
  | none => simp [Sentence.kwText, hk, constraint_nil]
  | some T => simpa [Sentence.kwText, hk] using constraint_of_documented (h T hk)

theorem min_maxInt {n : Nat} (h : n ≤ 9999) : min n maxInt = n := by
  unfold maxInt; omega

theorem dim_le_31 (l : Bool) (m : Nat) : dim l m ≤ 31 := by
  unfold dim; split <;> (try split) <;> omega

theorem result_of_documented {x : Sentence} (h : Documented x) : x.result = meaning x := by
  have hc := kwText_constraint h.kw
  have hy2 := h.year.2
  have hday := h.day
  unfold Sentence.result meaning
  cases hb : x.body with
  | Y yz y =>
    rw [hb] at hy2
    simp only [Body.year] at hy2
    simp [Body.groups, partsResult_Y, hc, min_maxInt hy2, Body.day, Body.word, Body.year]
  | MY M yz y =>
    rw [hb] at hy2
    simp only [Body.year] at hy2
    obtain ⟨m, ht⟩ := month_of_documented (h.month M (by rw [hb]; rfl))
    simp [Body.groups, partsResult_MY _ ht.word.solid, hc, min_maxInt hy2, Body.day, Body.word,
      Body.year, ht.month]
  | DMY dz d M yz y =>
    rw [hb] at hy2 hday
    simp only [Body.year] at hy2
    obtain ⟨m, ⟨hw, hm, hm1, _⟩⟩ := month_of_documented (h.month M (by rw [hb]; rfl))
    obtain ⟨hd1, hd2⟩ := hday m hm
    have hd31 : d ≤ 9999 := by have := dim_le_31 (isLeap y) m; omega
    have hcal : calendarOK d m y = true := by
      simp [calendarOK, hy2, hd1, hd2]; omega
    simp [Body.groups, partsResult_DMY _ _ _ hw.solid, hc, min_maxInt hy2,
      min_maxInt hd31, Body.day, Body.word, Body.year, hm, hcal]
  | ZMY dz M yz y => rw [hb] at hday; exact absurd hday (by simp)

theorem meaning_not_zero {x : Sentence} (h : Documented x) : (meaning x).isZero = false := by
  have := h.year.1
  simp [PDate.isZero, meaning]; omega

/-- **Every documented single-date form parses to its documented meaning.**
    For every sentence of the documented grammar — any listed keyword or none, in any letter
    case; year only, month + year or day + month + year; any listed month word in any letter
    case; every year 1..9999 and every day valid in its month, each with any number of leading
    zeros — written with any number of spaces around it and any number (at least one) between its
    tokens, both ends of the parsed range are exactly the written day, month, year and the
    keyword's constraint, and the range is valid. -/
theorem single_forms (x : Sentence) (hx : Documented x) (gt : List (Nat × Str)) (e : Nat)
    (htok : gt.map (·.2) = x.tokens) (hgap : GapsOK gt) :
    (parseDateRange (render gt e)).start = meaning x ∧
    (parseDateRange (render gt e)).end_ = meaning x ∧
    (parseDateRange (render gt e)).isValid = true := by
  rw [x.parse (wf_of_documented hx) ⟨gt, e, htok, hgap, rfl⟩, result_of_documented hx]
  exact ⟨rfl, rfl, by simp [DateRange.isValid, meaning_not_zero hx]⟩

theorem notAnd_of_documented {x : Sentence} (h : Documented x) :
    ∀ M, x.body.word = some M → NotAnd M := by
  intro M hM
  obtain ⟨_, ht⟩ := month_of_documented (h.month M hM)
  exact ht.notAnd

/-- **Every documented range form parses to its documented meaning.**
    `B X A Y` with `B` any listed between-word and `A` any listed and-word, each in any letter
    case, `X` and `Y` any two sentences of the documented single-date grammar (each with its own
    optional keyword), any admissible spacing: the start is exactly what `X` denotes, the end
    exactly what `Y` denotes, and the range is valid. -/
theorem range_forms (BW AW : Str)
    (hbw : ∃ k ∈ Generated.wordsBetween, CaseVariant k BW)
    (haw : ∃ k ∈ Generated.wordsAnd, CaseVariant k AW)
    (x1 x2 : Sentence) (h1 : Documented x1) (h2 : Documented x2)
    (gt : List (Nat × Str)) (e : Nat)
    (htok : gt.map (·.2) = BW :: x1.tokens ++ AW :: x2.tokens) (hgap : GapsOK gt) :
    (parseDateRange (render gt e)).start = meaning x1 ∧
    (parseDateRange (render gt e)).end_ = meaning x2 ∧
    (parseDateRange (render gt e)).isValid = true := by
  rw [range_parse x1 x2 (wf_of_documented h1) (wf_of_documented h2) (notAnd_of_documented h2)
    hbw haw ⟨gt, e, htok, hgap, rfl⟩,
    result_of_documented h1, result_of_documented h2]
  exact ⟨rfl, rfl, by simp [DateRange.isValid, meaning_not_zero h1, meaning_not_zero h2]⟩

/-! ## near misses are invalid -/

/-- a word the month position can hold: ASCII word characters, not starting with a digit -/
structure PlainWord (M : Str) : Prop where
  ne : M ≠ []
  word : ∀ b ∈ M, isWordB b = true
  head : ∀ m0 M', M = m0 :: M' → isDigitB m0 = false

theorem wordTok_of_plain {M : Str} (h : PlainWord M) : WordTok M := by
  refine ⟨h.word, ⟨h.ne, fun b hb => solidB_of_word (h.word b hb)⟩, ?_⟩
  cases hM : M with
  | nil => exact absurd hM h.ne
  | cons m0 M' =>
    exact ⟨m0, M', rfl, h.head m0 M' hM, ne32_of_solid (solidB_of_word (h.word m0 (by simp [hM])))⟩

/-- sentences that differ from the documented grammar in the day or in the month word; a word
    that opens the sentence must not be read as something else: no keyword is a prefix of it
    (`abtmar 1900` *is* read as `abt mar 1900`) and it is not a between-word -/
structure NearMiss (x : Sentence) : Prop where
  kw : ∀ T, x.kw = some T → ∃ k ∈ keywords, CaseVariant k T
  word : ∀ M, x.body.word = some M → PlainWord M
  first : x.kw = none → ∀ M yz y, x.body = .MY M yz y → NoKwPrefix M ∧ NotBetween M
  year : 1 ≤ Body.year x.body ∧ Body.year x.body ≤ 9999
  bad : match x.body with
        | .Y _ _ => False
        | .MY M _ _ => monthOfWord M = none
        | .DMY _ d M _ y =>
          1 ≤ d ∧ (monthOfWord M = none ∨ ∃ m, monthOfWord M = some m ∧ dim (isLeap y) m < (d : Int))
        | .ZMY _ _ _ _ => True

theorem wf_of_nearMiss {x : Sentence} (h : NearMiss x) : x.WF :=
  ⟨fun T hT => kwTok_of_documented (h.kw T hT), fun M hM => wordTok_of_plain (h.word M hM),
    fun hk M yz y hb => (h.first hk M yz y hb).1⟩

theorem result_of_nearMiss {x : Sentence} (h : NearMiss x) : x.result.isZero = true := by
  have hy2 := h.year.2
  have hbad := h.bad
  unfold Sentence.result
  cases hb : x.body with
  | Y yz y => rw [hb] at hbad; exact absurd hbad (by simp)
  | MY M yz y =>
    rw [hb] at hbad; simp only at hbad
    have hw := wordTok_of_plain (h.word M (by rw [hb]; rfl))
    simp [Body.groups, partsResult_MY _ hw.solid, hbad, failed_isZero]
  | DMY dz d M yz y =>
    rw [hb] at hbad hy2; simp only [Body.year] at hy2; simp only at hbad
    obtain ⟨hd1, hbad⟩ := hbad
    have hw := wordTok_of_plain (h.word M (by rw [hb]; rfl))
    rcases hbad with hm | ⟨m, hm, hd⟩
    · simp [Body.groups, partsResult_DMY _ _ _ hw.solid, hm, failed_isZero]
    · have hcal : calendarOK (min d maxInt) m (min y maxInt) = false := by
        rw [min_maxInt hy2]
        have h31 := dim_le_31 (isLeap y) m
        have : (dim (isLeap (y : Int)) m) < ((min d maxInt : Nat) : Int) := by
          unfold maxInt; omega
        simp [calendarOK]; intro _ _ _; omega
      simp [Body.groups, partsResult_DMY _ _ _ hw.solid, hm, hcal, failed_isZero]
  | ZMY dz M yz y =>
    simp [Body.groups, partsResult_ZMY, failed_isZero]

/-- **Calendar-impossible days and unknown month words are reported as invalid.**
    A sentence that is documented except that its day is 0 (any number of zeros) or larger than
    the number of days of its month in its year (30/31 in short months, 29 February outside leap
    years, 32 …, of any size), or whose month position holds a word that is not a listed month
    word (with or without a day, with or without keyword), does not parse to a valid date —
    for every letter case, spacing and numeric value. -/
theorem rejects (x : Sentence) (hx : NearMiss x) (gt : List (Nat × Str)) (e : Nat)
    (htok : gt.map (·.2) = x.tokens) (hgap : GapsOK gt) :
    (parseDateRange (render gt e)).isValid = false := by
  rw [x.parse (wf_of_nearMiss hx) ⟨gt, e, htok, hgap, rfl⟩]
  simp [DateRange.isValid, result_of_nearMiss hx]

/-- **A value without a final number is invalid — for every byte string.**  Whatever the value,
    if after `CleanSpace` it does not end in a digit (missing year: `5 Mar`, `abt`, `Mar`;
    trailing words: `5 Mar 1900 AD`, `1900 or so`; phrases; the empty string), neither the range
    pattern nor the date pattern can give it a year at the end, and the range is invalid. -/
theorem rejects_no_final_digit (s : Str) (h : endsWithDigit (cleanSpace s) = false) :
    (parseDateRange s).isValid = false := parseDateRange_no_digit h

/-- the same for token sequences in any admissible spacing: if the last token does not end in a
    digit — a sentence whose year is missing, or with trailing text — the value is invalid -/
theorem rejects_no_final_number (gt : List (Nat × Str)) (e : Nat) (hgap : GapsOK gt)
    (hs : ∀ p ∈ gt, Solid p.2)
    (hlast : ∀ p, gt.getLast? = some p → endsWithDigit p.2 = false) :
    (parseDateRange (render gt e)).isValid = false := by
  apply rejects_no_final_digit
  rw [cleanSpace_render gt e hgap (List.forall_mem_map.mpr hs)]
  have hne : gt ≠ [] := by intro e'; rw [e'] at hgap; exact hgap
  obtain ⟨p, hp⟩ : ∃ p, gt.getLast? = some p := ⟨gt.getLast hne, List.getLast?_eq_some_getLast hne⟩
  have hl : (gt.map (·.2)).getLast? = some p.2 := by simp [List.getLast?_map, hp]
  obtain ⟨pre, e1⟩ := joinSp_last hl
  rw [e1, endsWithDigit_append pre (hs p (List.mem_of_getLast? hp)).1]
  exact hlast p hp

/-- **A near miss at either end invalidates a range.**  `B X A Y` where `X` and `Y` are each a
    documented sentence or a near miss (day 0 / beyond the month / unknown month word) and at
    least one of them is a near miss — provided the month-position word of `Y` is not itself an
    and-word — is not a valid range. -/
theorem rejects_in_range (BW AW : Str)
    (hbw : ∃ k ∈ Generated.wordsBetween, CaseVariant k BW)
    (haw : ∃ k ∈ Generated.wordsAnd, CaseVariant k AW)
    (x1 x2 : Sentence) (h1 : Documented x1 ∨ NearMiss x1) (h2 : Documented x2 ∨ NearMiss x2)
    (hbad : NearMiss x1 ∨ NearMiss x2) (hword : ∀ M, x2.body.word = some M → NotAnd M)
    (gt : List (Nat × Str)) (e : Nat)
    (htok : gt.map (·.2) = BW :: x1.tokens ++ AW :: x2.tokens) (hgap : GapsOK gt) :
    (parseDateRange (render gt e)).isValid = false := by
  have wf1 : x1.WF := h1.elim wf_of_documented wf_of_nearMiss
  have wf2 : x2.WF := h2.elim wf_of_documented wf_of_nearMiss
  rw [range_parse x1 x2 wf1 wf2 hword hbw haw ⟨gt, e, htok, hgap, rfl⟩]
  rcases hbad with hb | hb <;> simp [DateRange.isValid, result_of_nearMiss hb]

/-! ## printing and parsing back -/

theorem is_self (d : PDate) : d.is d = true := by simp [PDate.is]

/-- **Printing gives the canonical spelling.**  A documented single-date sentence, however it was
    written, is printed by both `DateRange.String` and `DateNode.String` as its canonical
    sentence: `Abt.`/`Aft.`/`Bef.` (as `DateConstraint.String` spells the constraint) or nothing,
    day without leading zeros, the month as `Date.String` abbreviates it, the year without leading
    zeros, single spaces. -/
theorem prints_canonical (x : Sentence) (hx : Documented x) (gt : List (Nat × Str)) (e : Nat)
    (htok : gt.map (·.2) = x.tokens) (hgap : GapsOK gt) :
    (parseDateRange (render gt e)).toString = (canon (meaning x)).str ∧
    dateNodeToString (parseDateRange (render gt e)) = (canon (meaning x)).str := by
  obtain ⟨h1, h2, hv⟩ := single_forms x hx gt e htok hgap
  obtain ⟨hp, _⟩ := parsed_of_valid hv
  rw [h1] at hp
  have hy : 1 ≤ (meaning x).year := hx.year.1
  unfold DateRange.toString dateNodeToString
  rw [h1, h2]
  rw [if_pos (is_self _), toString_eq hp hy]
  exact ⟨rfl, rfl⟩

/-- **`DateNode.String` round trip.**  For *every* string `s` whatsoever whose parse is valid and
    has a year at both ends (years 1.. — the documented domain; `Mar 0` is accepted by the code
    and prints as `Mar`): parsing what `DateNode.String` prints gives back exactly the same
    start and end dates (day, month, year, constraint). -/
theorem canonical_node (s : Str) (hv : (parseDateRange s).isValid = true)
    (hy1 : 1 ≤ (parseDateRange s).start.year) (hy2 : 1 ≤ (parseDateRange s).end_.year) :
    (parseDateRange (dateNodeToString (parseDateRange s))).start = (parseDateRange s).start ∧
    (parseDateRange (dateNodeToString (parseDateRange s))).end_ = (parseDateRange s).end_ := by
  obtain ⟨hp1, hp2⟩ := parsed_of_valid hv
  exact parse_dateNodeToString hp1 hp2 hy1 hy2

/-- **`DateRange.String` round trip.**  For *every* string `s` whatsoever whose parse is valid and
    has a year at both ends: parsing what `DateRange.String` prints gives back exactly the same
    start and end dates (day, month, year, constraint).  No guard: since the repair
    (fixes/C04-range-string-uses-is.patch) `DateRange.String` prints one date only when both ends
    are the same date. -/
theorem canonical (s : Str) (hv : (parseDateRange s).isValid = true)
    (hy1 : 1 ≤ (parseDateRange s).start.year) (hy2 : 1 ≤ (parseDateRange s).end_.year) :
    (parseDateRange (parseDateRange s).toString).start = (parseDateRange s).start ∧
    (parseDateRange (parseDateRange s).toString).end_ = (parseDateRange s).end_ :=
  -- `DateRange.toString` and `dateNodeToString` have the same body
  canonical_node s hv hy1 hy2

/-- `DateRange.String` as it was *before* the repair: "one date or two" decided with the
    constraint-aware `Equals`.  Not part of the model; kept only for the regression witness below. -/
def toStringOld (r : DateRange) : Str :=
  if r.start.equals r.end_ then r.start.toString else rangeText r.start r.end_

/-- **Regression witness (old rule, not the code any more).**  With the old `Equals` test the valid
    forward range `bet Aft. 1850 and 1900` printed as `Aft. 1850`, which parses to a range ending
    at `Aft. 1850` instead of `1900`; the repaired printer gives both ends and `canonical` applies.
    The harness replays the same sentence on the implementation, so reverting the repair is
    reported with this input. -/
theorem canonical_old_rule_witness :
    (parseDateRange (lit "bet Aft. 1850 and 1900")).isValid = true ∧
    toStringOld (parseDateRange (lit "bet Aft. 1850 and 1900")) = lit "Aft. 1850" ∧
    (parseDateRange (toStringOld (parseDateRange (lit "bet Aft. 1850 and 1900")))).end_ ≠
      (parseDateRange (lit "bet Aft. 1850 and 1900")).end_ ∧
    (parseDateRange (lit "bet Aft. 1850 and 1900")).toString = lit "Bet. Aft. 1850 and 1900" := by
  repeat rw [lit_ofList]
  decide +kernel

/-- spacing is unbounded since the repair fixes/C04-cleanspace-all-runs.patch (`CleanSpace` repeats
    its pass until no double space is left; with the former two passes a run of five spaces was
    left at two and `abt     1900` was invalid) — a concrete instance of `single_forms`, by
    evaluation -/
example : (parseDateRange (lit "abt     1900")).start = ⟨0, 0, 1900, .about, false⟩ ∧
    (parseDateRange (lit "  bet   1850             and     Bef.      3  Sep   1900   ")).end_ =
      ⟨3, 9, 1900, .before, false⟩ := by
  repeat rw [lit_ofList]
  decide +kernel

/-! ## non-vacuity: concrete sentences that meet the hypotheses (tests, not properties) -/

/-- `aBt.   07  MARCH 0089 ` -/
def ex1 : Sentence := ⟨some (lit "aBt."), .DMY 1 7 (lit "MARCH") 2 89⟩

theorem ex1_documented : Documented ex1 where
  kw := by
    intro T hT
    injection hT with hT
    subst hT
    exact ⟨lit "Abt.", by decide +kernel, by decide +kernel⟩
  month := by
    intro M hM; injection hM with hM; subst hM
    exact ⟨(lit "march", 3), by decide +kernel, by decide +kernel⟩
  year := by decide
  day := by
    show ∀ m, monthOfWord (lit "MARCH") = some m → 1 ≤ 7 ∧ ((7 : Nat) : Int) ≤ dim (isLeap ((89 : Nat) : Int)) m
    intro m hm
    have : monthOfWord (lit "MARCH") = some 3 := by decide +kernel
    rw [this] at hm; injection hm with hm; subst hm; decide

example : ex1.tokens = [lit "aBt.", lit "07", lit "MARCH", lit "0089"] := by decide +kernel
example : meaning ex1 = ⟨7, 3, 89, .about, false⟩ := by decide +kernel
example : (canon (meaning ex1)).str = lit "Abt. 7 Mar 89" := by
  repeat rw [lit_ofList]
  decide +kernel
/-- the general theorem instantiated, and the same fact by direct evaluation of the model -/
example :
    (parseDateRange (render [(2, lit "aBt."), (3, lit "07"), (2, lit "MARCH"), (1, lit "0089")] 1)).start
      = ⟨7, 3, 89, .about, false⟩ :=
  (single_forms ex1 ex1_documented _ 1 (by decide +kernel) (by simp [GapsOK])).1
example : parseDateRange (lit "  aBt.   07  MARCH 0089 ") =
    ⟨⟨7, 3, 89, .about, false⟩, ⟨7, 3, 89, .about, false⟩, lit "  aBt.   07  MARCH 0089 "⟩ := by
  repeat rw [lit_ofList]
  decide +kernel

/-- `31 apr 1900`: a near miss (April has 30 days) -/
def ex2 : Sentence := ⟨none, .DMY 0 31 (lit "apr") 0 1900⟩
theorem ex2_nearMiss : NearMiss ex2 where
  kw := by intro T hT; cases hT
  word := by
    intro M hM; injection hM with hM; subst hM
    exact ⟨by decide, by decide, by intro m0 M' h; injection h with h _; subst h; decide⟩
  first := by intro _ M yz y h; cases h
  year := by decide
  bad := by
    show 1 ≤ 31 ∧ (monthOfWord (lit "apr") = none ∨
      ∃ m, monthOfWord (lit "apr") = some m ∧ dim (isLeap ((1900 : Nat) : Int)) m < ((31 : Nat) : Int))
    exact ⟨by decide, Or.inr ⟨4, by decide, by decide⟩⟩
example : (parseDateRange (lit "31 apr 1900")).isValid = false := by
  repeat rw [lit_ofList]
  decide +kernel
example : (parseDateRange (lit "29 Feb 1900")).isValid = false ∧
    (parseDateRange (lit "29 Feb 2000")).isValid = true ∧
    (parseDateRange (lit "Foo 1850")).isValid = false ∧
    (parseDateRange (lit "5 Mar")).isValid = false := by
  repeat rw [lit_ofList]
  decide +kernel

/-- ranges, the repaired keyword forms of defect 4, and the round trip on a concrete value -/
example : parseDateRange (lit "FROM bef 3 Sep 1850 TO circa 1900") =
    ⟨⟨3, 9, 1850, .before, false⟩, ⟨0, 0, 1900, .about, false⟩, lit "FROM bef 3 Sep 1850 TO circa 1900"⟩ := by
  repeat rw [lit_ofList]
  decide +kernel
example : (parseDateRange (lit "abt 1983")).start = ⟨0, 0, 1983, .about, false⟩ ∧
    (parseDateRange (lit "BEF 1900")).start = ⟨0, 0, 1900, .before, false⟩ ∧
    (parseDateRange (lit "after 1850")).start = ⟨0, 0, 1850, .after, false⟩ := by
  repeat rw [lit_ofList]
  decide +kernel
example : dateNodeToString (parseDateRange (lit "FROM bef 3 Sep 1850 TO circa 1900")) =
    lit "Bet. Bef. 3 Sep 1850 and Abt. 1900" := by
  repeat rw [lit_ofList]
  decide +kernel

end Gedcom.C04

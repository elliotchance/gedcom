/-
  C04 — the model is the source: the decision logic of date.go, translated from the
  Go syntax tree on every run (Generated/DateLogic.lean, harness/extract_datelogic.go), interpreted
  by Model/DateLogic.lean, equals the hand-written model for all inputs.  The property theorems,
  with the lemmas that serve only them.
-/
import Gedcom.Generated.DateLogic
import Gedcom.Lemmas.DateGrammar
namespace Gedcom.C04
open Gedcom Gedcom.DateLogic

/-- **The translated pieces are inside the fragment** (a statement, condition, field, table
    entry or matrix cell the translator does not recognise becomes `.bad` / `none`): the `months`
    literal was read completely; every statement of `parseDateParts` and `parseMonthName` was
    recognised, the group positions are 1..4 in the order keyword, day, month, year, the calendar
    check is `time.Parse("_2 1 2006", Sprintf("%d %d %04d", day, month, year))`; `Date.Equals` is
    the three guards, a 4×4 matrix of `equalsA..D` and the indexed call; `equalsB`/`equalsC`
    compare the receiver's `Years()` with the argument's. -/
theorem source_in_fragment :
    Generated.monthsSrc.isSome = true ∧
    Generated.parseSteps.all Stmt.ok = true ∧
    (Generated.monthNameSteps.all (· != .bad)) = true ∧
    (Generated.equalsSteps.all (· != .bad)) = true ∧
    ((Generated.equalsMatrix.getD []).length = 4 ∧
      (Generated.equalsMatrix.getD []).all (fun r => r.length == 4 && r.all (· != .bad)) = true) ∧
    Generated.equalsIndex.isSome = true ∧
    Generated.equalsBCmp.isSome = true ∧ Generated.equalsCCmp.isSome = true := by decide +kernel

/-! ## the month table -/

def monthsTable : List (Str × Nat) := Generated.monthsSrc.getD []

theorem lookup_ext {l1 l2 : List (Str × Nat)}
    (h1 : ∀ e ∈ l1, l1.lookup e.1 = l2.lookup e.1) (h2 : ∀ e ∈ l2, l1.lookup e.1 = l2.lookup e.1)
    (w : Str) : l1.lookup w = l2.lookup w := by
  by_cases k1 : ∃ e ∈ l1, e.1 = w
  · obtain ⟨e, he, rfl⟩ := k1; exact h1 e he
  · by_cases k2 : ∃ e ∈ l2, e.1 = w
    · obtain ⟨e, he, rfl⟩ := k2; exact h2 e he
    · rw [List.lookup_eq_none_iff.mpr fun e he => bne_iff_ne.mpr fun hw => k1 ⟨e, he, hw.symm⟩,
        List.lookup_eq_none_iff.mpr fun e he => bne_iff_ne.mpr fun hw => k2 ⟨e, he, hw.symm⟩]

/-- **The model's month table is the `months` literal of date.go** — for every word, not only for
    the candidate words the behavioural probe tries: looking a word up in the translated literal
    gives what the model's `monthOf` (the probed table) gives. -/
theorem months_source_is_table (w : Str) : monthsTable.lookup w = monthOf w := by
  unfold monthOf
  -- every key of the literal, then every key of the probed table: the same value in both
  exact lookup_ext (by decide +kernel) (by decide +kernel) w

/-! ## `parseDateParts` -/

def initial (p : Option DateParts) : St := { parts := p }

/-- interpreting the translated statements of `parseDateParts` (with the translated table and the
    translated `parseMonthName`) on the capture groups -/
def sourceParts (p : Option DateParts) : PDate :=
  run monthsTable Generated.monthNameSteps Generated.parseSteps (initial p)

/-- **`parseDateParts` is its source, statement by statement**: for every outcome of the pattern
    match — no match, or any four groups — running the translated statements in source order
    (numbers from `Atoi` of the day and year groups, month by table lookup of the cleaned
    lower-cased month group, the calendar check, first the rejection "day written and calendar
    check failed", then the rejection "month word written and not in the table", then the date)
    gives exactly the model's result. -/
theorem parse_steps_are_the_model (p : Option DateParts) :
    sourceParts p = (match p with | none => PDate.failed .exact | some q => partsResult q) := by
  cases p with
  | none => rfl
  | some q =>
    simp only [sourceParts, Generated.parseSteps, Generated.monthNameSteps, run, initial, evalCond,
      runMonthName, St.grp, mkDate, zeroDate, srcNat, Stmt.ok, Option.isNone_some, Option.map_some,
      Option.getD_some, months_source_is_table, partsResult, Bool.false_eq_true, if_false,
      beq_self_eq_true, Bool.true_and, Option.not_isSome]
    -- what is left differs in the first rejection only: the source returns `err` as the error
    -- flag, and `err` is set on that path
    by_cases h : (!q.day.isEmpty && !calendarOK (atoi q.day)
        ((monthOf (cleanSpace (lowerStr q.month))).getD 0) (atoi q.year)) = true
    · rw [if_pos h, if_pos h, (Bool.and_eq_true_iff.mp h).2]
      rfl
    · rw [if_neg h, if_neg h]
      rfl

/-- the same at the level of strings: the model's `parseDateParts` is the translated source run
    on the model's pattern match -/
theorem parseDateParts_is_the_source (s : Str) : parseDateParts s = sourceParts (matchDate s) := by
  rw [parse_steps_are_the_model]
  cases h : matchDate s with
  | none => exact parseDateParts_of_no_match h
  | some q => exact parseDateParts_of_match h

/-! ## `Date.Equals` -/

def sourceEquals (recv arg : PDate) : Bool :=
  runEquals (Generated.equalsMatrix.getD []) (Generated.equalsIndex.getD (.receiver, .receiver, .receiver, .receiver))
    (Generated.equalsBCmp.getD .receiverLess) (Generated.equalsCCmp.getD .receiverLess)
    Generated.equalsSteps recv arg

/-- **`Date.Equals` is its source**: the two zero guards, the `Is` shortcut, then the cell of the
    translated 4×4 literal selected by (argument's constraint, receiver's constraint) and called
    on (receiver, argument), with `equalsB` = "receiver's Years greater" and `equalsC` = "receiver's
    Years less", is the model's `PDate.equals` for all pairs of dates. -/
theorem equals_is_the_source (recv arg : PDate) : sourceEquals recv arg = recv.equals arg := by
  unfold sourceEquals PDate.equals
  simp only [Generated.equalsSteps, Generated.equalsMatrix, Generated.equalsIndex,
    Generated.equalsBCmp, Generated.equalsCCmp, runEquals, pick, Option.getD_some]
  by_cases hz1 : recv.isZero = true
  · simp only [hz1, Bool.true_or, if_true]
  · by_cases hz2 : arg.isZero = true
    · simp only [hz1, hz2, Bool.or_true, if_true, Bool.false_eq_true, if_false]
    · simp only [hz1, hz2, Bool.or_self, Bool.false_eq_true, if_false]
      -- the sixteen cells of the translated literal against the sixteen arms of the model
      generalize arg.constraint = ca
      generalize recv.constraint = cr
      cases ca <;> cases cr <;> rfl

end Gedcom.C04

/-
  C10 — the decisions of the document merge are the source's.
  `Gedcom.Generated.srcMergeCases` / `srcMergeDocsProg` (Generated/MergeSrc.lean) are the go/ast
  translation of the `switch` of `IndividualNodes.Merge` and of the statements of
  `MergeDocumentsAndIndividuals` (harness/extract_mergesrc.go).  Here:
  (1) everything translated lies inside the fragment (`merge_source_in_fragment`, by `decide`);
  (2) interpreting it is the hand-written model: one step of `MergeD.mergeIndis`
      (`merge_step_is_the_source`), the whole of `MergeD.mergeDocs` with the order of its output
      (`merge_docs_is_the_source`), and the constructors of `MergeG.M` (`mergeOne_follows_source`).
-/
import Gedcom.Model.MergeDocs
import Gedcom.Model.MergeGraph
import Gedcom.Generated.MergeSrc
namespace Gedcom.C10
open Gedcom.Match Gedcom.MergeD Gedcom.MergeSrc

/-- Obligation: the translator recognised every statement of the
    two functions, every case condition and every case body. -/
theorem merge_source_in_fragment :
    Generated.srcMergeShape = true ∧
    Generated.srcMergeCases.all (fun c => c.cond.ok && c.act != .bad) = true ∧
    Generated.srcMergeDocsProg.shape = true ∧
    (Generated.srcMergeDocsProg.mergeRecv.ok && Generated.srcMergeDocsProg.mergeArg.ok &&
     Generated.srcMergeDocsProg.sliceLeft.ok && Generated.srcMergeDocsProg.sliceRight.ok) = true ∧
    Generated.srcMergeDocsProg.output.all (· != .bad) = true := by decide +kernel

/-- what the source does with a comparison: the first case of the switch that applies -/
def srcAction (c : Res) : Option Action := choose Generated.srcMergeCases c.1.isSome c.2.isSome

/-- one iteration of the loop, given what the switch chose (the bodies of the three kinds of case
    as the model has them; an `Action` applied to a comparison it cannot apply to does nothing) -/
def stepBy (L R : List INode) (rest : List Res) (st : MSt) : Option Action → Res → IndisOutcome
  | some .mergeNodes, (some a, some b) =>
    match byId L a, byId R b with
    | some l, some r =>
      match mergeNodes codeFlags l r st with
      | .ok m st' => (mergeIndis L R rest st').cons (some a, some b) m
      | .error => .error
      | .panic => .panic
      | .outOfFuel => .outOfFuel
    | _, _ => mergeIndis L R rest st
  | some .keepLeft, (some a, x) =>
    match byId L a with
    | some l => (mergeIndis L R rest st).cons (some a, x) l
    | none => mergeIndis L R rest st
  | some .keepRight, (x, some b) =>
    match byId R b with
    | some r => (mergeIndis L R rest st).cons (x, some b) r
    | none => mergeIndis L R rest st
  | _, _ => mergeIndis L R rest st

/-- the decision in the record-level model: its three constructors are the three cases -/
theorem mergeOne_follows_source :
    choose Generated.srcMergeCases true true = some .mergeNodes ∧      -- `MergeG.M.both`
    choose Generated.srcMergeCases true false = some .keepLeft ∧       -- `MergeG.M.left`
    choose Generated.srcMergeCases false true = some .keepRight ∧      -- `MergeG.M.right`
    choose Generated.srcMergeCases false false = none := by decide +kernel

/-- For every comparison, what the model's loop does is what the
    translated switch chooses — both present: `MergeNodes` (errors propagate); only left / only
    right: kept as is; neither: no case runs — in the source's case order. -/
theorem merge_step_is_the_source (L R : List INode) (c : Res) (rest : List Res) (st : MSt) :
    mergeIndis L R (c :: rest) st = stepBy L R rest st (srcAction c) c := by
  -- the four shapes of a comparison: in each, the translated switch evaluates to the model's branch
  obtain ⟨a, b⟩ := c
  cases a <;> cases b <;> rfl

def pick (p : Part) (Ld Rd : List INode) : List INode :=
  let d := match p.side with | .left => Ld | .right => Rd | .bad => []
  match p.sel with
  | .individuals => indisOf d
  | .nonIndividuals => othersOf d
  | .bad => []

/-- the translated function, interpreted: the nodes of the output document in order -/
def srcMergeDocs (p : Prog) (res : List Res) (Ld Rd : List INode) (st : MSt) : Option (List Node) :=
  match mergeIndis (pick p.mergeRecv Ld Rd) (pick p.mergeArg Ld Rd) res st with
  | .ok out st' =>
    let lo := pick p.sliceLeft Ld Rd
    let ro := pick p.sliceRight Ld Rd
    match mergeNodeSlicesO codeFlags (eqMergeF codeFlags (mergeFuel lo ro)) lo ro st' with
    | .ok es _ =>
      some (p.output.flatMap fun
        | .mergedIndividuals => eraseList (out.map (·.2))
        | .mergedOther => eraseList (es.map (·.node))
        | .bad => [])
    | _ => none
  | _ => none

/-- The model of `MergeDocumentsAndIndividuals` — individuals of
    the left merged with individuals of the right, non-individuals of the left with non-individuals
    of the right, merged individuals first and the other records after them — is the translated
    source, for all inputs. -/
theorem merge_docs_is_the_source (res : List Res) (Ld Rd : List INode) (st : MSt) :
    (mergeDocs res Ld Rd st).nodes = srcMergeDocs Generated.srcMergeDocsProg res Ld Rd st := by
  -- what the four translated parts select
  have e1 : pick Generated.srcMergeDocsProg.mergeRecv Ld Rd = indisOf Ld := rfl
  have e2 : pick Generated.srcMergeDocsProg.mergeArg Ld Rd = indisOf Rd := rfl
  have e3 : pick Generated.srcMergeDocsProg.sliceLeft Ld Rd = othersOf Ld := rfl
  have e4 : pick Generated.srcMergeDocsProg.sliceRight Ld Rd = othersOf Rd := rfl
  unfold mergeDocs srcMergeDocs
  rw [e1, e2, e3, e4]
  cases mergeIndis (indisOf Ld) (indisOf Rd) res st with
  | ok out st' =>
    dsimp only
    cases mergeNodeSlicesO codeFlags (eqMergeF codeFlags (mergeFuel (othersOf Ld) (othersOf Rd)))
      (othersOf Ld) (othersOf Rd) st' with
    | ok es s => simp [DocOutcome.nodes, Generated.srcMergeDocsProg]
    | panic => rfl
    | outOfFuel => rfl
  | error => rfl
  | panic => rfl
  | outOfFuel => rfl

end Gedcom.C10

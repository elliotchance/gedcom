/-
  C20 — the conditions of the warning rules are the source's.
  `Gedcom.Generated.src*` (Generated/WarningsSrc.lean) is the go/ast translation of the `if`
  conditions of siblingsBornTooCloseWarnings, appendMarriedOutOfRange, tooOldWarnings and
  childrenBornBeforeParentsWarnings (harness/extract_warningssrc.go).  Here:
  (1) everything translated lies inside the fragment (`warnings_source_in_fragment`, by `decide`:
      no `.bad`, the statement shapes were recognised, the two windows agree with the behavioural
      probe of Generated/Warnings.lean);
  (2) interpreting the translated conditions in source order is the hand-written model
      (Gedcom/Model/Warnings.lean) for all documents, families, people and ages.
-/
import Gedcom.Model.Warnings
import Gedcom.Generated.WarningsSrc
namespace Gedcom.C20
open Gedcom.Warn Gedcom.WarnSrc

/-- the constants the conditions refer to: the two windows as written in the source, the exported
    constants of Generated/Warnings.lean -/
def srcConsts : Consts :=
  ⟨Generated.srcNineMonthsDays * nsPerDay, Generated.srcTwoDaysDays * nsPerDay, Generated.yearNs,
   Generated.minMarriageAge, Generated.maxMarriageAge, Generated.maxLivingAge⟩

/-- Obligation: the translator recognised every statement and
    expression it is responsible for, and the windows written in the source are the ones the
    behavioural probe measured. -/
theorem warnings_source_in_fragment :
    Generated.srcSiblingShape = true ∧ Generated.srcMarriedShape = true ∧
    Generated.srcTooOldShape = true ∧ Generated.srcCbbpShape = true ∧
    (Generated.srcSiblingOuterSkips ++ Generated.srcSiblingInnerSkips ++ Generated.srcCbbpSkips ++
      [Generated.srcSiblingReport, Generated.srcMarriedYoung, Generated.srcMarriedOld, Generated.srcTooOld] ++
      Generated.srcCbbpReports.map (·.1)).all Cond.ok = true ∧
    Generated.srcCbbpReports.map (·.2) = [Parent.husb, Parent.wife] ∧
    Generated.srcNineMonthsDays = Generated.siblingMaxDays ∧
    Generated.srcTwoDaysDays = Generated.siblingMinDays := by decide

/-- what the Go code has in scope for the pair `(child1, child2)` -/
def sibEnv (d : Doc) (c1 c2 : Nat) : Env :=
  let b1 := birthOf (indiOf d c1)
  let b2 := birthOf (indiOf d c2)
  { dur1 := dateSub (endI b1) (startI b1), dur2 := dateSub (endI b2) (startI b2),
    mn := dateSub (startI b1) (startI b2), mx := dateSub (endI b1) (endI b2),
    same := sameIndi (indiOf d c1) (indiOf d c2), subErr := subErr b1 b2 }

/-- the source, interpreted: no `continue` of the outer loop, none of the inner loop, and the
    report test -/
def srcSiblingHit (e : Env) : Bool :=
  passes srcConsts e Generated.srcSiblingOuterSkips && passes srcConsts e Generated.srcSiblingInnerSkips &&
    Generated.srcSiblingReport.eval srcConsts e

/-- The model's test for a sibling pair (the twin window `<`, the
    nine-month window `<` / `>=`, their `||` / skip-chain structure and order) is the translated
    source, for every document and pair of children. -/
theorem sibling_hit_is_the_source (d : Doc) (c1 c2 : Nat) :
    siblingHit d c1 c2 = srcSiblingHit (sibEnv d c1 c2) := by
  simp only [siblingHit, srcSiblingHit, passes, sibEnv, srcConsts, Generated.srcSiblingOuterSkips,
    Generated.srcSiblingInnerSkips, Generated.srcSiblingReport, Generated.srcNineMonthsDays,
    Generated.srcTwoDaysDays, Cond.eval, Num.eval, Cmp.eval, Flag.eval, List.all_cons, List.all_nil,
    nineMonths, twoDays, Generated.siblingMaxDays, Generated.siblingMinDays, Int.mul_one,
    Bool.and_true, Bool.and_assoc, ge_iff_le]
  rfl

def ageEnv (a : Ages) : Env := { ageNs := a.hi, ageKnown := a.known }

/-- `appendMarriedOutOfRange` — "young" iff the age is known and
    `Years() < DefaultMinMarriageAge`, then "old" iff `Years() > DefaultMaxMarriageAge` — for every
    age. -/
theorem married_check_is_the_source (fam k : Nat) (a : Ages) (spouse : Nat) :
    marriedCheck fam k a spouse =
      (if Generated.srcMarriedYoung.eval srcConsts (ageEnv a) then [Warning.marriedOutOfRange fam spouse false k] else []) ++
      (if Generated.srcMarriedOld.eval srcConsts (ageEnv a) then [Warning.marriedOutOfRange fam spouse true k] else []) := by
  simp only [marriedCheck, Generated.srcMarriedYoung, Generated.srcMarriedOld, Cond.eval, Num.eval,
    Cmp.eval, Flag.eval, ageEnv, srcConsts, Int.mul_one, gt_iff_lt, decide_eq_true_eq]

/-- `tooOldWarnings` — `max.Years() > DefaultMaxLivingAge &&
    estimatedDeathDate != nil` — for every individual and date. -/
theorem too_old_is_the_source (i : Indi) (now : Date) :
    tooOld i now =
      if Generated.srcTooOld.eval srcConsts { ageNs := (ageNow i now).hi, deathKnown := (estDeath i).isSome }
      then [Warning.individualTooOld i.ptr] else [] := by
  simp only [tooOld, Generated.srcTooOld, Cond.eval, Num.eval, Cmp.eval, Flag.eval, srcConsts,
    Int.mul_one, gt_iff_lt]

def cbbpEnv (d : Doc) (f : Fam) (c : Nat) : Env :=
  let fb := birthOf (f.husb.bind (indiOf d))
  let mb := birthOf (f.wife.bind (indiOf d))
  let cb := birthOf (indiOf d c)
  { childValid := validO cb, fatherValid := validO fb, motherValid := validO mb,
    childBeforeFather := yearsLtV cb fb, childBeforeMother := yearsLtV cb mb }

def parentPtr (f : Fam) : Parent → Nat
  | .husb => f.husb.getD 0
  | .wife => f.wife.getD 0
  | .bad => 0

/-- the loop body of the source, interpreted: skip tests, then one `if` per parent in source order -/
def srcCbbpChild (d : Doc) (f : Fam) (c : Nat) : List Warning :=
  if passes srcConsts (cbbpEnv d f c) Generated.srcCbbpSkips then
    Generated.srcCbbpReports.flatMap fun r =>
      if r.1.eval srcConsts (cbbpEnv d f c) then [Warning.childBornBeforeParent f.ptr (parentPtr f r.2) c] else []
  else []

/-- The loop of `childrenBornBeforeParentsWarnings` (child without a valid
    birth skipped; father test and warning, then mother test and warning) is the translated source,
    for every document and family. -/
theorem cbbp_is_the_source (d : Doc) (f : Fam) :
    childrenBornBeforeParentsRaw d f = f.chil.flatMap (srcCbbpChild d f) := by
  simp only [childrenBornBeforeParentsRaw]
  congr 1
  funext c
  simp only [srcCbbpChild, passes, Generated.srcCbbpSkips, Generated.srcCbbpReports, cbbpEnv,
    Cond.eval, Flag.eval, List.all_cons, List.all_nil, Bool.and_true, Bool.not_not,
    List.flatMap_cons, List.flatMap_nil, List.append_nil, parentPtr]
  cases validO (birthOf (indiOf d c)) <;> simp

end Gedcom.C20

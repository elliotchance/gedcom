/-
  C20 on general dates — the `*_sound_complete` theorems of Props/C20.lean without the `ExactDates`
  guard: DATE values of every shape C04's `parseDateRange` produces (month / year precision,
  Abt. / Bef. / Aft., `Bet. … and …` ranges, half-parsed ranges) as the driver classifies them
  (`DateV.ok` / `.bad` / `.gen`).

  The specification reads a DATE value `x` through four views only:
    * `x.valid`            — neither end is the zero date (`DateRange.IsValid`);
    * `x.parseErr`         — an end carries a parse error;
    * `dayS x`, `dayE x`   — civil day number of the first day of the start date and of the last day
                             of the end date (`dayS_gen` / `dayE_gen`: C05's `firstDay` / `lastDay`);
    * `sYears x`, `eYears x`, `midYears x` — `Years()` of the start date, of the end date and of the
                             range (their mean) as exact fractions (numerator, positive denominator),
                             compared by cross-multiplication as C05 does.
  About `Gedcom.Warn.warnings` (the function the driver runs).
-/
import Gedcom.Props.C20
namespace Gedcom.C20
open Gedcom.Warn

/-- the start `Years()` of an exact day is C05's fraction; of a general date that of its start -/
theorem sYears_ok (t : Date) : sYears (.ok t) = ((t.year : Int) * t.yearsDen + t.yearsNum, t.yearsDen) := rfl
theorem sYears_gen (l : Nat) (s e : PDate) : sYears (.gen l s e) = s.yearsFrac := rfl
theorem eYears_gen (l : Nat) (s e : PDate) : eYears (.gen l s e) = e.yearsFrac := rfl

/-- what the walk collects before the document-level pair set, family by family -/
theorem raw_child_born_before_parent_general (d : Doc) (now : Date) (fp p c : Nat) :
    Warning.childBornBeforeParent fp p c ∈ rawWarnings d now ↔
      ∃ f, Rec.fam f ∈ d ∧ f.ptr = fp ∧ c ∈ f.chil ∧ (f.husb = some p ∨ f.wife = some p) ∧
        ∃ xc xp, birthOf (indiOf d c) = some xc ∧ birthOf (indiOf d p) = some xp ∧
          xc.valid = true ∧ xp.valid = true ∧ FracLt (sYears xc) (sYears xp) := by
  rw [← bornBefore_general]
  exact rawWarnings_cbbp_iff

/-- **ChildBornBeforeParent, general dates** (full, no guard): (parent, child) is reported — once,
    in the context of the first family in file order that warrants it — exactly when `child` is a
    CHIL of some family, `parent` its HUSB or WIFE, both have a *valid* birth date (first DATE of the
    first dated BIRT; any shape: imprecise, constrained, a range) and the `Years()` of the start of
    the child's birth is strictly below that of the parent's.  `fracLt_days` reads the comparison
    as one of civil days when both starts are calendar days. -/
theorem child_born_before_parent_sound_complete_general (d : Doc) (now : Date) (p c : Nat) :
    (∃ fp, Warning.childBornBeforeParent fp p c ∈ warnings d now) ↔
      ∃ f, Rec.fam f ∈ d ∧ c ∈ f.chil ∧ (f.husb = some p ∨ f.wife = some p) ∧
        ∃ xc xp, birthOf (indiOf d c) = some xc ∧ birthOf (indiOf d p) = some xp ∧
          xc.valid = true ∧ xp.valid = true ∧ FracLt (sYears xc) (sYears xp) := by
  rw [← bornBefore_general]
  exact cbbp_reported

theorem shape_sibOK {lo hi : Int} {x : DateV} (hok : x.sibOK lo hi = true) (hlo : 276 ≤ lo) :
    Shape (some x) := by
  cases hpe : x.parseErr with
  | true => exact Or.inl hpe
  | false =>
    simp only [DateV.sibOK, hpe, Bool.false_or, Bool.or_eq_true, Bool.and_eq_true, beq_iff_eq,
      decide_eq_true_eq] at hok
    rcases hok with ⟨h1, h2⟩ | ⟨⟨⟨⟨⟨h1, h2⟩, h3⟩, _⟩, h5⟩, _⟩
    · refine Or.inr (Or.inl ⟨h1, h2, ?_, ?_⟩)
      · rw [h1]
        decide
      · rw [h2]
        decide
    · exact Or.inr (Or.inr ⟨h1, h2, Int.le_trans hlo h3, Int.le_trans hlo h5⟩)

theorem shape_of_birth {lo hi : Int} {d : Doc} (hg : SibDates lo hi d) (hlo : 276 ≤ lo) (c : Nat) :
    Shape (birthOf (indiOf d c)) := by
  unfold SibDates at hg
  simp only [List.all_eq_true] at hg
  exact shape_of_dates (fun i hi e he x hx => shape_sibOK (hg i (mem_indis.mpr hi) e he x hx) hlo) c

theorem siblingHit_iff_general {d : Doc} {lo hi : Int} (hg : SibDates lo hi d) (hlo : 276 ≤ lo)
    (c1 c2 : Nat) :
    siblingHit d c1 c2 = true ↔ SibSpecG d c1 c2 :=
  siblingHit_iff_shape (shape_of_birth hg hlo) c1 c2

/-- under the guard a pair that meets the condition has two *valid* birth dates (neither end is the
    zero date): the property's "both have a valid birth date" -/
theorem sibSpecG_valid {d : Doc} {lo hi : Int} (hg : SibDates lo hi d) (hlo : 276 ≤ lo)
    {c1 c2 : Nat} (h : SibSpecG d c1 c2) :
    ∃ x1 x2, birthOf (indiOf d c1) = some x1 ∧ birthOf (indiOf d c2) = some x2 ∧
      x1.valid = true ∧ x2.valid = true := by
  obtain ⟨_, x1, x2, h1, h2, p1, p2, hd⟩ := h
  -- a birth at the zero time is day 1 at both ends: too far from whole days, too close to another such
  have d1 := Shape.days (h1 ▸ shape_of_birth hg hlo c1) p1
  have d2 := Shape.days (h2 ▸ shape_of_birth hg hlo c2) p2
  have r1 : 276 ≤ dayS x1 ∧ 276 ≤ dayE x1 ∧ 276 ≤ dayS x2 ∧ 276 ≤ dayE x2 := by
    unfold SibDays at hd; omega
  exact ⟨x1, x2, h1, h2, valid_of_days p1 (by omega) (by omega), valid_of_days p2 (by omega) (by omega)⟩

/-- **SiblingsBornTooClose, general dates** (partial: explicit decidable guard `SibDates lo hi d`
    with `276 ≤ lo`; no bound on the distance between dates since `NewDuration` saturates): {a, b} is reported — once, in one order or the other,
    by the first family in file order that warrants it — exactly when `a ≠ b` are CHIL of one
    family, both have a birth date of any shape without a parse error, neither birth range is 274
    days wide or wider, the first days of the two births are at least 2 days apart, and the first
    days or the last days are fewer than 274 days apart.
    The guard: every DATE of an individual that has no parse error either sits at Go's zero time
    with both ends (years 0 and above 9999) or denotes whole days from day 276 on (the year 2: an
    absent birth date sits at Go's zero time, 1 Jan 0001, and a birth in the year 1 would be "close"
    to it).  `siblings_292_years_regression` keeps the witness of the repaired defect. -/
theorem siblings_sound_complete_general_partial (d : Doc) (now : Date) {lo hi : Int}
    (hg : SibDates lo hi d) (hlo : 276 ≤ lo) (a b : Nat) :
    (∃ fp, Warning.siblingsBornTooClose fp a b ∈ warnings d now ∨
           Warning.siblingsBornTooClose fp b a ∈ warnings d now) ↔
      ∃ f, Rec.fam f ∈ d ∧ a ∈ f.chil ∧ b ∈ f.chil ∧ SibSpecG d a b :=
  siblings_reported (siblingHit_iff_general hg hlo) a b

/-- the witness of the defect repaired by fixes/C20-duration-saturates.patch: child 1 born on 1 Jan
    1600, child 2 "Bet. 10 Apr 1892 and 11 Apr 1892" — 106751 days (292 years) later by the first
    day, 106752 by the last. -/
def sibFar : Doc :=
  [.indi ⟨1, [], [⟨.birt, [.ok ⟨1, 1, 1600⟩]⟩]⟩,
   .indi ⟨2, [], [⟨.birt, [.gen 0 ⟨10, 4, 1892, .exact, false⟩ ⟨11, 4, 1892, .exact, false⟩]⟩]⟩,
   .fam ⟨1, none, none, [1, 2], []⟩]

/-- regression (known finding siblings-292-years-apart, repaired): the difference of the last days
    exceeds `time.Duration`, `Time.Sub` saturates at the minimum; with the rule before the repair
    (`durAbsOld`: `duration = -duration` alone) the result stayed negative and passed "< nine
    months", so the pair was reported although the condition `SibSpecG` is false; with the repaired
    rule the distance saturates at the maximum and the pair is not reported. -/
theorem siblings_292_years_regression :
    Warning.siblingsBornTooClose 1 1 2 ∉ warnings sibFar today ∧ ¬ SibSpecG sibFar 1 2 ∧
    dayS (.gen 0 ⟨10, 4, 1892, .exact, false⟩ ⟨11, 4, 1892, .exact, false⟩) - dayS (.ok ⟨1, 1, 1600⟩) = 106751 ∧
    durAbsOld (timeSub (endI (birthOf (indiOf sibFar 1))) (endI (birthOf (indiOf sibFar 2)))) < nineMonths ∧
    ¬ dateSub (endI (birthOf (indiOf sibFar 1))) (endI (birthOf (indiOf sibFar 2))) < nineMonths := by
  refine ⟨by decide, ?_, by decide, by decide, by decide⟩
  rintro ⟨_, x1, x2, h1, h2, _, _, hd⟩
  have e1 : birthOf (indiOf sibFar 1) = some (.ok ⟨1, 1, 1600⟩) := by decide
  have e2 : birthOf (indiOf sibFar 2) =
      some (.gen 0 ⟨10, 4, 1892, .exact, false⟩ ⟨11, 4, 1892, .exact, false⟩) := by decide
  rw [e1] at h1; rw [e2] at h2
  simp only [Option.some.injEq] at h1 h2
  subst h1; subst h2
  revert hd
  decide

theorem wholeIn_iff {lo hi : Int} {x : DateV} : x.wholeIn lo hi = true ↔
    Whole x ∧ lo ≤ dayS x ∧ dayS x ≤ hi ∧ lo ≤ dayE x ∧ dayE x ≤ hi := by
  simp only [DateV.wholeIn, Whole, Bool.and_eq_true, beq_iff_eq, decide_eq_true_eq, and_assoc]

theorem whole_of_guard {lo hi : Int} {x : DateV} (h : (!x.valid || x.wholeIn lo hi) = true)
    (hv : x.valid = true) : Whole x := by
  rw [hv, Bool.not_true, Bool.false_or, wholeIn_iff] at h
  exact h.1

/-- **MarriedOutOfRange, general dates** (partial: explicit decidable guard `WholeDates lo hi d` for
    any `lo`, `hi`: every valid DATE denotes whole days of the years 1..9999, not Go's zero time; no
    bound on the distance between dates since `NewDuration` saturates).  For the MARR node at position `k` of family `fp` and spouse `sp`: reported
    exactly when `sp` is the HUSB or WIFE, the estimated birth `xb` of `sp` (`estBirthS`: the first
    of all BIRT dates with the least start `Years()`, else of all baptism dates) is a valid date of
    any shape, the node has a valid date, and with `a` = the first of its valid dates with the least
    start `Years()` and `b` = the first with the greatest end `Years()`
    * young: first day of `a` and last day of `b` are both fewer than 16 × 365.25 days from the first
      / last day of `xb`;
    * old: one of the two distances exceeds 100 × 365.25 days. -/
theorem married_sound_complete_general_partial (d : Doc) (now : Date) {lo hi : Int}
    (hg : WholeDates lo hi d) (fp sp : Nat) (old : Bool) (k : Nat) :
    Warning.marriedOutOfRange fp sp old k ∈ warnings d now ↔
      ∃ f, Rec.fam f ∈ d ∧ f.ptr = fp ∧ (f.husb = some sp ∨ f.wife = some sp) ∧
        ∃ e, f.events[k]? = some e ∧ e.kind = .marr ∧
          ∃ i, indiOf d sp = some i ∧ ∃ xb a b, estBirthS i = some xb ∧ xb.valid = true ∧
            firstMin skey (e.dates.filter DateV.valid) = some a ∧
            firstMax ekey (e.dates.filter DateV.valid) = some b ∧
            ((old = false ∧ MoorYoung a b xb) ∨ (old = true ∧ MoorOld a b xb)) := by
  simp only [estBirthS_eq, firstMin_skey, firstMax_ekey]
  exact married_reported fun hf he hi' => marriedTest_general
    (fun _ he' _ hx => whole_of_guard (allDates_indi hg (indiOf_some hi').1 he' hx))
    (fun _ hx => whole_of_guard (allDates_fam hg hf he hx)) old

theorem midYears_ok (t : Date) : midYears (.ok t) = sYears (.ok t) := rfl
theorem midYears_gen (l : Nat) (s e : PDate) : midYears (.gen l s e) =
    (s.yearsFrac.1 * e.yearsFrac.2 + e.yearsFrac.1 * s.yearsFrac.2, 2 * (s.yearsFrac.2 * e.yearsFrac.2)) := rfl

/-- on exact days this is the `YearsApartGt` of `too_old_sound_complete` -/
theorem midYearsApart_ok (tb td : Date) (n : Int) :
    MidYearsApartGt (.ok tb) (.ok td) n ↔ YearsApartGt tb td n := Iff.rfl

theorem PastDates.indi {now : Date} {d : Doc} (h : PastDates now d) {i : Indi} (hi : Rec.indi i ∈ d)
    {e : Ev} (he : e ∈ i.events) {x : DateV} (hx : x ∈ e.dates) :
    skey x ≤ skey (.ok now) ∧ ekey x < ekey (.ok now) := by
  unfold PastDates at h
  simp only [List.all_eq_true] at h
  simpa [DateV.past] using h i (mem_indis.mpr hi) e he x hx

/-- **IndividualTooOld, general dates** (guard = the property's own domain: every DATE of an
    individual lies in the past, `PastDates`, decidable; dates of every shape): reported for `p`
    exactly when `p` has an estimated birth `xb` that is a valid date, an estimated death `xd`
    (`estBirthS` / `estDeathS`: the first date with the least start `Years()` among the BIRT dates,
    else the baptism dates / among the DEAT dates, else the BURI dates) and
    `Years(xd) − Years(xb) > 100`, `Years()` of a range being the mean of its two ends (exact
    fractions, `midYears`). -/
theorem too_old_sound_complete_general (d : Doc) (now : Date) (hp : PastDates now d) (p : Nat) :
    Warning.individualTooOld p ∈ warnings d now ↔
      ∃ i, Rec.indi i ∈ d ∧ i.ptr = p ∧ ∃ xb xd, estBirthS i = some xb ∧ xb.valid = true ∧
        estDeathS i = some xd ∧ MidYearsApartGt xb xd 100 := by
  simp only [estBirthS_eq, estDeathS_eq]
  rw [tooOld_reported]
  exact exists_congr fun i => and_congr_right fun hi => and_congr_right fun _ =>
    tooOld_iff_general fun e he x hx => hp.indi hi he hx

/-- what the event-order check decides about two dates: both ends of `x2` (first day of its start,
    last day of its end) lie before the first day of `x1` and are not the last day of `x1` -/
def EndsBefore (x2 x1 : DateV) : Prop :=
  (dayS x2 < dayS x1 ∧ dayS x2 ≠ dayE x1) ∧ (dayE x2 < dayS x1 ∧ dayE x2 ≠ dayE x1)

instance (x2 x1 : DateV) : Decidable (EndsBefore x2 x1) := by unfold EndsBefore; exact inferInstance

/-- for ranges that run forwards it is "`x2` ends before `x1` starts" -/
theorem endsBefore_forward {x2 x1 : DateV} (h1 : dayS x1 ≤ dayE x1) (h2 : dayS x2 ≤ dayE x2) :
    EndsBefore x2 x1 ↔ dayE x2 < dayS x1 := by
  unfold EndsBefore; omega

/-- **IncorrectEventOrder, dates of every shape** (full, no guard): "the `k2` (`x2`) was before the
    `k1` (`x1`)" is reported for individual `p` exactly when `p` has those two dated events, `k2`
    belongs to a later group than `k1` (birth < baptism < death < burial), both dates are valid and
    `x2` ends before `x1` starts (`EndsBefore`; `endsBefore_forward`). -/
theorem event_order_sound_complete_general (d : Doc) (now : Date) (p : Nat) (k2 : EvKind) (x2 : DateV)
    (k1 : EvKind) (x1 : DateV) :
    Warning.incorrectEventOrder p k2 x2 k1 x1 ∈ warnings d now ↔
      ∃ i, Rec.indi i ∈ d ∧ i.ptr = p ∧ ∃ g1 g2, groupOf k1 = some g1 ∧ groupOf k2 = some g2 ∧
        g1 < g2 ∧ Dated i k1 x1 ∧ Dated i k2 x2 ∧ x1.valid = true ∧ x2.valid = true ∧
        EndsBefore x2 x1 := by
  refine event_order_reported fun _ _ _ => ?_
  rw [compare_entirelyBefore]
  rfl

/-! Non-vacuity -/

/-- children: "Mar 1830" (month precision), "Bet. 20 Mar 1830 and 2 Apr 1830", "Abt. 1831" (a year:
    365 days wide), "Bef. 30 Nov 1830"; the father "Aft. Apr 1830" is younger than child 1 -/
def sampleG : Doc :=
  [.indi ⟨1, [], [⟨.birt, [.gen 0 ⟨0, 3, 1830, .exact, false⟩ ⟨0, 3, 1830, .exact, false⟩]⟩]⟩,
   .indi ⟨2, [], [⟨.birt, [.gen 0 ⟨20, 3, 1830, .exact, false⟩ ⟨2, 4, 1830, .exact, false⟩]⟩]⟩,
   .indi ⟨3, [], [⟨.birt, [.gen 0 ⟨0, 0, 1831, .about, false⟩ ⟨0, 0, 1831, .about, false⟩]⟩]⟩,
   .indi ⟨4, [], [⟨.birt, [.gen 0 ⟨30, 11, 1830, .before, false⟩ ⟨30, 11, 1830, .before, false⟩]⟩]⟩,
   .indi ⟨5, [], [⟨.birt, [.gen 0 ⟨0, 4, 1830, .after, false⟩ ⟨0, 4, 1830, .after, false⟩]⟩]⟩,
   .fam ⟨1, some 5, none, [1, 2, 3, 4], []⟩]

example : SibDates (dayOf ⟨1, 1, 1800⟩) (dayOf ⟨1, 1, 1900⟩) sampleG ∧ 276 ≤ dayOf ⟨1, 1, 1800⟩ := by decide +kernel
example : SibDates (dayOf ⟨1, 1, 1600⟩) (dayOf ⟨1, 1, 1900⟩) sibFar := by decide +kernel
example : warnings sampleG today =
    [.childBornBeforeParent 1 5 1, .childBornBeforeParent 1 5 2,
     .siblingsBornTooClose 1 1 2, .siblingsBornTooClose 1 1 4, .siblingsBornTooClose 1 2 4] := by decide +kernel
example : SibDays (dayS (.ok ⟨2, 3, 1830⟩)) (dayE (.ok ⟨2, 3, 1830⟩)) (dayS (.ok ⟨4, 3, 1830⟩))
    (dayE (.ok ⟨4, 3, 1830⟩)) := by decide +kernel

/-- husband "Mar 1800", wife "Abt. 1795"; MARR "Jun 1815" (he is 15, she 19 or 20) and MARR
    "Bet. 1896 and 1897" (he is 96, she over 100 by the end of the range);
    individual 3: born "1800", died "Bet. 1901 and 1903" (mean 1902.5: 102 years), buried "Jun 1901"
    (its end lies before the start of the death range: reported); individual 4: born "1800", died
    "Bet. 1899 and 1901" (mean 1900.5: exactly 100 years, not reported) -/
def sampleM : Doc :=
  [.indi ⟨1, [], [⟨.birt, [.gen 0 ⟨0, 3, 1800, .exact, false⟩ ⟨0, 3, 1800, .exact, false⟩]⟩]⟩,
   .indi ⟨2, [], [⟨.birt, [.gen 0 ⟨0, 0, 1795, .about, false⟩ ⟨0, 0, 1795, .about, false⟩]⟩]⟩,
   .indi ⟨3, [], [⟨.birt, [.gen 0 ⟨0, 0, 1800, .exact, false⟩ ⟨0, 0, 1800, .exact, false⟩]⟩,
      ⟨.deat, [.gen 0 ⟨0, 0, 1901, .exact, false⟩ ⟨0, 0, 1903, .exact, false⟩]⟩,
      ⟨.buri, [.gen 0 ⟨0, 6, 1900, .exact, false⟩ ⟨0, 6, 1900, .exact, false⟩]⟩]⟩,
   .indi ⟨4, [], [⟨.birt, [.gen 0 ⟨0, 0, 1800, .exact, false⟩ ⟨0, 0, 1800, .exact, false⟩]⟩,
      ⟨.deat, [.gen 0 ⟨0, 0, 1899, .exact, false⟩ ⟨0, 0, 1901, .exact, false⟩]⟩]⟩,
   .fam ⟨1, some 1, some 2, [],
      [⟨.marr, [.gen 0 ⟨0, 6, 1815, .exact, false⟩ ⟨0, 6, 1815, .exact, false⟩]⟩,
       ⟨.marr, [.gen 0 ⟨0, 0, 1896, .exact, false⟩ ⟨0, 0, 1897, .exact, false⟩]⟩]⟩]

example : WholeDates (dayOf ⟨1, 1, 1790⟩) (dayOf ⟨1, 1, 1910⟩) sampleM ∧
    dayOf ⟨1, 1, 1910⟩ - dayOf ⟨1, 1, 1790⟩ ≤ 106751 ∧ PastDates today sampleM := by decide +kernel
example : warnings sampleM today =
    [.incorrectEventOrder 3 .buri (.gen 0 ⟨0, 6, 1900, .exact, false⟩ ⟨0, 6, 1900, .exact, false⟩)
        .deat (.gen 0 ⟨0, 0, 1901, .exact, false⟩ ⟨0, 0, 1903, .exact, false⟩),
     .individualTooOld 3,
     .marriedOutOfRange 1 1 false 0, .marriedOutOfRange 1 2 true 1] := by decide +kernel

end Gedcom.C20

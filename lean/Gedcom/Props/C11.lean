/-
  C11 — Matching individuals is a valid one-to-one matching on any schedule.
  Property theorems only, about `Gedcom.Match.winners` / `jobs` / `compare` (what the driver runs).

  A schedule of the goroutine / worker-pool / channel pipeline is modelled by the order in which
  the scored jobs arrive at `calculateWinners`: the theorems quantify over *every* permutation
  `arrival` of the sequential job list — no bound on the number of individuals, jobs or workers.

  Not a theorem (labelled partial in MANIFEST): freedom from data races.  No executable model
  exhibits the Go memory model; the harness runs the implementation under the race detector and
  reports every racing access-site pair.

  Guards, explicit and decidable (the driver evaluates them on every generated case):
  `IdsOK L R` — the two lists consist of pairwise distinct nodes; `JobsOK L R (jobs …)` — the
  certain jobs pair no individual twice.  `jobsOK_of_guards` derives the latter from the inputs;
  it and `valid_matching` also name `PtrsOK L R` (pointers unique per side), which no proof uses.
-/
import Gedcom.Lemmas.MatchJobs
namespace Gedcom.C11
open Gedcom.Match

section
variable (L R : List Person) (scoreT scoreF : Nat → Nat → Rat) (prefer minW : Rat)
/- Quantified over, not assumed away: `ch`, how the implementation resolved every choice
   `ByUniqueIdentifiers(…)[0]` (sync.Map iteration order; any `Admissible` resolution); `s0`, the sent
   sets the options value carries when `Compare` starts (empty when fresh, the leftovers of the
   previous call when reused). -/
variable (ch : Person → Option Person) (s0 : Sent)

/-- every left individual appears in exactly one result, whatever the order of arrival -/
theorem each_left_once (arrival : List Job) (hp : arrival.Perm (jobsFrom ch s0 L R scoreT scoreF prefer))
    (hids : IdsOK L R) (hok : JobsOK L R (jobsFrom ch s0 L R scoreT scoreF prefer))
    (x : Nat) (hx : x ∈ L.map (·.id)) :
    leftCount x (winners L R minW arrival) = 1 :=
  winners_left_once hids (jobsOK_perm hp hok) hx

/-- every right individual appears in exactly one result, whatever the order of arrival -/
theorem each_right_once (arrival : List Job) (hp : arrival.Perm (jobsFrom ch s0 L R scoreT scoreF prefer))
    (hids : IdsOK L R) (hok : JobsOK L R (jobsFrom ch s0 L R scoreT scoreF prefer))
    (x : Nat) (hx : x ∈ R.map (·.id)) :
    rightCount x (winners L R minW arrival) = 1 :=
  winners_right_once hids (jobsOK_perm hp hok) hx

/-- the guard on the jobs follows from guards on the inputs — distinct nodes and pointers unique
    per side — for every admissible resolution of the choices and every initial sent sets.  (Before
    the fix "a right individual is matched by unique identifier only once" this also needed that
    no right individual was a unique-identifier candidate of two left individuals.)  The proof does
    not use `hp`: with the sent sets, distinct nodes suffice (`Match.jobsOK_from`). -/
theorem jobsOK_of_guards (hadm : Admissible R ch) (hids : IdsOK L R) (hp : PtrsOK L R) :
    JobsOK L R (jobsFrom ch s0 L R scoreT scoreF prefer) :=
  jobsOK_from scoreT scoreF prefer hadm s0 hids

/-- the matching is one-to-one on every schedule, for every resolution of the unique-identifier
    choices and every history of the options value, stated on the inputs alone -/
theorem valid_matching (arrival : List Job)
    (hperm : arrival.Perm (jobsFrom ch s0 L R scoreT scoreF prefer)) (hadm : Admissible R ch)
    (hids : IdsOK L R) (hp : PtrsOK L R) :
    (∀ x ∈ L.map (·.id), leftCount x (winners L R minW arrival) = 1) ∧
    (∀ x ∈ R.map (·.id), rightCount x (winners L R minW arrival) = 1) :=
  have hok := jobsOK_perm hperm (jobsOK_of_guards L R scoreT scoreF prefer ch s0 hadm hids hp)
  ⟨fun _ hx => winners_left_once hids hok hx, fun _ hx => winners_right_once hids hok hx⟩

/-- no result is empty on both sides, and no result mentions a node of neither list (needs no
    guard) -/
theorem no_empty_result (arrival : List Job) (hp : arrival.Perm (jobsFrom ch s0 L R scoreT scoreF prefer))
    (hadm : Admissible R ch) (r : Res) (hr : r ∈ winners L R minW arrival) :
    r ≠ (none, none) ∧ (∀ x, r.1 = some x → x ∈ L.map (·.id)) ∧ (∀ y, r.2 = some y → y ∈ R.map (·.id)) := by
  rcases winners_justified (fun j hj => jobsFrom_justified hadm (hp.mem_iff.mp hj)) hr with
    ⟨a, ha, b, hb, rfl, _⟩ | ⟨p, hpL, rfl⟩ | ⟨p, hpR, rfl⟩
  · exact ⟨nofun, fun x hx => Option.some.inj hx ▸ List.mem_map_of_mem ha,
      fun y hy => Option.some.inj hy ▸ List.mem_map_of_mem hb⟩
  · exact ⟨nofun, fun x hx => Option.some.inj hx ▸ List.mem_map_of_mem hpL, nofun⟩
  · exact ⟨nofun, nofun, fun y hy => Option.some.inj hy ▸ List.mem_map_of_mem hpR⟩

/-- paired individuals share a unique identifier, or have the same pointer and a (forced) score of
    at least `PreferPointerAbove`, or reach `MinimumWeightedSimilarity` (needs no guard) -/
theorem paired_reach_threshold_or_certain (arrival : List Job)
    (hp : arrival.Perm (jobsFrom ch s0 L R scoreT scoreF prefer)) (hadm : Admissible R ch) (x y : Nat)
    (hr : (some x, some y) ∈ winners L R minW arrival) :
    ∃ a ∈ L, ∃ b ∈ R, x = a.id ∧ y = b.id ∧
      (SharesUid a b ∨ (a.ptr = b.ptr ∧ prefer ≤ scoreT a.id b.id) ∨ minW ≤ scoreF a.id b.id) := by
  rcases winners_justified (fun j hj => jobsFrom_justified hadm (hp.mem_iff.mp hj)) hr with
    ⟨a, ha, b, hb, e, h⟩ | ⟨p, _, e⟩ | ⟨p, _, e⟩
  · obtain ⟨ex, ey⟩ := Prod.mk.inj e
    exact ⟨a, ha, b, hb, Option.some.inj ex, Option.some.inj ey, h⟩
  · cases e
  · cases e

/-- when no two candidate pairs (uncertain results at or above the threshold) tie on score, every
    order of arrival gives the result of the sequential run, up to the order in which the results
    are listed; ties below the threshold (e.g. the pairs the early exit scores 0) are harmless -/
theorem schedule_independent (arrival : List Job) (hp : arrival.Perm (jobsFrom ch s0 L R scoreT scoreF prefer))
    (hn : NoScoreTies minW (jobsFrom ch s0 L R scoreT scoreF prefer)) :
    (winners L R minW arrival).Perm (winners L R minW (jobsFrom ch s0 L R scoreT scoreF prefer)) :=
  winners_perm L R minW hp hn

/-- the jobs themselves are what the property says they are (any job list the pipeline can see is
    a permutation of this one) -/
theorem jobs_justified (hadm : Admissible R ch) (j : Job)
    (hj : j ∈ jobsFrom ch s0 L R scoreT scoreF prefer) :
    Justified L R scoreT scoreF prefer j :=
  jobsFrom_justified hadm hj

end

def dupL : List Person := [⟨0, [73, 49], [[1]]⟩, ⟨1, [73, 50], [[1]]⟩]
def dupR : List Person := [⟨10, [80, 49], [[1]]⟩]

/-- regression witness of DESIGN defect 11: two left individuals with the unique identifier of one
    right individual: the first one keeps the match, the second one is left over, the right
    individual is in one result (it was in two before the fix) -/
theorem dup_uid_regression :
    IdsOK dupL dupR ∧ PtrsOK dupL dupR ∧
    compare dupL dupR (fun _ _ => 0) (fun _ _ => 0) 0 1 = [(some 0, some 10), (some 1, none)] ∧
    rightCount 10 (compare dupL dupR (fun _ _ => 0) (fun _ _ => 0) 0 1) = 1 := by
  decide +kernel

/-! ## Non-vacuity (tests on literals) -/

def exL : List Person := [⟨0, [73, 49], [[1]]⟩, ⟨1, [73, 50], []⟩, ⟨2, [73, 51], []⟩]
def exR : List Person := [⟨10, [80, 49], []⟩, ⟨11, [73, 50], []⟩, ⟨12, [80, 51], [[1]]⟩, ⟨13, [80, 52], []⟩]
def exF : Nat → Nat → Rat := fun l r => if l = 2 ∧ r = 10 then 9 / 10 else if l = 2 ∧ r = 13 then 8 / 10 else 0

-- one unique-id job (0-12), one pointer job (1-11), a remaining matrix with a winner (2-10):
-- the guards hold and there are jobs of all three kinds
example : IdsOK exL exR ∧ PtrsOK exL exR ∧
    JobsOK exL exR (jobs exL exR (fun _ _ => 1) exF (1 / 2)) := by decide +kernel
example : compare exL exR (fun _ _ => 1) exF (1 / 2) (1 / 2) =
    [(some 0, some 12), (some 1, some 11), (some 2, some 10), (none, some 13)] := by decide +kernel
-- NoScoreTies is satisfiable with several candidate pairs, and with ties below the threshold
example : NoScoreTies (1 / 2) [⟨2, 10, false, 9 / 10⟩, ⟨2, 13, false, 8 / 10⟩, ⟨2, 11, false, 0⟩, ⟨2, 12, false, 0⟩,
    ⟨0, 12, true, 0⟩, ⟨1, 11, true, 0⟩] := by
  decide +kernel
example : NoScoreTies (1 / 2) (jobs exL exR (fun _ _ => 1) exF (1 / 2)) := by decide +kernel

-- an ambiguous choice: left 0 carries two identifiers that select right 12 and right 13; the guards
-- hold, and both resolutions give a valid matching (0-12 resp. 0-13)
def amL : List Person := [⟨0, [73, 49], [[1], [2]]⟩, ⟨1, [73, 50], []⟩]
def amR : List Person := [⟨12, [80, 51], [[1]]⟩, ⟨13, [80, 52], [[2]]⟩]
example : IdsOK amL amR ∧ PtrsOK amL amR ∧
    (uniqueCands amR amL[0]).map (·.id) = [12, 13] := by decide +kernel
example : winners amL amR 1 (jobsFrom (fun a => if a.id = 0 then some amR[1] else none) ⟨[], []⟩ amL amR
      (fun _ _ => 0) (fun _ _ => 0) 1) = [(some 0, some 13), (some 1, none), (none, some 12)] := by
  decide +kernel
-- a second Compare with the same options value: the certain pairs 0-12 and 1-11 of the first call
-- are not found again (their pointers are still marked as sent), the result is still a valid
-- matching
example : winners exL exR (1 / 2) (jobsFrom (uniqueTarget exR)
      (sentAfter (uniqueTarget exR) ⟨[], []⟩ exL exR (fun _ _ => 1) (1 / 2)) exL exR (fun _ _ => 1) exF (1 / 2)) =
    [(some 2, some 10), (some 0, none), (some 1, none), (none, some 11), (none, some 12), (none, some 13)] := by
  decide +kernel

end Gedcom.C11

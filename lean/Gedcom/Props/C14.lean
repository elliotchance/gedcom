/-
  C14 — No command crashes on a file the decoder accepts: the functions of `Gedcom.Model.Resolve`
  that the driver executes return for every forest of records, at the guard flags regenerated from
  the source (`generated_flags_safe` breaks when a repair is reverted; the `*_counterexample`s reach
  the panic without the guard).  Labelled partial (DESIGN §8 C14, §9): the ~60 page components of
  html/ that do not index file-derived lists are tied by execution only.
-/
import Gedcom.Lemmas.Resolve
namespace Gedcom.C14
open Gedcom.Resolve

/-- The guards found in the current source are those of the repaired code.  Regenerated on every
    run; reverting any repair of defect 15 makes this fail to check. -/
theorem generated_flags_safe : generatedFlags.Safe := by decide

/-- `valueToPointer` returns for every string, the empty one included. -/
theorem valueToPointer_total (v : Str) : Total (valueToPointer generatedFlags v) :=
  Resolve.valueToPointer_total _ (generated_flags_safe.elim).1 v

/-- A pointer is returned only for `@…@` of length ≥ 3, and then it is the inside. -/
theorem valueToPointer_spec (v p : Str) (h : valueToPointer generatedFlags v = .ok p) (hp : p ≠ []) :
    v = [64] ++ p ++ [64] :=
  valueToPointer_spec' _ (generated_flags_safe.elim).1 v p h hp

/-- `HusbandNode.Individual()` through `FamilyNode.Husband()` never panics. -/
theorem husbandIndividual_total (doc : Doc) (fam : Node) : Total (husbandIndividual generatedFlags doc fam) :=
  husbandIndividual_total' generated_flags_safe doc fam

/-- `WifeNode.Individual()` never panics. -/
theorem wifeIndividual_total (doc : Doc) (fam : Node) : Total (wifeIndividual generatedFlags doc fam) :=
  wifeIndividual_total' generated_flags_safe doc fam

/-- `ChildNode.Individual()` never panics, whatever the CHIL value is. -/
theorem childIndividual_total (doc : Doc) (c : Node) : Total (childIndividual generatedFlags doc c) :=
  childIndividual_total' generated_flags_safe doc c

/-- `ChildNodes.Individuals()` never panics. -/
theorem childNodesIndividuals_total (doc : Doc) (cs : List Node) :
    Total (childNodesIndividuals generatedFlags doc cs) :=
  childNodesIndividuals_total' generated_flags_safe doc cs

/-- Whatever a role node resolves to is an INDI root record of the document whose pointer is the
    one written in the value (never a record of another kind). -/
theorem resolved_is_individual (site : Site) (rf : RefFlags) (doc : Doc) (role : Node) (e : Ent)
    (h : roleIndividual generatedFlags site rf doc role = .ok (some e)) :
    isIndi e.node = true ∧ e ∈ roots doc ∧ role.value = [64] ++ e.node.ptr ++ [64] := by
  obtain ⟨p, hp, h⟩ := bind_eq_ok h
  obtain ⟨hn, hi⟩ := assertIndi_eq_some h
  obtain ⟨hne, hmem, rfl⟩ := nodeByPointer_eq_some hn
  exact ⟨hi, hmem, valueToPointer_spec _ _ hp hne⟩

/-- `IndividualNode.Spouses()` never panics. -/
theorem spouses_total (doc : Doc) (indi : Ent) : Total (spouses generatedFlags doc indi) :=
  spouses_total' generated_flags_safe doc indi

/-- `IndividualNode.Families()` never panics. -/
theorem families_total (doc : Doc) (indi : Ent) : Total (familiesOf generatedFlags doc indi) :=
  familiesOf_total' generated_flags_safe doc indi

/-- `IndividualNode.Parents()` never panics. -/
theorem parents_total (doc : Doc) (indi : Ent) : Total (parents generatedFlags doc indi) :=
  parents_total' generated_flags_safe doc indi

/-- `IndividualNode.Children()` never panics. -/
theorem children_total (doc : Doc) (indi : Ent) : Total (childrenOf generatedFlags doc indi) :=
  childrenOf_total' generated_flags_safe doc indi

/-- `IndividualNode.SpouseChildren()` (with `FamilyWithSpouse`, `FamilyWithUnknownSpouse`) never panics. -/
theorem spouseChildren_total (doc : Doc) (indi : Ent) : Total (spouseChildrenKeys generatedFlags doc indi) :=
  spouseChildrenKeys_total' generated_flags_safe doc indi

/-- `getIndexLetter` classifies every surname — empty, starting with a digit, a symbol or a
    multi-byte character — as '#' or a letter a..z (it compares the first *byte*, which for a
    multi-byte character is ≥ 0x80 and therefore a symbol). -/
theorem indexLetter_total (surname : Str) :
    indexLetterOf surname = symbolLetter ∨ (97 ≤ indexLetterOf surname ∧ indexLetterOf surname ≤ 122) :=
  indexLetterOf_range surname

/-- `surnameStartsWith` never indexes an empty string (an empty index name is replaced by "#"). -/
theorem surnameStartsWith_total (indexName : Str) (letter : UInt8) : Total (startsWithLetter indexName letter) :=
  startsWithLetter_total' indexName letter

/-- `SurnameLink` takes `surname[0]`; the surname list page only builds links for the surnames
    `getSurnames` collected, which are non-empty — so the page never panics. -/
theorem surnameList_total (doc : Doc) : Total (surnameList doc) := surnameList_total' doc

/-- `PublishHeader` never indexes an empty letter list. -/
theorem header_total (showIndividuals : Bool) (letters : List UInt8) :
    Total (header generatedFlags showIndividuals letters) :=
  header_total' generated_flags_safe showIndividuals letters

/-- The individual page renders for a person with any number of NAME records, zero included. -/
theorem individualPage_total (showIndividuals : Bool) (letters : List UInt8) (indi : Node) :
    Total (individualPage generatedFlags showIndividuals letters indi) :=
  individualPage_total' generated_flags_safe showIndividuals letters indi

/-- `EventDate` never indexes an empty date list (`IsBlank` guards `c.dates[0]`). -/
theorem eventDate_total {α} (dates : List α) : Total (eventDate dates) := eventDate_total' dates

/-- `IndividualDates.EventDates` takes `births[0]`, `baptisms[0]`, `deaths[0]`, `burials[0]` only
    under the `len(…) > 0` case of the same list — for any four event lists. -/
theorem eventDates_total {α} (births baptisms deaths burials : List α) :
    Total (eventDates births baptisms deaths burials) := eventDates_total' births baptisms deaths burials

/-- Place pages dereference `placesMap[key]`; the keys handed to the pages are the keys of that
    map, so the entry is never nil — for any place map. -/
theorem placePages_total {α} (m : List (Str × α)) : Total (placePages m) := placePages_total' m

/-- the dereference itself is partial: a key that is not in the map panics in the same model -/
theorem placePage_counterexample : (lookupPlace ([] : List (Str × Nat)) [97]).panicSite = some .placePage := by decide

/-- `Document.Warnings()` never panics … -/
theorem warnings_total (doc : Doc) : Total (warningsWalk generatedFlags doc) :=
  ⟨_, walkForest_spec generated_flags_safe doc doc⟩

/-- … and terminates after visiting every node of the file exactly once: the walk is over the
    record *trees*; family links (HUSB/WIFE/CHIL/FAMC/FAMS), cyclic or not, are only looked up,
    never followed. -/
theorem warnings_terminates (doc : Doc) : warningsWalk generatedFlags doc = .ok (Forest.size doc) :=
  walkForest_spec generated_flags_safe doc doc

/-- `publish`, in every visibility mode (`listed`, `hasPage` are arbitrary predicates) and with
    the individual and surname page groups on or off, never panics in the modelled layer. -/
theorem publish_total (doc : Doc) (showIndividuals showFamilies showSurnames : Bool) (listed hasPage : Ent → Bool) :
    Total (publish generatedFlags doc showIndividuals showFamilies showSurnames listed hasPage) :=
  publish_total' generated_flags_safe doc showIndividuals showFamilies showSurnames listed hasPage

/-- one page is rendered per person selected by `hasPage` (nobody is skipped by a crash) -/
theorem publish_pages (doc : Doc) (showFamilies showSurnames : Bool) (listed hasPage : Ent → Bool) (n : Nat)
    (h : publish generatedFlags doc true showFamilies showSurnames listed hasPage = .ok n) :
    n = ((individuals doc).filter hasPage).length := by
  obtain ⟨_, -, h⟩ := bind_eq_ok h
  obtain ⟨pages, hp, h⟩ := bind_eq_ok h
  obtain ⟨_, -, h⟩ := bind_eq_ok h
  obtain ⟨_, -, h⟩ := bind_eq_ok h
  obtain rfl := Res.ok.inj h
  exact mapRes_length _ _ _ hp

/-- `diff` (the traversals behind `SurroundingSimilarity`, for every individual of a side) never panics. -/
theorem diff_total (doc : Doc) : Total (diffSide generatedFlags doc) :=
  diffSide_total' generated_flags_safe doc

/-! ## each guard is load-bearing: the panics of the unrepaired tree, in the same model -/

def n (tag value ptr : String) (kids : List Node := []) : Node := .mk (bs tag) (bs value) (bs ptr) kids

/-- `1 HUSB` (no value): `val[0]` on the empty string -/
theorem empty_value_counterexample : (valueToPointer unrepairedFlags []).panicSite = some .valueToPointer := by decide

/-- `0 @S1@ SOUR` / `0 @F1@ FAM` / `1 HUSB @S1@`: assertion on a record of the wrong kind -/
def wrongKindFam : Node := n "FAM" "" "F1" [n "HUSB" "@S1@" ""]
def wrongKindDoc : Doc := [n "SOUR" "" "S1", wrongKindFam]
theorem wrong_kind_counterexample :
    (husbandIndividual unrepairedFlags wrongKindDoc wrongKindFam).panicSite = some .husband := by
  decide +kernel

/-- `1 CHIL @I9@` with no such record: `ChildNodes.Individuals` asserted on nil -/
def danglingFam : Node := n "FAM" "" "F1" [n "CHIL" "@I9@" ""]
theorem dangling_child_counterexample :
    (childNodesIndividuals unrepairedFlags [danglingFam] (childNodes danglingFam)).panicSite
      = some .childNodes := by
  decide +kernel

/-- every page header when nobody is listed (hide mode, empty file) -/
theorem no_letters_counterexample : (header unrepairedFlags true []).panicSite = some .header := by decide

/-- the page of `0 @I1@ INDI` / `1 SEX M` -/
def noNameIndi : Node := n "INDI" "" "I1" [n "SEX" "M" ""]
theorem no_name_counterexample :
    (individualPage unrepairedFlags true [symbolLetter] noNameIndi).panicSite = some .page := by
  decide +kernel

/-- with the repaired flags the same inputs return -/
theorem witnesses_repaired :
    (valueToPointer generatedFlags []).val? = some [] ∧
    (husbandIndividual generatedFlags wrongKindDoc wrongKindFam).isOk = true ∧
    ((childNodesIndividuals generatedFlags [danglingFam] (childNodes danglingFam)).val?.map List.length) = some 0 ∧
    (header generatedFlags true []).val? = some none ∧
    (individualPage generatedFlags true [symbolLetter] noNameIndi).val? = some 0 := by
  decide +kernel

/-- a person who is their own parent and spouse, a duplicate pointer, a memberless family: the walk
    visits all 9 nodes, the traversals return -/
def cyclicDoc : Doc :=
  [n "INDI" "" "I1" [n "NAME" "A /B/" ""], n "INDI" "" "I1" [],
   n "FAM" "" "F1" [n "HUSB" "@I1@" "", n "WIFE" "@I1@" "", n "CHIL" "@I1@" "", n "CHIL" "" ""],
   n "FAM" "" "F2" []]

example : (warningsWalk generatedFlags cyclicDoc).val? = some 9 := by decide +kernel
example : ((spouses generatedFlags cyclicDoc ⟨0, n "INDI" "" "I1" [n "NAME" "A /B/" ""]⟩).val?.map
    (fun l => l.map (fun o => o.map (·.idx)))) = some [some 1, some 1] := by decide +kernel
example : indexLetters cyclicDoc (fun _ => true) = [35, 98] := by decide +kernel
example : indexLetterOf (bs "1st") = 35 ∧ indexLetterOf [0xC3, 0x89] = 35 ∧ indexLetterOf (bs "Smith") = 115 := by decide +kernel
example : surnameOf (some (n "NAME" "Bob  /O'Neil/ Jr" "")) = bs "O'Neil" := by decide +kernel

end Gedcom.C14

/-
  C10 — which references of the merged document resolve, for any valid matching and arbitrary
  pointers.  FAMS / FAMC lines never dangle; a HUSB / WIFE / CHIL line dangles exactly when its
  target is `mergedAway` (carried by no left individual, and every right individual that carries
  it was merged into a left one, which keeps the left pointer): what the known finding
  `merge-does-not-rewrite-pointers` describes, and nothing else.
-/
import Gedcom.Props.C10
namespace Gedcom.C10
open Gedcom.MergeG

theorem isPairR_iff {m : List M} {j : Nat} : m.any (isPairR j) = true ↔ ∃ i, M.both i j ∈ m := by
  rw [List.any_eq_true]
  constructor
  · rintro ⟨x, hx, h⟩
    cases x with
    | both i j' => exact ⟨i, (beq_iff_eq.mp h : j' = j) ▸ hx⟩
    | left _ => cases h
    | right _ => cases h
  · rintro ⟨i, h⟩
    exact ⟨_, h, beq_self_eq_true j⟩

/-- the Prop the Boolean `mergedAway` decides -/
def MergedAway (m : List M) (l r : List Rcd) (p : Nat) : Prop :=
  p ∉ l.map (·.ptr) ∧ p ∈ r.map (·.ptr) ∧ ∀ j b, r[j]? = some b → b.ptr = p → ∃ i, M.both i j ∈ m

theorem mergedAway_iff {m : List M} {l r : List Rcd} {p : Nat} :
    mergedAway m l r p = true ↔ MergedAway m l r p := by
  simp only [mergedAway, MergedAway, Bool.and_eq_true, Bool.not_eq_true', List.any_eq_false,
    List.any_eq_true, List.all_eq_true, List.mem_range, List.mem_map, beq_iff_eq]
  constructor
  · rintro ⟨⟨h1, b, hb, hbp⟩, h3⟩
    refine ⟨?_, ⟨b, hb, hbp⟩, ?_⟩
    · rintro ⟨a, ha, hap⟩; exact h1 a ha hap
    · intro j b' hj hp
      have hlt := lt_of_getElem? hj
      have := h3 j hlt
      rw [hj] at this
      simp only [Bool.or_eq_true, bne_iff_ne, ne_eq] at this
      rcases this with h | h
      · exact absurd hp h
      · exact isPairR_iff.mp h
  · rintro ⟨h1, ⟨b, hb, hbp⟩, h3⟩
    refine ⟨⟨fun a ha hap => h1 ⟨a, ha, hap⟩, b, hb, hbp⟩, ?_⟩
    intro j hj
    split
    · rename_i b' hb'
      by_cases hp : b'.ptr = p
      · have := isPairR_iff.mpr (h3 j b' hb' hp)
        simp only [Bool.or_eq_true, bne_iff_ne, ne_eq]
        exact Or.inr this
      · simp [hp]
    · rfl

/-- For a valid matching and arbitrary pointers: a pointer that names
    an individual of an input names no individual of the output exactly when it is merged away. -/
theorem indi_pointer_lost_iff {m : List M} {l r : List Rcd} (hv : ValidMatching m l.length r.length)
    (p : Nat) (hin : p ∈ l.map (·.ptr) ∨ p ∈ r.map (·.ptr)) :
    p ∉ (mergeIndis m l r).map (·.ptr) ↔ mergedAway m l r p = true := by
  rw [mergedAway_iff, out_ptr_iff hv]
  constructor
  · intro h
    have hl : p ∉ l.map (·.ptr) := fun hp => h (Or.inl hp)
    refine ⟨hl, hin.resolve_left hl, ?_⟩
    intro j b hb hp
    have hj := lt_of_getElem? hb
    rcases hv.right_covered hj with hr | hpair
    · exact absurd (Or.inr ⟨j, b, hb, hp, hr⟩) h
    · exact hpair
  · rintro ⟨hl, _, hall⟩ (h | ⟨j, b, hb, hp, hr⟩)
    · exact hl h
    · obtain ⟨i, hi⟩ := hall j b hb hp
      cases hv.unique hi hr (s := (true, j)) (List.mem_cons_of_mem _ List.mem_cons_self) List.mem_cons_self

/-- Valid matching, arbitrary pointers, inputs whose references
    resolve.  A HUSB / WIFE / CHIL line of a merged family names no individual of the output
    **iff** its target is merged away; and such a line is a line of a family of the *right*
    document (left families never dangle).  With `fam_refs_always_resolve` this is the complete
    list of the references that do not resolve: exactly the ones the finding describes. -/
theorem references_resolve_iff (m : List M) (l r : G)
    (hv : ValidMatching m l.indis.length r.indis.length) (hl : resolves l) (hr : resolves r) :
    ∀ f ∈ (mergeG m l r).fams, ∀ x ∈ f.refs,
      (x.2 ∉ indiPtrs (mergeG m l r) ↔ mergedAway m l.indis r.indis x.2 = true) ∧
      (x.2 ∉ indiPtrs (mergeG m l r) → ∃ g ∈ r.fams, x ∈ g.refs) := by
  intro f hf x hx
  rcases fam_refs_from_inputs hf hx with ⟨a, ha, hxa⟩ | ⟨b, hb, hxb⟩
  · -- a line of a left family: its target is a left pointer, which is never merged away
    have hiff := indi_pointer_lost_iff hv x.2 (Or.inl (hl.1 a ha x hxa))
    exact ⟨hiff, fun hd => absurd (hl.1 a ha x hxa) (mergedAway_iff.mp (hiff.mp hd)).1⟩
  · exact ⟨indi_pointer_lost_iff hv x.2 (Or.inr (hr.1 b hb x hxb)), fun _ => ⟨b, hb, hxb⟩⟩

theorem danglingRefs_eq_nil {m : List M} {l r : G} : danglingRefs m l r = [] ↔
    ∀ f ∈ (mergeG m l r).fams, ∀ x ∈ f.refs, ¬ mergedAway m l.indis r.indis x.2 = true := by
  simp only [danglingRefs, List.flatMap_eq_nil_iff, List.map_eq_nil_iff, List.filter_eq_nil_iff]

/-- The merged document resolves iff no HUSB / WIFE / CHIL
    line of a merged family targets a merged-away pointer (`danglingRefs`, the list the driver
    prints, is empty). -/
theorem resolves_iff_none_merged_away (m : List M) (l r : G)
    (hv : ValidMatching m l.indis.length r.indis.length) (hl : resolves l) (hr : resolves r) :
    resolves (mergeG m l r) ↔ danglingRefs m l r = [] := by
  rw [danglingRefs_eq_nil, resolves, and_iff_left (fam_refs_always_resolve m l r hl hr)]
  exact forall₂_congr fun f hf => forall₂_congr fun x hx =>
    (Decidable.not_iff_comm.mp (references_resolve_iff m l r hv hl hr f hf x hx).1).symm

/-- the guard `SamePointers` is a special case: with the same pointer on both sides of every pair
    nothing is merged away -/
theorem same_pointers_none_merged_away (m : List M) (l r : List Rcd)
    (hv : ValidMatching m l.length r.length) (hp : SamePointers m l r)
    (p : Nat) : mergedAway m l r p = false := by
  rw [Bool.eq_false_iff]
  intro h
  obtain ⟨h1, h2, h3⟩ := mergedAway_iff.mp h
  obtain ⟨b, hb, rfl⟩ := List.mem_map.mp h2
  obtain ⟨j, hget⟩ := List.mem_iff_getElem?.mp hb
  obtain ⟨i, hi⟩ := h3 j b hget rfl
  -- the pair's left individual carries the same pointer
  obtain ⟨_, ho⟩ := Out.of_valid hv hi
  cases ho with
  | both hli _ => exact h1 (hp i j hi _ b hli hget ▸ List.mem_map_of_mem (List.mem_of_getElem? hli))

/-- When every matched pair has the same pointer on both sides,
    references that resolve in both inputs resolve in the merged document. -/
theorem references_resolve_partial (m : List M) (l r : G)
    (hv : ValidMatching m l.indis.length r.indis.length) (hp : SamePointers m l.indis r.indis)
    (hl : resolves l) (hr : resolves r) : resolves (mergeG m l r) := by
  rw [resolves_iff_none_merged_away m l r hv hl hr, danglingRefs_eq_nil]
  exact fun _ _ x _ => same_pointers_none_merged_away m l.indis r.indis hv hp x.2 ▸ Bool.false_ne_true

/-! Non-vacuity and the witness of `dangling_counterexample` through `danglingRefs` -/
example : danglingRefs witnessM witnessL witnessR = [(10, (0, 3)), (10, (2, 4))] := by decide +kernel
example : danglingRefs copyM witnessL copyR = [] := by decide +kernel
/-- renumbered copy where one person is *not* matched: `@4@` is carried over, only `@3@` dangles -/
example : danglingRefs [.both 0 0, .left 1, .right 1] witnessL witnessR = [(10, (0, 3))] := by decide +kernel

end Gedcom.C10

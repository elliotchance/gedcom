/-
  C13 — Reads never modify a document and views reflect every edit.

  Property theorems only; the lemmas are in `Gedcom.Lemmas.Cache*`, the executable model (the one
  the driver runs against the real code) in `Gedcom.Model.Cache`.

  Shape.  `step fl s op` is one public-API call on the document-with-caches `s`; `fl` says which
  edit method resets which cache and is *regenerated from the Go source on every run*
  (`Gedcom.Cache.flags`, from `Generated.rawCacheFlags`).  `abs s` forgets every cache; `specView (abs s) v`
  recomputes view `v` from the bare node structure — what a document answers that has never
  cached anything, i.e. a freshly decoded one.  `Inv s` = every id allocated ∧ every cache entry
  equals the recomputed value (and the pointer index is complete).

  Everything is stated for *all* states, operations and histories — no bound on document size or
  history length.
-/
import Gedcom.Lemmas.CacheTree
import Gedcom.Lemmas.CacheAlpha
import Gedcom.Lemmas.CacheEff
import Gedcom.Props.C01
namespace Gedcom.C13
open Gedcom.Cache

/-- **Obligation on the code.**  Every invalidation the proofs below need is present in the Go
    source (`Flags.sufficient` lists them; the three flags it leaves out are redundant given the
    others, so removing those statements from the code is harmless and does not break this).
    It stops checking the moment a needed cache reset disappears from /repo. -/
theorem flags_as_expected : Cache.flags.sufficient = true := by decide

/-- the flags of the current tree, written as the family the lemmas are proved for -/
theorem flags_eq : Cache.flags = Flags.goodWith Cache.flags.setHusbandPointerClearsCache
    Cache.flags.setWifePointerClearsCache Cache.flags.addFamilyResetsFamilies :=
  Flags.eq_goodWith _ flags_as_expected

/-- A freshly decoded document (pointer index built once, every cache empty) is coherent. -/
theorem coherent_init (heap : List NodeRec) (roots : List Id)
    (hr : ∀ r ∈ roots, r < heap.length) (hk : ∀ n c, c ∈ (Abs.mk heap roots).kids n → c < heap.length) :
    Inv (initOf heap roots) :=
  init_inv heap roots ⟨hr, hk⟩

/-- Whatever code has (at least) the listed invalidations keeps every cache coherent under every
    operation of the public edit API and every read. -/
theorem coherent_step_of_sufficient (fl : Flags) (hf : fl.sufficient = true) (s : St) (op : Op)
    (h : Inv s) : Inv (step fl s op).1 := by
  rw [Flags.eq_goodWith fl hf]
  exact step_keeps _ Inv op h fun hok => (exec_good h op hok).1

/-- … in particular the code in /repo now. -/
theorem coherent_step (s : St) (op : Op) (h : Inv s) : Inv (step Cache.flags s op).1 :=
  coherent_step_of_sufficient _ flags_as_expected s op h

/-- … hence after every finite history, of any length. -/
theorem coherent_run (ops : List Op) : ∀ (s : St), Inv s → Inv (run Cache.flags s ops).1 :=
  run_keeps Cache.flags Inv coherent_step ops

/-- In a coherent state every view named in the property answers exactly what the bare node
    structure gives — never a removed node, never missing an added one. -/
theorem views_fresh (s : St) (v : View) (h : Inv s) (hok : v.ok (abs s) = true) :
    (step Cache.flags s (.read v)).2 = specView (abs s) v := by
  rw [step_ok (op := .read v) hok]
  exact (runView_sound h.1.awf hok s h rfl).2.2

/-- … so after any history from a decoded document every view is fresh. -/
theorem views_fresh_after (heap : List NodeRec) (roots : List Id)
    (hr : ∀ r ∈ roots, r < heap.length) (hk : ∀ n c, c ∈ (Abs.mk heap roots).kids n → c < heap.length)
    (ops : List Op) (v : View) :
    let s := (run Cache.flags (initOf heap roots) ops).1
    v.ok (abs s) = true → (step Cache.flags s (.read v)).2 = specView (abs s) v :=
  fun hok => views_fresh _ v (coherent_run ops _ (coherent_init heap roots hr hk)) hok

/-! ## a decoded document stays a forest, and its views are those of a fresh decode of its text -/

/-- The state the decoder builds from any forest is coherent and every child has a larger id than
    its parent (preorder layout). -/
theorem tree_init (f : Forest) : TInv (ofForest f) :=
  ⟨init_inv _ _ (ofForest_awf f), fun n c hc => (ofForest_kids f n c hc).1⟩

/-- Every operation keeps both: caches coherent, and the document a forest (an edit only drops
    children or attaches a node it has just allocated). -/
theorem tree_step (s : St) (op : Op) (h : TInv s) : TInv (step Cache.flags s op).1 := by
  rw [flags_eq]
  exact step_keeps _ TInv op h fun hok => ⟨(exec_good h.1 op hok).1, (exec_good h.1 op hok).2.mono h.2⟩

/-- … hence after every finite history from a decoded document. -/
theorem tree_run (ops : List Op) : ∀ (s : St), TInv s → TInv (run Cache.flags s ops).1 :=
  run_keeps Cache.flags TInv tree_step ops

/-- **The views of a long-lived document are those of a fresh decode of its text** (C01 link).

    `toForest (abs s)` is the forest `Document.String()` writes (`string_is_encode`); by C01
    (`decode_encode`) decoding the encoder's text gives exactly that forest back, under every
    decoder option; `ofForest` is the state `NewDocumentFromString` builds from it (preorder
    layout).  `psi (abs s)` sends a node of the fresh document to the live node at the same
    position.  Then, with whatever the live document has in its caches:

    * every view that can be asked of the fresh document answers, node for node and in order
      (under `psi`), what the same view answers on the live document at the corresponding node;
    * every attached record of the live document is the `psi`-image of a fresh node, so this covers
      every view of every record the text contains.

    That the re-allocated heap is the live heap renumbered is `fresh_iso`; what it needs — the live heap
    has no cycle — is in `TInv`, which `tree_run` establishes for every state reachable from a decoded
    document.  `Legal` is C01's hypothesis on the strings (no line breaks in values, …). -/
theorem views_fresh_decode (s : St) (h : TInv s) (bom : Bool) (o : Dec.Opts)
    (hl : C01.Legal ⟨bom, toForest (abs s)⟩) :
    ∃ d : Dec.Doc, Dec.decode o (Dec.encode ⟨bom, toForest (abs s)⟩) = .ok d ∧
      (∀ v : View, v.ok (abs (ofForest d.nodes)) = true →
        ((step Cache.flags (ofForest d.nodes) (.read v)).2).map (psi (abs s)) =
          (step Cache.flags s (.read (v.map (psi (abs s))))).2) ∧
      (∀ n, Att (abs s) n → ∃ k, k < (ofForest d.nodes).heap.length ∧ psi (abs s) k = n) := by
  refine ⟨⟨bom, toForest (abs s)⟩, C01.decode_encode _ hl o, ?_, ?_⟩
  · intro v hok
    have w := h.1.1.awf
    have iso := fresh_iso w h.2.ranked
    have wf := ofForest_awf (toForest (abs s))
    have hinv : Inv (ofForest (toForest (abs s))) := init_inv _ _ wf
    have hs : ∀ n, v.subject = some n → n < (abs (ofForest (toForest (abs s)))).heap.length :=
      fun n hn => subject_lt wf hok hn
    rw [views_fresh _ v hinv hok, views_fresh s _ h.1 (ok_iso iso v hs hok), specView_iso iso v hs]
  · intro n hn
    exact att_psi h.1.1.awf h.2.ranked hn

/-- … in particular after any history on any decoded document. -/
theorem views_fresh_decode_run (f : Forest) (ops : List Op) (bom : Bool) (o : Dec.Opts)
    (hl : C01.Legal ⟨bom, toForest (abs (run Cache.flags (ofForest f) ops).1)⟩) :
    ∃ d : Dec.Doc,
      Dec.decode o (Dec.encode ⟨bom, toForest (abs (run Cache.flags (ofForest f) ops).1)⟩) = .ok d ∧
      (∀ v : View, v.ok (abs (ofForest d.nodes)) = true →
        ((step Cache.flags (ofForest d.nodes) (.read v)).2).map (psi (abs (run Cache.flags (ofForest f) ops).1)) =
          (step Cache.flags (run Cache.flags (ofForest f) ops).1
            (.read (v.map (psi (abs (run Cache.flags (ofForest f) ops).1))))).2) ∧
      (∀ n, Att (abs (run Cache.flags (ofForest f) ops).1) n →
        ∃ k, k < (ofForest d.nodes).heap.length ∧ psi (abs (run Cache.flags (ofForest f) ops).1) k = n) :=
  views_fresh_decode _ (tree_run ops _ (tree_init f)) bom o hl

/-- A read leaves the document (hence its GEDCOM text) unchanged … -/
theorem reads_keep_document (s : St) (op : Op) (h : Inv s) (hr : op.isRead = true) :
    abs (step Cache.flags s op).1 = abs s := by
  by_cases hok : op.ok (abs s) = true
  · rw [step_ok hok, flags_eq]
    exact (exec_read h hok hr).2
  · rw [step_bad hok]

/-- … and every view answers the same before and after it. -/
theorem reads_pure (s : St) (op : Op) (v : View) (h : Inv s) (hr : op.isRead = true) :
    abs (step Cache.flags s op).1 = abs s ∧
    (step Cache.flags (step Cache.flags s op).1 (.read v)).2 = (step Cache.flags s (.read v)).2 := by
  have ha := reads_keep_document s op h hr
  refine ⟨ha, ?_⟩
  by_cases hok : v.ok (abs s) = true
  · rw [views_fresh _ v (coherent_step s op h) (ha ▸ hok), views_fresh s v h hok, ha]
  · rw [step_bad (op := .read v) (ha ▸ hok), step_bad (op := .read v) hok]

/-- `doc.String()` is a walk over the nodes: it answers the encoder's text of the current forest
    and touches no cache … -/
theorem string_is_encode (s : St) :
    step Cache.flags s .string = (s, .text (Dec.encForest 0 (toForest (abs s)))) := rfl

/-- … so no read — a view, `Warnings()`, `String()`, `GEDCOMString()`, or one of the black boxes —
    changes the GEDCOM text. -/
theorem reads_keep_text (s : St) (op : Op) (h : Inv s) (hr : op.isRead = true) :
    (step Cache.flags (step Cache.flags s op).1 .string).2 = (step Cache.flags s .string).2 := by
  rw [string_is_encode, string_is_encode, reads_keep_document s op h hr]

/-! ## the model's step is the source's statement list

  `Generated/CacheEffects.lean` holds, for SimpleNode / FamilyNode / IndividualNode `.AddNode`,
  `.DeleteNode`, `.SetNodes` and for `Document.DeleteNode`, `.SetNodes`, the statements of the Go method
  body in source order (go/ast; `if didDelete`, `if node.document != nil` as guards; private helpers
  inlined; anything unrecognised is `.bad`), and the version protocol of `IndividualNode.Families()` /
  `Spouses()`.  `CacheEff.runBody` interprets a list on the model's state. -/

open Gedcom.CacheEff in
/-- **Obligation**: every statement of the eleven bodies is inside the fragment (nothing was
    skipped or guessed). -/
theorem mutators_translated :
    (inFragment Generated.simpleAddNode && inFragment Generated.simpleDeleteNode &&
     inFragment Generated.simpleSetNodes && inFragment Generated.familyAddNode &&
     inFragment Generated.familyDeleteNode && inFragment Generated.familySetNodes &&
     inFragment Generated.individualAddNode && inFragment Generated.individualDeleteNode &&
     inFragment Generated.individualSetNodes && inFragment Generated.documentDeleteNode &&
     inFragment Generated.documentSetNodes) = true := by decide

/-- **Obligation**: only SimpleNode, FamilyNode and IndividualNode (and Document, for its root list)
    define the three methods — the dispatch by tag in `addNodeSrc` … is complete. -/
theorem overriders_as_modelled :
    Generated.overriders =
      [("AddNode", ["Document", "FamilyNode", "IndividualNode", "SimpleNode"]),
       ("DeleteNode", ["Document", "FamilyNode", "IndividualNode", "SimpleNode"]),
       ("SetNodes", ["Document", "FamilyNode", "IndividualNode", "SimpleNode"])] := by decide +kernel

/-- **Obligation**: both cached getters follow the version protocol — read (cached, stamp, value),
    trust it iff `cached && stamp == familyLinksVersion`, store (value, true, current version) — each
    with its *own* three fields. -/
theorem getters_translated :
    Generated.getterFamilies =
      ⟨["cachedFamilies", "familiesVersion", "families"], .cachedAndVersionCurrent,
       [("families", .result), ("cachedFamilies", .yes), ("familiesVersion", .docVersion)]⟩ ∧
    Generated.getterSpouses =
      ⟨["cachedSpouses", "spousesVersion", "spouses"], .cachedAndVersionCurrent,
       [("spouses", .result), ("cachedSpouses", .yes), ("spousesVersion", .docVersion)]⟩ := by decide +kernel

/-- … so a stamp written by one getter can never validate what the other remembered. -/
theorem getter_stamps_separate :
    (Generated.getterFamilies.snapshot.all fun f => !Generated.getterSpouses.snapshot.contains f) = true ∧
    (Generated.getterFamilies.stores.all fun f => !Generated.getterSpouses.snapshot.contains f.1) = true ∧
    (Generated.getterSpouses.stores.all fun f => !Generated.getterFamilies.snapshot.contains f.1) = true := by
  decide +kernel

/-- The protocol in the small: what was stored under the current version is trusted; after
    `familyLinksVersion++` nothing stored before is — the model's `bumpFamilyLinks` (drop every
    entry) is exactly that. -/
theorem version_protocol {α : Type} (V : Nat) (v : α) (c : CacheEff.Cell α) (h : c.version ≤ V) :
    (CacheEff.Cell.store V v).get V = some v ∧ c.get (V + 1) = none ∧ (CacheEff.Cell.store V v).version ≤ V :=
  ⟨CacheEff.cell_store_get V v, CacheEff.cell_bump_miss c V h, CacheEff.cell_store_le V v⟩

open Gedcom.CacheEff in
/-- **`n.DeleteNode(c)`, `n.SetNodes(ks)`, `n.AddNode(x)`, `doc.DeleteNode(r)`, `doc.SetNodes(ks)` of the
    model are the translated bodies, run in source order** (dispatched on the Go type of the receiver,
    which the tag decides; `AddNode` after the new node was allocated).  The model's step for these
    operations is therefore *derived from* the source's statement list: a statement added, removed,
    reordered or put under another condition in the Go method changes the right-hand side. -/
theorem step_is_source (s : St) :
    (∀ n c, (exec Cache.flags s (.deleteNode n c)).1 = runBody sup ⟨n, c, []⟩ (deleteNodeSrc ((abs s).tag n)) s) ∧
    (∀ n ks, (exec Cache.flags s (.setNodes n ks)).1 = runBody sup ⟨n, 0, ks⟩ (setNodesSrc ((abs s).tag n)) s) ∧
    (∀ n t v p, (exec Cache.flags s (.addNode n t v p)).1 =
      runBody sup ⟨n, s.heap.length, []⟩ (addNodeSrc ((abs (alloc ⟨t, v, p, [], 0⟩ s)).tag n))
        (alloc ⟨t, v, p, [], 0⟩ s)) ∧
    (∀ r, (exec Cache.flags s (.docDelete r)).1 = runBody sup ⟨0, r, []⟩ Generated.documentDeleteNode s) ∧
    (∀ ks, (exec Cache.flags s (.docSetNodes ks)).1 = runBody sup ⟨0, 0, ks⟩ Generated.documentSetNodes s) := by
  rw [flags_eq]
  simp only [exec]
  exact ⟨fun n c => deleteKid_is_source n c s, fun n ks => setKidsOp_is_source n ks s,
    fun n t v p => addKid_is_source n s.heap.length (alloc ⟨t, v, p, [], 0⟩ s),
    fun r => docDelete_is_source r s, fun ks => docSetNodes_is_source ks s⟩

/-! ## the statement fails without the invalidations: concrete histories (replayed on the code) -/

/-- one individual `0` with a NAME child `1` -/
def demoHeap : List NodeRec := [⟨tINDI, [], [73, 49], [1], 0⟩, ⟨tNAME, [74], [], [], 0⟩]
def demoInit : St := initOf demoHeap [0]

/-- read Names twice (the first call only registers the node), delete the name, read again -/
def staleHistory : List Op :=
  [.read (.nodesWithTag 0 tNAME), .read (.nodesWithTag 0 tNAME), .deleteNode 0 1, .read (.nodesWithTag 0 tNAME)]

/-- the code as it was: `SimpleNode.DeleteNode` does not reset the node cache -/
def flagsNoDeleteReset : Flags := { Flags.good with simpleDeleteResetsNodeCache := false }

/-- without the reset the deleted NAME is still returned … -/
theorem stale_read_counterexample :
    (run flagsNoDeleteReset demoInit staleHistory).2 = [.ids [some 1], .ids [some 1], .none, .ids [some 1]] := by
  decide +kernel

/-- … with it, it is not. -/
theorem fresh_read_example :
    (run Flags.good demoInit staleHistory).2 = [.ids [some 1], .ids [some 1], .none, .ids []] := by
  decide +kernel

/-- one childless family `0` (pointer F); `Document.DeleteNode` without its resets keeps
    answering the deleted family from `Families()` and `NodeByPointer` -/
def famHeap : List NodeRec := [⟨tFAM, [], [70], [], 0⟩]
def flagsNoDocDelete : Flags :=
  { Flags.good with docDeleteRebuildsPointers := false, docDeleteClearsFamilies := false,
                    docDeleteResetsIndividuals := false }
def docDeleteHistory : List Op := [.read .families, .docDelete 0, .read .families, .read (.byPointer [70])]

theorem stale_family_counterexample :
    (run flagsNoDocDelete (initOf famHeap [0]) docDeleteHistory).2 =
      [.ids [some 0], .none, .ids [some 0], .ids [some 0]] := by decide +kernel

theorem fresh_family_example :
    (run Flags.good (initOf famHeap [0]) docDeleteHistory).2 =
      [.ids [some 0], .none, .ids [], .ids [none]] := by decide +kernel

/-- the same through `Document.SetNodes(nil)` -/
def flagsNoDocSetNodes : Flags :=
  { Flags.good with docSetNodesRebuildsPointers := false, docSetNodesClearsFamilies := false,
                    docSetNodesResetsIndividuals := false }
def docSetNodesHistory : List Op := [.read .families, .docSetNodes [], .read .families, .read (.byPointer [70])]

theorem stale_setnodes_counterexample :
    (run flagsNoDocSetNodes (initOf famHeap [0]) docSetNodesHistory).2 =
      [.ids [some 0], .none, .ids [some 0], .ids [some 0]] := by decide +kernel

theorem fresh_setnodes_example :
    (run Flags.good (initOf famHeap [0]) docSetNodesHistory).2 =
      [.ids [some 0], .none, .ids [], .ids [none]] := by decide +kernel

/-- family `0` (F) and individual `1` (I1): `Families()` of the individual is cached empty, then
    `AddChild` — without the FamilyNode override the individual still has no family -/
def childHeap : List NodeRec := [⟨tFAM, [], [70], [], 0⟩, ⟨tINDI, [], [73, 49], [], 0⟩]
def flagsNoFamilyOverride : Flags :=
  { Flags.good with familyAddResetsCaches := false, familyDeleteResetsCaches := false,
                    familySetNodesResetsCaches := false }
def addChildHistory : List Op := [.read (.indFamilies 1), .addChild 0 1, .read (.indFamilies 1), .read (.parents 1)]

theorem stale_individual_counterexample :
    (run flagsNoFamilyOverride (initOf childHeap [0, 1]) addChildHistory).2 =
      [.ids [], .none, .ids [], .ids []] := by decide +kernel

theorem fresh_individual_example :
    (run Flags.good (initOf childHeap [0, 1]) addChildHistory).2 =
      [.ids [], .none, .ids [some 0], .ids [some 0]] := by decide +kernel

/-! ## the rest of the alphabet — `DeleteNodesWithTag`, subtrees, names and events

  `Op.deleteNodesWithTag`, the views `names` / `eventsOf` / `allEvents` are constructors of `Op` / `View`,
  so every theorem above (`coherent_step`, `tree_step`, `views_fresh`, `views_fresh_decode`, `reads_pure`,
  …) already quantifies over them.  What follows is what is specific to them. -/

/-- **`DeleteNodesWithTag(n, t)`**: afterwards the children of `n` are the former ones without those
    tagged `t`, in the same order (also when matching and other children alternate — the in-place
    loop this function once was skipped the node after each removed one); nothing else of the
    document changes. -/
theorem deleteNodesWithTag_spec (s : St) (n : Nat) (t : Str) (hn : n < s.heap.length) :
    (abs (step Cache.flags s (.deleteNodesWithTag n t)).1).kids n =
      ((abs s).kids n).filter (fun c => !((abs s).tag c == t)) ∧
    (∀ m, m ≠ n → (abs (step Cache.flags s (.deleteNodesWithTag n t)).1).kids m = (abs s).kids m) ∧
    (∀ m, (abs (step Cache.flags s (.deleteNodesWithTag n t)).1).tag m = (abs s).tag m) ∧
    (∀ m, (abs (step Cache.flags s (.deleteNodesWithTag n t)).1).value m = (abs s).value m) ∧
    (∀ m, (abs (step Cache.flags s (.deleteNodesWithTag n t)).1).ptr m = (abs s).ptr m) ∧
    (abs (step Cache.flags s (.deleteNodesWithTag n t)).1).roots = (abs s).roots ∧
    (abs (step Cache.flags s (.deleteNodesWithTag n t)).1).heap.length = (abs s).heap.length := by
  rw [step_deleteNodesWithTag s n t hn, flags_eq, abs_deleteKidsWithTag]
  exact ⟨kids_setKids_self hn, fun m hm => kids_setKids_ne hm, fun m => tag_setKids,
    fun m => value_setKids, fun m => ptr_setKids, rfl, setKids_length _ _ _⟩

open Gedcom.CacheEff in
/-- **Obligation**: every statement of `Document.AddNode` (helper `addPointerToCache` inlined, go/ast) is
    inside the fragment — nothing skipped or guessed — and the body ends with the version bump. -/
theorem document_addNode_translated :
    docAddFragment Generated.documentAddNode = true ∧
    Generated.documentAddNode.getLast? = some ⟨.always, .bumpLinks⟩ := by decide

open Gedcom.CacheEff in
/-- **`doc.AddNode(record)` of the model is the translated body of `Document.AddNode`**, run in source
    order on the state in which the record has been allocated — for a plain node, an INDI record and a
    FAM record alike (the guards `pointer != ""` and `case TagFamily` are evaluated on the record). -/
theorem docAddNode_is_source (s : St) (t v p : Str) :
    (exec Cache.flags s (.docAddNode t v p)).1 =
      runDocAdd s.heap.length Generated.documentAddNode (alloc ⟨t, v, p, [], 0⟩ s) := by
  rw [flags_eq]
  exact docAppend_is_source _ s

/-- **Obligation**: the body of `DeleteNodesWithTag` (go/ast, `Generated.deleteNodesWithTagLoop`) is a
    loop over a *copy* of the child list, tests the tag, and calls `DeleteNode` on the loop variable —
    nothing else. -/
theorem deleteNodesWithTag_translated :
    Generated.deleteNodesWithTagLoop = ⟨.copyOfKids, .tagIs, [.deleteNodeCall]⟩ := by decide

/-- **The model's `DeleteNodesWithTag` is that loop**, run with the model's own `DeleteNode` step (which
    `step_is_source` in turn derives from the statements of the `DeleteNode` bodies): the closed form
    the machine executes and the source's call sequence reach the same state, caches included. -/
theorem deleteNodesWithTag_is_source (s : St) (n : Nat) (t : Str) (hn : n < s.heap.length) :
    CacheEff.runTagLoop Cache.flags Generated.deleteNodesWithTagLoop n t s =
      some (exec Cache.flags s (.deleteNodesWithTag n t)).1 := by
  rw [deleteNodesWithTag_translated, flags_eq]
  show some (deleteLoop _ n t s) = some (deleteKidsWithTag _ n t s)
  rw [deleteKidsWithTag_is_loop s hn t]

/-- … and no view returns a removed node: with whatever was cached before, the children-by-tag
    lookup for that tag answers the empty list right after the call. -/
theorem deleted_by_tag_not_viewed (s : St) (n : Nat) (t : Str) (h : Inv s) (hn : n < s.heap.length) :
    (step Cache.flags (step Cache.flags s (.deleteNodesWithTag n t)).1 (.read (.nodesWithTag n t))).2 =
      .ids [] := by
  obtain ⟨-, -, -, -, -, -, hl⟩ := deleteNodesWithTag_spec s n t hn
  have hok : (View.nodesWithTag n t).ok (abs (step Cache.flags s (.deleteNodesWithTag n t)).1) = true := by
    simp only [View.ok, decide_eq_true_eq]
    rw [hl]; exact hn
  rw [views_fresh _ _ (coherent_step s (.deleteNodesWithTag n t) h) hok, step_deleteNodesWithTag s n t hn,
    flags_eq]
  simp only [specView, specNWT_deleteKidsWithTag s hn t]
  rfl

/-- **One call with a subtree** (`n.AddNode(NewNode(…, children…))`, `doc.AddNode(subtree)`,
    `doc.AddIndividual(ptr, children…)`, run by the model as the history `addTreeOps` /
    `docAddTreeOps` / `addIndividualWithOps`, all or nothing): it keeps the invariant of reachable
    states, so `views_fresh_decode` holds after it … -/
theorem subtree_call_keeps_invariant (s : St) (ops : List Op) (h : TInv s) :
    TInv (runAtomic Cache.flags s ops).1 := by
  unfold runAtomic
  split
  · exact h
  · exact tree_run ops s h

/-- … and a call that is rejected (a tag `NewNode` panics for anywhere in the subtree, a receiver
    that is not in the document) leaves no trace. -/
theorem subtree_call_atomic (s : St) (ops : List Op) (hb : (runAtomic Cache.flags s ops).2 = .bad) :
    (runAtomic Cache.flags s ops).1 = s := by
  unfold runAtomic at hb ⊢
  split
  · rfl
  · rename_i hc
    rw [if_neg hc] at hb
    cases hb

/-- **Obligation on the code** (the event table is regenerated from `Tag.IsEvent()`): the four tags
    the event accessors look up are event tags … -/
theorem event_accessors_are_events : eventAccessorTags.all isEventTag = true := by decide +kernel

/-- … hence `Births()`, `Baptisms()`, `Deaths()`, `Burials()` each answer a sub-sequence of
    `AllEvents()` (same nodes, same order), on every document. -/
theorem event_accessors_within_allEvents (a : Abs) (i : Id) (t : Str)
    (ht : eventAccessorTags.contains t = true) : (specNWT a i t).Sublist (specAllEvents a i) := by
  apply specNWT_sublist_allEvents
  have hm : t ∈ eventAccessorTags := by simpa using ht
  exact List.all_eq_true.mp event_accessors_are_events t hm

/-! ## non-vacuity -/

/-- `views_fresh_decode` is about something: a decoded two-node document, edited -/
def demoForest : Forest := [.mk tINDI [] [73, 49] [.mk tNAME [74] [] []]]
example : abs (ofForest demoForest) = abs demoInit := by rfl
example : Inv demoInit := (tree_init demoForest).1
example : TInv (run Cache.flags (ofForest demoForest) [.read (.nodesWithTag 0 tNAME), .addNode 0 tNAME [75] [],
    .deleteNode 0 1]).1 := tree_run _ _ (tree_init _)
example : (abs (run Cache.flags (ofForest demoForest) [.addNode 0 tNAME [75] [], .deleteNode 0 1]).1).kids 0 = [2] := by
  decide +kernel
example : psi (abs (run Cache.flags (ofForest demoForest) [.addNode 0 tNAME [75] [], .deleteNode 0 1]).1) 1 = 2 := by
  decide +kernel

/-- NAME, BIRT, NAME below one individual: `DeleteNodesWithTag(NAME)` keeps the BIRT; a subtree
    BIRT{DATE} added in one call; names and events as views -/
def demoForest2 : Forest := [.mk tINDI [] [73, 49] [.mk tNAME [74] [] [], .mk tBIRT [] [] [], .mk tNAME [75] [] []]]
example : (run Cache.flags (ofForest demoForest2)
    [.read (.names 0), .read (.names 0), .deleteNodesWithTag 0 tNAME, .read (.names 0), .read (.allEvents 0),
     .read (.eventsOf 0 tBIRT), .read (.eventsOf 0 tNAME)]).2 =
    [.ids [some 1, some 3], .ids [some 1, some 3], .none, .ids [], .ids [some 2], .ids [some 2], .bad] := by decide +kernel
example : (abs (runAtomic Cache.flags (ofForest demoForest2)
    (addTreeOps 0 4 (.mk tDEAT [] [] [.mk tDATE [49] [] []]))).1).kids 4 = [5] := by decide +kernel
example : (runAtomic Cache.flags (ofForest demoForest2)
    (addTreeOps 0 4 (.mk tDEAT [] [] [.mk tHUSB [49] [] []]))).2 = .bad := by decide +kernel
example : (View.nodesWithTag 0 tNAME).ok (abs demoInit) = true := by decide
example : (Op.addChild 0 1).ok (abs (initOf childHeap [0, 1])) = true := by decide
example : (Op.read (.indFamilies 1)).isRead = true := rfl

end Gedcom.C13

/-
  C15 — queries never crash: parsing returns a query or a syntax error, evaluation returns a
  value or an error (no panic, no stack overflow, no endless loop), every result can be handed to
  every formatter.

  The theorems are about the functions the driver runs (`Gedcom.Q.parse`, `evalTop`, `evalRaw`,
  `evalVar`, `formatOutcome`), for all query strings / programs / documents / fuel.  The code
  facts regenerated on every run and used here through `decide`:
  `Generated.Query.evaluateRecovers` / `evaluateRecoversNoDocuments` (the deferred recover),
  `Generated.Query.cycleGuard` (a variable that is re-entered while being evaluated is an error),
  `Generated.Query.fmtIsNilPanics` / `fmtCsvNilPanics` (formatters and nil tests).
-/
import Gedcom.Lemmas.Query
namespace Gedcom.C15
open Gedcom.Q

/-- the tokenizer model has a deterministic equivalent for every regenerated token pattern -/
theorem patterns_known : patternsKnown = true := by decide +kernel

/-- `parse` is a total function on byte strings (Lean accepted the mutual
    recursion of the parser on the strictly decreasing remaining token list, and the tokenizer
    is structural on the input): for every query string it returns a compiled query or a
    syntax error — there is no third outcome. -/
theorem parse_total (s : Str) : (∃ e, parse s = .ok e) ∨ parse s = .syntaxError := by
  cases h : parse s with
  | ok e => exact Or.inl ⟨e, rfl⟩
  | syntaxError => exact Or.inr rfl

/-- a compiled query is exactly a statement list that consumed every token -/
theorem parse_ok_iff (ts : List Token) (e : Engine) :
    parseTokens ts = .ok e ↔ ∃ h, pStmts ";" ts = some (e, ⟨[], h⟩) := by
  unfold parseTokens
  constructor
  · intro hp
    split at hp
    · rename_i ss h heq
      cases hp
      exact ⟨h, heq⟩
    · cases hp
  · intro ⟨h, heq⟩
    simp [heq]

/-- package q evaluates on the goroutine that called `Engine.Evaluate`: its sources contain no
    `go` statement and no worker-pool call (regenerated go/ast fact; when the sources cannot be
    located the fact is `none` and only the correspondence ties this).  The deferred recover of
    `Evaluate` — the flag `evalTop_no_panic` rests on — protects that goroutine only: a panic on
    any other goroutine ends the process. -/
theorem evaluation_on_one_goroutine : Generated.Query.concurrencySites.getD [] = [] := by decide

theorem recoverNoDocs_true (o : Outcome Val) : recoverNoDocs true o = o := by
  unfold recoverNoDocs
  split <;> rfl

/-- the driver's `topOf` is `evalTop`: what the correspondence compares is what the theorems are about -/
theorem evalTop_eq_topOf (now fuel : Nat) (docs : List Forest) (eng : Engine) :
    evalTop now fuel docs eng = topOf (evalRaw now Generated.Query.cycleGuard fuel docs eng) := rfl

theorem evalTop_now (now fuel : Nat) (docs : List Forest) (eng : Engine) :
    evalTop now fuel docs eng = evalTopWith now true true fuel docs eng := by
  have h1 : Generated.Query.evaluateRecovers = true := by decide
  have h2 : Generated.Query.evaluateRecoversNoDocuments = true := by decide
  have h3 : Generated.Query.cycleGuard = true := by decide
  unfold evalTop
  rw [h1, h2, h3, recoverNoDocs_true]

/-- With the deferred recover in `Engine.Evaluate` (regenerated flag) no
    evaluation ends in a panic, for every program, every document list and every fuel. -/
theorem evalTop_no_panic (now fuel : Nat) (docs : List Forest) (eng : Engine) (p : PanicSite) :
    evalTop now fuel docs eng ≠ .panic p := by
  rw [evalTop_now]
  unfold evalTopWith
  cases evalRaw now true fuel docs eng <;> nofun

/-- with no documents at all (`Evaluate(nil)`, `Evaluate([]*Document{})`) the index panic of
    `documents[0]` is an error, for every program — the recover is installed before the first
    document is taken (regenerated flag `evaluateRecoversNoDocuments`) -/
theorem evalTop_no_documents (now fuel : Nat) (eng : Engine) :
    evalTop now fuel [] eng = .error (.recovered .noDocuments) := by
  rw [evalTop_now]; rfl

/-- the statement is false of an `Evaluate` that takes `documents[0]` outside its recover -/
theorem no_documents_counterexample (o : Outcome Val) (h : o = .error (.recovered .noDocuments)) :
    recoverNoDocs false o = .panic .noDocuments := by
  subst h; rfl

theorem recover_spec (o : Outcome Val) :
    recoverOutcome true o = (match o with | .panic p => .error (.recovered p) | o => o) := by
  cases o <;> rfl

/-- the statement is false of code without the recover (the tree before the repair):
    `Combine(1)` panics in `reflect.MakeSlice` — the witness replayed on the implementation -/
theorem no_recover_counterexample :
    evalTopWith 2026 false false 3 [[]] [.mk [] [.call (ascii "Combine") [.mk [] [.const (ascii "1")]]]]
      = .panic .makeSlice := by rfl

mutual
/-- One theorem per function of the definition, by its recursion; the arguments of a call need
    the membership form: which is evaluated, on what input, is decided inside the clause. -/
theorem ND_evalExpr (env : Env) (lk : Lookup) :
    ∀ (e : Expr) (v : Val), (∀ x ∈ varsE e, ∀ w, ND (lk x w)) → ND (evalExpr env lk e v)
  | .const _, _, _ => ND_ok _
  | .acc _, _, _ => ND_evalAccessor _ _ _ _
  | .var n, v, h => h n List.mem_cons_self v
  | .question, _, _ => ND_questionOf _ _
  | .obj fs, v, h => ND_mapDeep _ _ (fun x => ND_bind (ND_evalFields env lk fs x h) fun _ => ND_ok _) v
  | .bin l _ r, v, h =>
    have ⟨hl, hr⟩ := List.forall_mem_append.mp h
    ND_mapDeep _ _ (fun x => ND_bind (ND_evalExpr env lk l x hl) fun _ => ND_bind (ND_evalExpr env lk r x hr) fun _ => ND_ok _) v
  | .call f args, v, h => ND_evalCall_of_members f args v (ND_evalStmt_of_mem env lk args h)
theorem ND_evalPipe (env : Env) (lk : Lookup) :
    ∀ (es : List Expr) (v : Val), (∀ x ∈ varsEs es, ∀ w, ND (lk x w)) → ND (evalPipe env lk es v)
  | [], _, _ => ND_ok _
  | e :: es, v, h =>
    have ⟨h1, h2⟩ := List.forall_mem_append.mp h
    ND_bind (ND_evalExpr env lk e v h1) fun r => ND_evalPipe env lk es r h2
theorem ND_evalStmt (env : Env) (lk : Lookup) :
    ∀ (s : Stmt) (v : Val), (∀ x ∈ varsS s, ∀ w, ND (lk x w)) → ND (evalStmt env lk s v)
  | .mk _ es, v, h => ND_evalPipe env lk es v h
theorem ND_evalFields (env : Env) (lk : Lookup) :
    ∀ (fs : List (Str × Stmt)) (v : Val), (∀ x ∈ varsFs fs, ∀ w, ND (lk x w)) → ND (evalFields env lk fs v)
  | [], _, _ => ND_ok _
  | (_, s) :: fs, v, h =>
    have ⟨h1, h2⟩ := List.forall_mem_append.mp h
    ND_bind (ND_evalStmt env lk s v h1) fun _ => ND_bind (ND_evalFields env lk fs v h2) fun _ => ND_ok _
theorem ND_evalStmt_of_mem (env : Env) (lk : Lookup) :
    ∀ (ss : List Stmt), (∀ x ∈ varsSs ss, ∀ w, ND (lk x w)) → ∀ s ∈ ss, ∀ v, ND (evalStmt env lk s v)
  | [], _ => nofun
  | s :: ss, h =>
    have ⟨h1, h2⟩ := List.forall_mem_append.mp h
    List.forall_mem_cons.mpr ⟨fun v => ND_evalStmt env lk s v h1, ND_evalStmt_of_mem env lk ss h2⟩
end

theorem ND_evalArgs (env : Env) (lk : Lookup) :
    ∀ (ss : List Stmt) (v : Val), (∀ x ∈ varsSs ss, ∀ w, ND (lk x w)) → ND (evalArgs env lk ss v) :=
  fun ss v h => ND_evalArgs_of_members v ss fun s hs => ND_evalStmt_of_mem env lk ss h s hs v

theorem ND_evalCombine (env : Env) (lk : Lookup) (e : Ty) :
    ∀ (ss : List Stmt) (v : Val) (acc : List Val), (∀ x ∈ varsSs ss, ∀ w, ND (lk x w)) →
      ND (evalCombine env lk e ss v acc) :=
  fun ss v acc h => ND_evalCombine_of_members e v ss acc fun s hs => ND_evalStmt_of_mem env lk ss h s hs v

/-- the variable definitions are acyclic: some rank strictly decreases from every statement to
    every variable it mentions (statements that are not variables carry the name `""`) -/
def AcyclicVars (eng : Engine) : Prop :=
  ∃ rank : Str → Nat, ∀ s ∈ eng, ∀ y ∈ varsS s, rank y < rank s.name

/-- fuel above a measure that falls along every reference `evalVar` follows is never exhausted -/
theorem ND_evalVar (env : Env) (guard : Bool) (μ : List Str → Str → Nat)
    (hμ : ∀ active, ∀ s ∈ env.eng, (guard && active.contains s.name) = false →
      ∀ y ∈ varsS s, μ (s.name :: active) y < μ active s.name) :
    ∀ (n : Nat) (active : List Str) (x : Str) (v : Val), μ active x < n → ND (evalVar env guard n active x v)
  | 0, _, _, _, h => by omega
  | n + 1, active, x, v, hx => by
    unfold evalVar
    split
    · exact ND_error _
    · exact ND_ok _
    · rename_i s hl
      split
      · exact ND_error _
      · rename_i hg
        have ⟨hmem, hname⟩ := lookupVar_stmt hl
        subst hname
        refine ND_evalStmt env _ s v fun y hy w => ND_evalVar env guard μ hμ n _ y w ?_
        have := hμ active s hmem (by simpa using hg) y hy
        omega

theorem ND_evalAll (env : Env) (lk : Lookup) :
    ∀ (ss : List Stmt) (v : Val), (∀ s ∈ ss, ∀ y ∈ varsS s, ∀ w, ND (lk y w)) → ND (evalAll env lk ss v)
  | [], _, _ => ND_ok _
  | s :: ss, _, h =>
    have ⟨hs, hss⟩ := List.forall_mem_cons.mp h
    ND_bind (ND_evalStmt env lk s _ hs) fun r => ND_evalAll env lk ss r hss

theorem evalTopWith_ne_diverged (now : Nat) (recovers guard : Bool) (fuel : Nat) (docs : List Forest) (eng : Engine)
    (h : ∀ s ∈ eng, ∀ y ∈ varsS s, ∀ w, ND (evalVar (mkEnv now docs eng) guard fuel [] y w)) :
    evalTopWith now recovers guard fuel docs eng ≠ .diverged := by
  have hraw : ND (evalRaw now guard fuel docs eng) := by
    unfold evalRaw
    split
    · exact ND_panic _
    · exact ND_evalAll _ _ _ _ h
  unfold evalTopWith recoverOutcome
  split
  · split <;> nofun
  · exact hraw.ne

/-- A program whose variable definitions are acyclic is evaluated with
    finite recursion depth: from some fuel on, the evaluation never runs out of fuel — on any
    documents, with or without recover and cycle guard.  (The bound is 1 + the largest rank.) -/
theorem eval_terminates (eng : Engine) (h : AcyclicVars eng) :
    ∃ fuel, ∀ f, fuel ≤ f → ∀ (now : Nat) (recovers guard : Bool) (docs : List Forest),
      evalTopWith now recovers guard f docs eng ≠ .diverged := by
  obtain ⟨rank, hacy⟩ := h
  refine ⟨(eng.map fun s => rank s.name).max?.getD 0 + 1, fun f hf now recovers guard docs => ?_⟩
  apply evalTopWith_ne_diverged
  intro s hs y hy w
  apply ND_evalVar _ guard (fun _ => rank) (fun _ s hs _ => hacy s hs)
  have h1 := hacy s hs y hy
  have h2 : rank s.name ≤ _ := List.le_max?_getD_of_mem (k := 0) (List.mem_map_of_mem (f := fun s => rank s.name) hs)
  omega

theorem acyclic_of_no_vars (eng : Engine) (h : ∀ s ∈ eng, varsS s = []) : AcyclicVars eng :=
  ⟨fun _ => 0, fun s hs y hy => by rw [h s hs] at hy; cases hy⟩

/-- the cyclic witness `X is X; X` -/
def cyclic : Engine := [.mk (ascii "X") [.var (ascii "X")], .mk [] [.var (ascii "X")]]

theorem cyclic_var_diverges (now : Nat) :
    ∀ (n : Nat) (active : List Str) (v : Val),
      evalVar (mkEnv now [[]] cyclic) false n active (ascii "X") v = .diverged
  | 0, _, _ => rfl
  | n + 1, active, v => by
    -- `X` names the statement `X is X`, whose body is the variable `X` again
    show (evalVar (mkEnv now [[]] cyclic) false n (ascii "X" :: active) (ascii "X") v >>= _) = _
    rw [cyclic_var_diverges now n]
    rfl

/-- Without a cycle guard (the tree before the repair) the program
    `X is X; X` needs unbounded recursion depth: it runs out of every fuel — in Go, the stack
    overflows, which no recover can catch. -/
theorem cyclic_diverges (now fuel : Nat) (recovers : Bool) :
    evalTopWith now recovers false fuel [[]] cyclic = .diverged := by
  show recoverOutcome recovers ((evalVar (mkEnv now [[]] cyclic) false fuel [] (ascii "X") (.doc 0) >>= _) >>= _) = _
  rw [cyclic_var_diverges]
  rfl

/-- with the cycle guard the same program is an error, at every fuel ≥ 2 -/
theorem cyclic_guarded (now n : Nat) (recovers : Bool) :
    evalTopWith now recovers true (n + 2) [[]] cyclic = .error .cycle := by
  cases recovers <;> rfl

theorem cyclic_is_error_now (now : Nat) : evalTop now (defaultFuel [[]] cyclic) [[]] cyclic = .error .cycle := by
  rw [evalTop_now]
  exact cyclic_guarded now 3 _

/-- With the cycle guard every program terminates, cyclic or not: each
    nested variable names a statement that is not yet being evaluated, so the number of those
    bounds the nesting depth — fuel above the number of statements is never exhausted. -/
theorem guard_terminates (now : Nat) (eng : Engine) (docs : List Forest) (fuel : Nat) (hf : eng.length < fuel) (recovers : Bool) :
    evalTopWith now recovers true fuel docs eng ≠ .diverged := by
  apply evalTopWith_ne_diverged
  intro s _ y _ w
  refine ND_evalVar _ true (fun active _ => ((eng.map Stmt.name).filter (!active.contains ·)).length)
    (fun active s hs hg y _ => ?_) fuel [] y w ?_
  · simp only [List.contains_cons, Bool.not_or, ← List.filter_filter]
    exact List.length_filter_lt_length_iff_exists.mpr
      ⟨s.name, List.mem_filter.mpr ⟨List.mem_map_of_mem hs, by simpa using hg⟩, by simp⟩
  · exact Nat.lt_of_le_of_lt (List.length_filter_le _ _) (by simpa using hf)

/-- The evaluator of the current tree (regenerated cycle-guard flag), run
    with the fuel the driver uses, never diverges: no stack overflow, no endless loop. -/
theorem evalTop_terminates (now : Nat) (docs : List Forest) (eng : Engine) :
    evalTop now (defaultFuel docs eng) docs eng ≠ .diverged := by
  rw [evalTop_now]
  exact guard_terminates now eng docs _ (by unfold defaultFuel; omega) _

/-- the flags of the current tree: no formatter applies a nil test to a non-nillable value or
    calls ObjectMap on a nil pointer -/
theorem fmt_flags_now :
    Generated.Query.fmtIsNilPanics = false ∧ Generated.Query.fmtCsvNilPanics = false := by decide

def goodFlags : FmtFlags := ⟨false, false⟩

mutual
theorem gedcom_no_panic (v : Val) : fmtGedcom goodFlags v ≠ .panic := by
  cases v with
  | slice _ _ isNil vs =>
    unfold fmtGedcom
    cases isNil
    · exact gedcomList_no_panic vs
    · nofun
  | _ => nofun
theorem gedcomList_no_panic : ∀ vs, fmtGedcomList goodFlags vs ≠ .panic
  | [] => nofun
  | v :: vs => by
    unfold fmtGedcomList
    split
    · exact gedcomList_no_panic vs
    · exact gedcom_no_panic v
end

mutual
theorem html_no_panic (v : Val) : fmtHtml goodFlags v ≠ .panic := by
  cases v with
  | slice _ _ isNil vs =>
    unfold fmtHtml
    cases isNil
    · exact htmlList_no_panic vs
    · nofun
  | _ => nofun
theorem htmlList_no_panic : ∀ vs, fmtHtmlList goodFlags vs ≠ .panic
  | [] => nofun
  | v :: vs => by
    unfold fmtHtmlList
    split
    · exact htmlList_no_panic vs
    · exact html_no_panic v
end

theorem csv_no_panic (v : Val) : fmtCsv goodFlags v ≠ .panic := by
  cases v with
  | slice => simp [fmtCsv, goodFlags]
  | _ => nofun

/-- Every value the evaluator can return is written or refused with an error by
    every formatter (json, pretty-json, csv, gedcom, html and any unknown name): none panics —
    for the formatter flags of the current tree. -/
theorem format_total (format : String) (v : Val) :
    formatOutcome ⟨Generated.Query.fmtIsNilPanics, Generated.Query.fmtCsvNilPanics⟩ format v = .written ∨
    formatOutcome ⟨Generated.Query.fmtIsNilPanics, Generated.Query.fmtCsvNilPanics⟩ format v = .error := by
  rw [fmt_flags_now.1, fmt_flags_now.2]
  have key : formatOutcome goodFlags format v ≠ .panic := by
    unfold formatOutcome
    split
    · nofun
    · nofun
    · exact csv_no_panic v
    · exact gedcom_no_panic v
    · exact html_no_panic v
    · nofun
  show formatOutcome goodFlags format v = .written ∨ formatOutcome goodFlags format v = .error
  cases h : formatOutcome goodFlags format v with
  | written => exact Or.inl rfl
  | error => exact Or.inr rfl
  | panic => exact absurd h key

/-- the statement is false of formatters that test `IsNil` on every kind (the tree before the
    repair): a string result makes the gedcom and html formatters panic -/
theorem format_counterexample :
    formatOutcome ⟨true, true⟩ "gedcom" (.str (ascii "abc")) = .panic ∧
    formatOutcome ⟨true, true⟩ "html" (.int 3) = .panic ∧
    formatOutcome ⟨true, true⟩ "csv" (.slice "" (.ptr "NameNode") false [.nilNode "NameNode"]) = .panic := by
  decide +kernel

/-- Every method reflection finds on the document, on
    gedcom.Tag, on gedcom.Date and on every node type (regenerated table) that a query can call —
    no arguments, at least one result — is either evaluated by the model's menu (asked of
    `callMenu` itself) or declared outside it in `outsideMenu`; and every declaration names a
    method that exists and is not in the menu.  A new exported method breaks this obligation until
    it is modelled or declared. -/
theorem menu_classifies_reflected_methods : menuClassified = true ∧ outsideMenuExact = true := by decide +kernel

/-- For every query string, document list and format, with the fuel the
    driver uses: parsing gives a syntax error or a program; evaluating the program (current
    tree: recover + cycle guard) gives a value or an error — or the model says that the query
    leaves the modelled accessor menu; a value is written or refused by the formatter.  No
    panic, no divergence anywhere. -/
theorem query_never_crashes (now : Nat) (s : Str) (docs : List Forest) (format : String) :
    parse s = .syntaxError ∨
    ∃ eng, parse s = .ok eng ∧
      ((∃ k, evalTop now (defaultFuel docs eng) docs eng = .error k) ∨
       (∃ w, evalTop now (defaultFuel docs eng) docs eng = .unsupported w) ∨
       (∃ v, evalTop now (defaultFuel docs eng) docs eng = .ok v ∧
          (formatOutcome ⟨Generated.Query.fmtIsNilPanics, Generated.Query.fmtCsvNilPanics⟩ format v = .written ∨
           formatOutcome ⟨Generated.Query.fmtIsNilPanics, Generated.Query.fmtCsvNilPanics⟩ format v = .error))) := by
  cases hp : parse s with
  | syntaxError => exact Or.inl rfl
  | ok eng =>
    refine Or.inr ⟨eng, rfl, ?_⟩
    cases he : evalTop now (defaultFuel docs eng) docs eng with
    | ok v => exact Or.inr (Or.inr ⟨v, rfl, format_total format v⟩)
    | error k => exact Or.inl ⟨k, rfl⟩
    | panic p => exact absurd he (evalTop_no_panic now _ docs eng p)
    | diverged => exact absurd he (evalTop_terminates now docs eng)
    | unsupported w => exact Or.inr (Or.inl ⟨w, rfl⟩)

/-- an acyclic program with two variables, one used inside a function argument -/
def exAcyclic : Engine :=
  [.mk (ascii "A") [.acc (ascii ".Individuals")],
   .mk (ascii "B") [.var (ascii "A"), .call (ascii "Only") [.mk [] [.var (ascii "A")]]],
   .mk [] [.var (ascii "B"), .call (ascii "Length") []]]

example : AcyclicVars exAcyclic :=
  ⟨fun x => if x = ascii "A" then 0 else if x = ascii "B" then 1 else 2, by decide⟩

/-- the cyclic witness is not acyclic: no rank can satisfy `rank X < rank X` -/
example : ¬ AcyclicVars cyclic :=
  fun ⟨_, h⟩ => Nat.lt_irrefl _ (h _ List.mem_cons_self _ List.mem_cons_self)

/-- ill-typed pipeline, unknown accessor, wrong argument count, negative count: errors, not crashes -/
example : evalTop 2026 3 [[]] [.mk [] [.acc (ascii ".Nodes"), .acc (ascii ".Nodes"), .acc (ascii ".Nodes")]]
    = .error (.recovered .nilType) := by decide +kernel
example : evalTop 2026 3 [[]] [.mk [] [.acc (ascii ".Foo")]] = .error .noSuchAccessor := by decide +kernel
example : evalTop 2026 3 [[]] [.mk [] [.call (ascii "First") []]] = .error .argCount := by decide +kernel
example : evalTop 2026 3 [[.mk (ascii "INDI") [] (ascii "I1") []]]
    [.mk [] [.acc (ascii ".Individuals"), .call (ascii "First") [.mk [] [.const (ascii "-1")]]]]
    = .error (.recovered .sliceBounds) := by decide +kernel
example : evalTop 2026 3 [[]] [.mk [] [.call (ascii "Combine") [], .question]] = .error (.recovered .nilType) := by decide +kernel

end Gedcom.C15

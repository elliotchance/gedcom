/-
  C06 — Date-range comparison returns the documented interval relation.
  Property theorems (with the lemmas that serve only them).  All are about `compare`, which
  reads the *generated* table `Generated.compareMatrix` (probed from `DateRange.Compare` on every run), for all
  integer day numbers `a ≤ b`, `c ≤ d` — no window, no sample.
-/
import Gedcom.Lemmas.Compare
import Gedcom.Model.CompareSrc
namespace Gedcom.C06

/-- along each branch of the documentation's diagram the letters are known in both directions, and
    the table has the branch's constant at one pair and its converse at the other -/
theorem compare_diagram (a b c d : Int) (h1 : a ≤ b) (h2 : c ≤ d) :
    compare a b c d = documentedRel a b c d ∧ compare c d a b = conv (documentedRel a b c d) := by
  unfold documentedRel
  by_cases h : a = c ∧ b = d
  · rw [if_pos h]
    exact ⟨compare_of_letters (letterOf_start h.1) (letterEnd_end h.2),
      compare_of_letters (letterOf_start h.1.symm) (letterEnd_end h.2.symm)⟩
  rw [if_neg h]
  by_cases hac : a = c
  · have la := letterOf_start (e := d) hac
    have lc := letterOf_start (e := b) hac.symm
    rw [if_pos hac]
    by_cases hbd : b < d
    · rw [if_pos hbd]
      refine ⟨?_, compare_of_letters lc (letterEnd_after hbd h1)⟩
      by_cases hbc : b = c
      · exact compare_of_letters la (letterEnd_start hbc hbd)
      · exact compare_of_letters la (letterEnd_inside (by omega) hbd)
    · rw [if_neg hbd]
      refine ⟨compare_of_letters la (letterEnd_after (by omega) h2), ?_⟩
      by_cases hda : d = a
      · exact compare_of_letters lc (letterEnd_start hda (by omega))
      · exact compare_of_letters lc (letterEnd_inside (by omega) (by omega))
  rw [if_neg hac]
  by_cases hbd : b = d
  · have lb := letterEnd_end (s := c) hbd
    have ld := letterEnd_end (s := a) hbd.symm
    rw [if_pos hbd]
    by_cases hca : c < a
    · rw [if_pos hca]
      refine ⟨?_, compare_of_letters (letterOf_before hca h1) ld⟩
      by_cases had : a = d
      · exact compare_of_letters (letterOf_end had hca) lb
      · exact compare_of_letters (letterOf_inside hca (by omega)) lb
    · rw [if_neg hca]
      refine ⟨compare_of_letters (letterOf_before (by omega) h2) lb, ?_⟩
      by_cases hcb : c = b
      · exact compare_of_letters (letterOf_end hcb (by omega)) ld
      · exact compare_of_letters (letterOf_inside (by omega) (by omega)) ld
  rw [if_neg hbd]
  by_cases hac' : a < c
  · have la := letterOf_before hac' h2
    rw [if_pos hac']
    by_cases hbc : b < c
    · rw [if_pos hbc]
      exact ⟨compare_of_letters la (letterEnd_before hbc h2),
        compare_of_letters (letterOf_after hbc h1) (letterEnd_after (by omega) h1)⟩
    rw [if_neg hbc]
    by_cases hbc' : b = c
    · rw [if_pos hbc']
      exact ⟨compare_of_letters la (letterEnd_start hbc' (by omega)),
        compare_of_letters (letterOf_end hbc'.symm hac') (letterEnd_after (by omega) h1)⟩
    rw [if_neg hbc']
    have lc := letterOf_inside hac' (show c < b by omega)
    by_cases hbd' : b < d
    · rw [if_pos hbd']
      exact ⟨compare_of_letters la (letterEnd_inside (by omega) hbd'),
        compare_of_letters lc (letterEnd_after hbd' h1)⟩
    · rw [if_neg hbd']
      exact ⟨compare_of_letters la (letterEnd_after (by omega) h2),
        compare_of_letters lc (letterEnd_inside (by omega) (by omega))⟩
  rw [if_neg hac']
  have lc := letterOf_before (show c < a by omega) h1
  by_cases hda : d < a
  · rw [if_pos hda]
    exact ⟨compare_of_letters (letterOf_after hda h2) (letterEnd_after (by omega) h2),
      compare_of_letters lc (letterEnd_before hda h1)⟩
  rw [if_neg hda]
  by_cases had : a = d
  · rw [if_pos had]
    exact ⟨compare_of_letters (letterOf_end had (by omega)) (letterEnd_after (by omega) h2),
      compare_of_letters lc (letterEnd_start had.symm (by omega))⟩
  rw [if_neg had]
  have la := letterOf_inside (show c < a by omega) (show a < d by omega)
  by_cases hbd' : b < d
  · rw [if_pos hbd']
    exact ⟨compare_of_letters la (letterEnd_inside (by omega) hbd'),
      compare_of_letters lc (letterEnd_after hbd' h1)⟩
  · rw [if_neg hbd']
    exact ⟨compare_of_letters la (letterEnd_after (by omega) h2),
      compare_of_letters lc (letterEnd_inside (by omega) (by omega))⟩

/-- the result is the relation drawn in the documentation -/
theorem documented_relation (a b c d : Int) (h1 : a ≤ b) (h2 : c ≤ d) :
    compare a b c d = documentedRel a b c d :=
  (compare_diagram a b c d h1 h2).1

/-- swapping the operands yields the converse relation -/
theorem converse (a b c d : Int) (h1 : a ≤ b) (h2 : c ≤ d) :
    compare c d a b = conv (compare a b c d) := by
  rw [documented_relation a b c d h1 h2]
  exact (compare_diagram a b c d h1 h2).2

/-- a range compared with itself is `equal` (single-day ranges included) -/
theorem compare_self (a b : Int) (_h : a ≤ b) : compare a b a b = .equal := by
  rw [documented_relation a b a b _h _h]
  exact if_pos ⟨rfl, rfl⟩

/-- the same on dates of any granularity -/
theorem compareDates_self (s e : Date) (h : s.firstDay ≤ e.lastDay) :
    compareDates s e s e = .equal := compare_self _ _ h

theorem documentedRel_ne_invalid (a b c d : Int) : documentedRel a b c d ≠ .invalid := by
  unfold documentedRel
  repeat' apply ite_ne_of_ne
  all_goals nofun

/-- the result is never `invalid` when both ranges run forwards -/
theorem never_invalid (a b c d : Int) (h1 : a ≤ b) (h2 : c ≤ d) : compare a b c d ≠ .invalid := by
  rw [documented_relation a b c d h1 h2]
  exact documentedRel_ne_invalid a b c d

/-- exactly one of the simplified verdicts holds for every constant but `invalid` … -/
theorem verdict_table (r : Rel) (h : r ≠ .invalid) :
    (Generated.relIsEqual r && !Generated.relIsPartiallyEqual r && !Generated.relIsNotEqual r) ||
    (!Generated.relIsEqual r && Generated.relIsPartiallyEqual r && !Generated.relIsNotEqual r) ||
    (!Generated.relIsEqual r && !Generated.relIsPartiallyEqual r && Generated.relIsNotEqual r) = true := by
  cases r with
  | invalid => exact absurd rfl h
  | _ => decide

/-- … hence for every comparison of forward ranges -/
theorem verdict_exactly_one (a b c d : Int) (h1 : a ≤ b) (h2 : c ≤ d) :
    let r := compare a b c d
    (Generated.relIsEqual r && !Generated.relIsPartiallyEqual r && !Generated.relIsNotEqual r) ||
    (!Generated.relIsEqual r && Generated.relIsPartiallyEqual r && !Generated.relIsNotEqual r) ||
    (!Generated.relIsEqual r && !Generated.relIsPartiallyEqual r && Generated.relIsNotEqual r) = true :=
  verdict_table _ (never_invalid a b c d h1 h2)

/-- `entirelyBefore` is exactly "ends before the other starts" (what the
    wrong-event-order warning relies on) -/
theorem event_order (a b c d : Int) (h1 : a ≤ b) (h2 : c ≤ d) :
    compare a b c d = .entirelyBefore ↔ b < c := by
  rw [C20.compare_entirelyBefore]
  omega

/-! Non-vacuity: concrete non-trivial instances (tests, not the property). -/
example : compare 3 3 3 3 = .equal := by decide +kernel
example : compare 3 20 20 20 = .outsideEnd ∧ compare 20 20 3 20 = .insideEnd := by decide +kernel
example : compare 1 2 3 20 = .entirelyBefore ∧ (2:Int) < 3 := by decide +kernel

/-! ## The decision logic is the source's

`Generated/CompareSrc.lean` is read from date_range.go on every run with go/ast: the map literal
`dateRangeCompareMatrix`, the cases of the switch in `compareDatesForLetter` in order, and the
statements of `Compare`.  `CompareSrc.srcCompare` interprets them on whole-day numbers. -/

/-- **Obligation on the regenerated source shape**: `Compare` consists of exactly the four
    statements `srcCompare` mirrors, every case of the switch has a shape the interpretation
    understands, and all three instants are truncated to whole days before they are compared. -/
theorem compare_source_shape :
    Generated.compareStatements =
      ["start := compareDatesForLetter(dr.start, dr2.start, dr2.end)",
       "end := compareDatesForLetter(dr.end, dr2.start, dr2.end)",
       "if end == \"e\" && compareDatesForLetter(dr.end, dr2.end, dr2.end) == \"e\" { end = \"E\" }",
       "return dateRangeCompareMatrix[start+end]"] ∧
    CompareSrc.casesUnderstood Generated.letterCases = true ∧
    Generated.letterTruncations = 3 := by decide +kernel

theorem srcLetter_eq (v s e : Int) :
    CompareSrc.srcLetter v s e = CompareSrc.letterName (letterOf v s e) := by
  unfold CompareSrc.srcLetter letterOf
  -- `find?` over the four regenerated cases is the `if` chain of `letterOf`: the same four tests
  simp only [Generated.letterCases, Generated.letterDefault, List.find?, CompareSrc.caseHolds,
    String.reduceBEq, Bool.false_eq_true, ↓reduceIte]
  by_cases h1 : v = s
  · simp only [h1, beq_self_eq_true, ↓reduceIte]; rfl
  have b1 := beq_false_of_ne h1
  by_cases h2 : v = e
  · subst h2
    simp only [b1, h1, beq_self_eq_true, ↓reduceIte]; rfl
  have b2 := beq_false_of_ne h2
  by_cases h3 : v < s
  · simp only [b1, b2, h1, h2, h3, decide_true, ↓reduceIte]; rfl
  by_cases h4 : e < v <;> simp only [b1, b2, h1, h2, h3, h4, decide_true, decide_false, ↓reduceIte] <;> rfl

theorem fixup_name (l2 lf : Letter) :
    (if CompareSrc.letterName l2 == "e" && CompareSrc.letterName lf == "e" then "E"
     else CompareSrc.letterName l2) =
    CompareSrc.letterName (if l2 = .e ∧ lf = .e then .E else l2) := by
  cases l2 <;> cases lf <;> decide +kernel

/-- the map literal has the probed table's constant at every key the letters can form -/
theorem matrix_lookup (l1 l2 : Letter) :
    Generated.matrixSrc.lookup (CompareSrc.letterName l1 ++ CompareSrc.letterName l2) =
    some (CompareSrc.relName (Generated.compareMatrix l1 l2)) := by
  cases l1 <;> cases l2 <;> decide +kernel

/-- **The model's `compare` is the source's decision logic.** For all day numbers, interpreting
    the regenerated switch cases, fix-up statement and map literal gives the constant the model
    computes — whose table `Generated.compareMatrix` is probed from the running code.  So the two
    regenerated descriptions of `Compare` (behavioural probe and source translation) agree with
    each other and with the model, on every input. -/
theorem compare_is_the_source (a b c d : Int) :
    CompareSrc.srcCompare a b c d = some (CompareSrc.relName (compare a b c d)) := by
  unfold CompareSrc.srcCompare compare letterStart letterEnd
  simp only [srcLetter_eq]
  rw [fixup_name]
  exact matrix_lookup _ _

end Gedcom.C06

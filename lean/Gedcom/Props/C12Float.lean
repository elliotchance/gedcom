/-
  C12 on the float64 values themselves: the scores as the binary64 model (Model/Float64.lean,
  Model/Float64Jaro.lean) computes them — bit for bit what the implementation returns, tied by the
  requests `datesimf`, `jarof`, `jwf`, `strsimf`, `sim-indif`, `weightedf`.  Everything rests on
  Lemmas/Rounding, where nothing has a domain condition (the size bounds some statements here
  carry are not used):
  the operations are monotone, a result compares with an integer as its exact value does
  (`rnd_leNat`, `add_leNat`, …), and the two sums that could exceed one are covered by
  `add_le_one_of_compl`.
-/
import Gedcom.Lemmas.Rounding
import Gedcom.Model.Float64Jaro
import Gedcom.Lemmas.Similarity
import Gedcom.Model.SimilaritySrcF
import Gedcom.Generated.SimilaritySrc
namespace Gedcom.C12F
open Gedcom.F64 Gedcom.C05

/-- **Operand order**: the float64 date similarity is symmetric, bit for bit -/
theorem dateSimilarity_symm (l r m : Dbl) : dateSimilarity l r m = dateSimilarity r l m := by
  unfold dateSimilarity; rw [absdiff_comm]

/-- **Depends only on the distance**: the similarity is a function of `|left - right|` as the
    float64 subtraction returns it -/
theorem dateSimilarity_of_distance (l r l' r' m : Dbl) (h : absdiff l r = absdiff l' r') :
    dateSimilarity l r m = dateSimilarity l' r' m := by
  unfold dateSimilarity; rw [h]

theorem simOfDist_bounds (d m : Dbl) : F64.le ⟨0, 0⟩ (simOfDist d m) ∧ F64.le (simOfDist d m) one := by
  refine ⟨zero_le _, ?_⟩
  unfold simOfDist
  simp only []
  split
  · exact zero_le _
  · exact (leNat_iff _ 1).mp (oneMinus_le_one _)

/-- **Bounds**: the float64 date similarity lies in [0, 1] -/
theorem dateSimilarity_bounds (l r m : Dbl) :
    F64.le ⟨0, 0⟩ (dateSimilarity l r m) ∧ F64.le (dateSimilarity l r m) one :=
  simOfDist_bounds _ _

/-- **Identity**: equal `Years()` values have similarity exactly one -/
theorem dateSimilarity_self (l m : Dbl) :
    F64.le one (dateSimilarity l l m) ∧ F64.le (dateSimilarity l l m) one := by
  refine ⟨?_, (dateSimilarity_bounds l l m).2⟩
  -- the distance, its quotient and the square are exactly zero, and `1 - 0` is the rounding of 1/1
  have h0 : absdiff l l = ⟨0, 0⟩ := by unfold absdiff; simp [rnd]
  have h1 : div ⟨0, 0⟩ m = ⟨0, 0⟩ := by simp [div, rnd]
  have h3 : ¬ F64.lt one ⟨0, 0⟩ := by unfold F64.lt one; simp
  unfold dateSimilarity simOfDist
  simp only [h0, h1, dbl_mul_zero, if_neg h3]
  exact rnd_geNat _ _ 1 (by simp) (by simp)

/-- **Never increases with the distance**: a larger float64 distance never gives a larger
    similarity (for a positive maximum) -/
theorem simOfDist_anti (d d' m : Dbl) (hm : 0 < m.mant) (h : F64.le d d') :
    F64.le (simOfDist d' m) (simOfDist d m) := by
  have hq := div_mono d d' m hm h
  have hp := mul_mono _ _ _ _ hq hq
  unfold simOfDist
  simp only []
  generalize mul (div d m) (div d m) = p at *
  generalize mul (div d' m) (div d' m) = p' at *
  by_cases h1 : F64.lt one p'
  · rw [if_pos h1]; exact zero_le _
  · rw [if_neg h1]
    have hp'1 : F64.le p' one := (not_lt_iff _ _).mp h1
    rw [if_neg ((not_lt_iff _ _).mpr (dbl_le_trans hp hp'1))]
    exact oneMinus_anti p p' hp

/-- **Zero from the maximum on**: when the float64 distance reaches the configured maximum the
    similarity is exactly zero -/
theorem simOfDist_zero (d m : Dbl) (hm : 0 < m.mant) (h : F64.le m d) :
    simOfDist d m = ⟨0, 0⟩ := by
  -- the quotient is at least one, hence its square, and `1 - p` is zero from `p = 1` on
  have hq : F64.le one (div d m) :=
    rnd_geNat _ _ 1 (Nat.mul_pos hm (Nat.two_pow_pos _)) (by rw [Nat.one_mul]; exact h)
  have hp : F64.le one (mul (div d m) (div d m)) :=
    dbl_le_trans (rnd_geNat 1 1 1 Nat.one_pos (Nat.le_refl _)) (mul_mono one _ one _ hq hq)
  unfold simOfDist
  simp only []
  split
  · rfl
  · exact oneMinus_eq_zero _ hp

theorem jaroValueF_comm (m h la lb : Nat) : jaroValueF m h la lb = jaroValueF m h lb la := by
  unfold jaroValueF
  simp only []
  rw [dbl_add_comm (div (ofNat m) (ofNat la))]

/-- **Operand order**: the float64 Jaro value is the same in both directions, bit for bit (the
    matching is symmetric — `jaro_symm` — and float64 addition is commutative) -/
theorem jaroF_symm (a b : Str) : jaroF a b = jaroF b a := by
  unfold jaroF
  simp only
  rw [(Sim.jaroFinal_symm a b).1, (Sim.jaroFinal_symm a b).2]
  exact jaroValueF_comm _ _ _ _

/-- **Bounds**: the float64 Jaro value lies in [0, 1] -/
theorem jaroValueF_le_one (m h la lb : Nat) (ha : m ≤ la) (hb : m ≤ lb) :
    leNat (jaroValueF m h la lb) 1 := by
  unfold jaroValueF
  split
  · simp [leNat]
  · -- each of the three quotients is at most one, their sum at most three
    have quot : ∀ k l : Nat, k ≤ l → 0 < l → leNat (div (ofNat k) (ofNat l)) 1 := fun k l hk hl => by
      rw [div_ofNat_ofNat]; exact rnd_leNat k l 1 hl (by omega)
    exact div_ofNat_leNat _ 3 1 (by omega)
      (add_leNat _ _ 2 1
        (add_leNat _ _ 1 1 (quot m la ha (by omega)) (quot m lb hb (by omega)))
        (quot (m - h / 2) m (by omega) (by omega)))

theorem jaroF_bounds (a b : Str) : F64.le ⟨0, 0⟩ (jaroF a b) ∧ F64.le (jaroF a b) one := by
  obtain ⟨h1, h2, _⟩ := Sim.jaroFinal_le a b
  exact ⟨zero_le _, (leNat_iff _ 1).mp (jaroValueF_le_one _ _ _ _ h1 h2)⟩

theorem jaroValueF_self {l : Nat} (h : 0 < l) : F64.le one (jaroValueF l 0 l l) := by
  unfold jaroValueF
  rw [if_neg (by omega)]
  simp only [Nat.zero_div, Nat.sub_zero]
  -- every quotient l / l is at least one, the sum at least three, a third of it at least one
  have q1 : F64.le (ofNat 1) (div (ofNat l) (ofNat l)) := by
    rw [div_ofNat_ofNat]; exact rnd_geNat l l 1 h (by omega)
  exact div_ofNat_geNat _ 3 1 (by omega) (add_geNat _ _ 2 1 (add_geNat _ _ 1 1 q1 q1) q1)

/-- **Identity**: a non-empty string compared with itself has float64 Jaro value exactly one -/
theorem jaroF_self (a : Str) (h : a ≠ []) : F64.le one (jaroF a a) ∧ F64.le (jaroF a a) one := by
  refine ⟨?_, (jaroF_bounds a a).2⟩
  unfold jaroF
  simp only [(Sim.jaroFinal_self a).1, (Sim.jaroFinal_self a).2]
  exact jaroValueF_self (List.length_pos_iff.mpr h)

/-- **Operand order** of JaroWinkler, bit for bit -/
theorem jaroWinklerF_symm (a b : Str) (boost : Dbl) (p : Nat) :
    jaroWinklerF a b boost p = jaroWinklerF b a boost p := by
  unfold jaroWinklerF
  rw [jaroF_symm a b, Sim.prefixMatches_comm p a b]

/-- **Operand order** of StringSimilarity, bit for bit -/
theorem stringSimilarityF_symm (a b : Str) (boost : Dbl) (p : Nat) :
    stringSimilarityF a b boost p = stringSimilarityF b a boost p := by
  unfold stringSimilarityF
  simp only
  rw [Sim.comparedNames_swap a b]
  exact jaroWinklerF_symm _ _ _ _

/-- `0.1·l` in float64 is at most one for the eleven possible `l`.  A finite check and not an
    inequality on the exact values: the binary64 `0.1` is above one tenth, so at `l = 10` the exact
    product is above one and only its rounding is one. -/
theorem tenth_times_le_one (pm : Nat) (h : pm ≤ 10) : leNat (mul tenth (ofNat pm)) 1 :=
  (by decide +kernel : ∀ l : Fin 11, leNat (mul tenth (ofNat l.val)) 1) ⟨pm, by omega⟩

/-- **Bounds of the Jaro-Winkler step**: for a Jaro value in [0,1] and at most ten matching
    prefix bytes, `j + 0.1*prefixMatch*(1.0-j)` in float64 never exceeds one -/
theorem jwValueF_unit (j boost : Dbl) (pm : Nat) (hj : leNat j 1) (hpm : pm ≤ 10) :
    leNat (jwValueF j boost pm) 1 := by
  unfold jwValueF
  split
  · exact hj
  · -- the boost is at most `1 - j` as rounded, since `0.1·prefixMatch ≤ 1`
    exact add_le_one_of_compl j j _ hj (dbl_le_refl j)
      (mul_le_rnd _ _ _ (Nat.two_pow_pos _) (tenth_times_le_one pm hpm))

theorem jwValueF_le_one (j boost : Dbl) (pm : Nat) (hj : leNat j 1) (hjf : j.frac ≤ 900)
    (hpm : pm ≤ 10) : leNat (jwValueF j boost pm) 1 :=
  jwValueF_unit j boost pm hj hpm

/-- **Bounds**: the float64 Jaro-Winkler value lies in [0, 1] for prefix sizes up to ten -/
theorem jaroWinklerF_unit (a b : Str) (boost : Dbl) (p : Nat) (hp : p ≤ 10) :
    F64.le ⟨0, 0⟩ (jaroWinklerF a b boost p) ∧ F64.le (jaroWinklerF a b boost p) one :=
  ⟨zero_le _, (leNat_iff _ 1).mp (jwValueF_unit (jaroF a b) boost (Sim.prefixMatches p a b)
    ((leNat_iff _ 1).mpr (jaroF_bounds a b).2) (le_trans (Sim.prefixMatches_le p a b) hp))⟩

theorem jaroWinklerF_bounds (a b : Str) (boost : Dbl) (p : Nat) (hp : p ≤ 10)
    (hla : a.length ≤ 2 ^ 1000) :
    F64.le ⟨0, 0⟩ (jaroWinklerF a b boost p) ∧ F64.le (jaroWinklerF a b boost p) one :=
  jaroWinklerF_unit a b boost p hp

/-- **Bounds**: the float64 `StringSimilarity` lies in [0, 1] -/
theorem stringSimilarityF_bounds (a b : Str) (boost : Dbl) (p : Nat) (hp : p ≤ 10)
    (hla : (Sim.comparedNames a b).1.length ≤ 2 ^ 1000) :
    F64.le ⟨0, 0⟩ (stringSimilarityF a b boost p) ∧ F64.le (stringSimilarityF a b boost p) one := by
  unfold stringSimilarityF
  exact jaroWinklerF_unit _ _ _ _ hp

theorem jwValueF_one (j boost : Dbl) (pm : Nat) (hj : F64.le one j) : F64.le one (jwValueF j boost pm) := by
  unfold jwValueF
  split
  · exact hj
  · rw [oneMinus_eq_zero j hj, dbl_mul_zero]
    exact add_geNat j ⟨0, 0⟩ 1 0 hj (zero_le _)

/-- **Identity**: a non-empty string compared with itself has float64 Jaro-Winkler value one -/
theorem jaroWinklerF_self (a : Str) (boost : Dbl) (p : Nat) (h : a ≠ []) (hp : p ≤ 10)
    (hla : a.length ≤ 2 ^ 1000) :
    F64.le one (jaroWinklerF a a boost p) ∧ F64.le (jaroWinklerF a a boost p) one :=
  ⟨jwValueF_one _ boost _ (jaroF_self a h).1,
    (jaroWinklerF_unit a a boost p hp).2⟩

/-- **Identity**: a name of which something is left after trimming has float64
    `StringSimilarity` one with itself -/
theorem stringSimilarityF_self (a : Str) (boost : Dbl) (p : Nat) (h : Gedcom.cleanSpace a ≠ [])
    (hp : p ≤ 10) (hla : (Sim.comparedNames a a).1.length ≤ 2 ^ 1000) :
    F64.le one (stringSimilarityF a a boost p) ∧ F64.le (stringSimilarityF a a boost p) one := by
  obtain ⟨h1, h2⟩ := Sim.comparedNames_self a h
  unfold stringSimilarityF
  simp only
  rw [h2]
  exact jaroWinklerF_self _ boost p h1 hp hla

/-- **Bounds of the name/date mix**: for a name score and date scores in [0,1] and a ratio in
    [0,1] that was rounded from a fraction, the float64 value
    `name*ratio + (birth+death)/2.0*(1.0-ratio)` never exceeds one -/
theorem mixF_le_one (name birth death : Dbl) (n d : Nat) (hd : 0 < d) (hn : leNat name 1)
    (hb : leNat birth 1) (hdt : leNat death 1) (hr : leNat (rnd n d) 1) :
    leNat (mixF name birth death (rnd n d)) 1 := by
  unfold mixF
  rw [absdiff_one _ hr]
  exact add_le_one_of_compl (rnd n d) _ _ hr (mul_le_rnd name n d hd hn)
    (mul_le_rnd _ _ _ (Nat.two_pow_pos _)
      (div_ofNat_leNat _ 2 1 (by omega) (add_leNat birth death 1 1 hb hdt)))

theorem dateNodeSimilarityF_le_one (l r : Option Sim.DateR) (m : Dbl) :
    leNat (dateNodeSimilarityF l r m) 1 := by
  unfold dateNodeSimilarityF
  split
  · exact (leNat_iff _ 1).mpr (dateSimilarity_bounds _ _ _).2
  · simp [leNat, half]

theorem nameSimilarityF_eq (ns ms : List Str) (boost : Dbl) (pre : Nat) :
    nameSimilarityF ns ms boost pre =
      Sim.foldMax2 F64.lt (fun n m => stringSimilarityF n m boost pre) ⟨0, 0⟩ ns ms := rfl

theorem nameSimilarityF_le_one (ns ms : List Str) (boost : Dbl) (pre : Nat) (hp : pre ≤ 10) :
    leNat (nameSimilarityF ns ms boost pre) 1 := by
  rw [nameSimilarityF_eq]
  obtain ⟨_, _, hsel⟩ := Sim.foldMax2_spec F64.lt dbl_lt_asymm dbl_not_lt_trans
    (fun n m => stringSimilarityF n m boost pre) ⟨0, 0⟩ ns ms
  rcases hsel with e | ⟨n, _, m, _, e⟩
  · rw [e]; simp [leNat]
  · rw [e]
    exact (leNat_iff _ 1).mpr (jaroWinklerF_unit _ _ boost pre hp).2

/-- **Operand order of the name score** on the float64 values: the same value in both directions
    (the maximum of the same scores, each symmetric bit for bit) -/
theorem nameSimilarityF_symm_value (ns ms : List Str) (boost : Dbl) (pre : Nat) :
    F64.le (nameSimilarityF ns ms boost pre) (nameSimilarityF ms ns boost pre) :=
  (not_lt_iff _ _).mp (Sim.foldMax2_swap_le F64.lt dbl_lt_asymm dbl_not_lt_trans _ _ ⟨0, 0⟩ ns ms
    fun n _ m _ => stringSimilarityF_symm n m boost pre)

/-- the float64 `(*IndividualNode).Similarity` never exceeds one; a negative ratio is no exception,
    since `ofRat` takes it to zero -/
theorem indiSimilarityF_unit (x y : Sim.Indi) (o : Sim.SimOpts) (hr1 : o.nameToDateRatio ≤ 1)
    (hp : o.jaroPrefixSize ≤ 10) : leNat (indiSimilarityF x y o) 1 := by
  have hle : o.nameToDateRatio.num.toNat ≤ o.nameToDateRatio.den := by
    have := Rat.num_le_denom_iff.mpr hr1
    omega
  exact mixF_le_one _ _ _ _ _ o.nameToDateRatio.den_pos (nameSimilarityF_le_one _ _ _ _ hp)
    (dateNodeSimilarityF_le_one _ _ _) (dateNodeSimilarityF_le_one _ _ _)
    (rnd_leNat _ _ 1 o.nameToDateRatio.den_pos (by simpa using hle))

/-- **Bounds**: `(*IndividualNode).Similarity` on the float64 values lies in [0,1] for a
    name/date ratio in [0,1], prefix sizes up to ten and names of any length Go can hold -/
theorem indiSimilarityF_bounds (x y : Sim.Indi) (o : Sim.SimOpts)
    (hr0 : 0 ≤ o.nameToDateRatio) (hr1 : o.nameToDateRatio ≤ 1)
    (hrd : o.nameToDateRatio.den ≤ 2 ^ 800) (hp : o.jaroPrefixSize ≤ 10)
    (hlen : ∀ n ∈ x.names, ∀ m ∈ y.names, (Sim.comparedNames n m).1.length ≤ 2 ^ 1000) :
    F64.le ⟨0, 0⟩ (indiSimilarityF x y o) ∧ F64.le (indiSimilarityF x y o) one :=
  ⟨zero_le _, (leNat_iff _ 1).mp (indiSimilarityF_unit x y o hr1 hp)⟩

/-- **Operand order** of `(*DateNode).Similarity`, bit for bit -/
theorem dateNodeSimilarityF_symm (l r : Option Sim.DateR) (m : Dbl) :
    dateNodeSimilarityF l r m = dateNodeSimilarityF r l m := by
  unfold dateNodeSimilarityF
  cases l <;> cases r <;> simp [dateSimilarity_symm]

/-- **Missing information scores exactly the neutral 0.5** in float64 (`half` is the binary64
    0.5 itself, no rounding involved) -/
theorem dateNodeSimilarityF_missing (l r : Option Sim.DateR) (m : Dbl) (h : l = none ∨ r = none) :
    dateNodeSimilarityF l r m = half := by
  unfold dateNodeSimilarityF
  rcases h with h | h
  · subst h; cases r <;> rfl
  · subst h; cases l <;> rfl

/-- **Identity** of `(*DateNode).Similarity`: a date against itself scores one -/
theorem dateNodeSimilarityF_self (l : Sim.DateR) (m : Dbl) :
    F64.le one (dateNodeSimilarityF (some l) (some l) m) ∧
    F64.le (dateNodeSimilarityF (some l) (some l) m) one := by
  unfold dateNodeSimilarityF
  exact dateSimilarity_self _ m

/-- **Operand order of `(*IndividualNode).Similarity`** on the float64 values: swapping the two
    individuals gives the same value (`≤` in both directions, hence equal as values): the date
    scores are equal bit for bit, the name score is the maximum of the same symmetric scores, and
    the mix is monotone in it -/
theorem indiSimilarityF_symm_value (x y : Sim.Indi) (o : Sim.SimOpts) :
    F64.le (indiSimilarityF x y o) (indiSimilarityF y x o) := by
  unfold indiSimilarityF
  simp only
  rw [dateNodeSimilarityF_symm y.birth x.birth, dateNodeSimilarityF_symm y.death x.death]
  unfold mixF
  exact add_mono _ _ _ _
    (mul_mono _ _ _ _ (nameSimilarityF_symm_value x.names y.names _ _) (dbl_le_refl _)) (dbl_le_refl _)

/-- **Bounds**: the float64 weighted similarity never exceeds one (the source cuts the sum) -/
theorem weightedF_le_one (ind par spo chi wI wP wS wC : Dbl) :
    F64.le (weightedF ind par spo chi wI wP wS wC) one := by
  unfold weightedF
  split
  · exact dbl_le_refl one
  · rename_i h
    exact (not_lt_iff _ _).mp h

/-- the weighted sum is monotone in the four components: a better component never lowers the
    float64 weighted similarity -/
theorem weightedF_mono (i i' p p' s s' c c' wI wP wS wC : Dbl)
    (hi : F64.le i i') (hp : F64.le p p') (hs : F64.le s s') (hc : F64.le c c') :
    F64.le (weightedF i p s c wI wP wS wC) (weightedF i' p' s' c' wI wP wS wC) := by
  have hsum : F64.le (weightedSumF i p s c wI wP wS wC) (weightedSumF i' p' s' c' wI wP wS wC) := by
    unfold weightedSumF
    exact add_mono _ _ _ _ (add_mono _ _ _ _ (add_mono _ _ _ _ (mul_mono _ _ _ _ hi (dbl_le_refl _))
      (mul_mono _ _ _ _ hp (dbl_le_refl _))) (mul_mono _ _ _ _ hs (dbl_le_refl _)))
      (mul_mono _ _ _ _ hc (dbl_le_refl _))
  unfold weightedF
  by_cases h' : F64.lt one (weightedSumF i' p' s' c' wI wP wS wC)
  · rw [if_pos h']
    exact weightedF_le_one i p s c wI wP wS wC
  · rw [if_neg h']
    rw [not_lt_iff] at h'
    rw [if_neg ((not_lt_iff _ _).mpr (dbl_le_trans hsum h'))]
    exact hsum

/-- the pre-repair rule at the witness: with all four components equal to one and the weights
    0.4, 0.2, 0.3, 0.1 (which sum to one on paper) the float64 sum of the products is
    1.0000000000000002 — above one — which is what `WeightedSimilarity` returned before the cut -/
theorem weighted_sum_exceeds_one_regression :
    F64.lt one (weightedSumF one one one one (rnd 4 10) (rnd 2 10) (rnd 3 10) (rnd 1 10)) := by
  decide +kernel

/-- **`Minimum()` on the float64 values**: the date selected is one of the list and no date of
    the list starts strictly earlier on the float64 Years scale (ties keep the earlier entry — the
    last bit decides, as in Go) -/
theorem minimumRangeF_spec (ds : List Gedcom.DateRange) (m : Gedcom.DateRange)
    (h : minimumRangeF ds = some m) :
    m ∈ ds ∧ ∀ x ∈ ds, ¬ F64.lt (years x.start.toDate) (years m.start.toDate) := by
  cases ds with
  | nil => simp [minimumRangeF] at h
  | cons d ds =>
    simp only [minimumRangeF, Option.some.injEq] at h
    -- the loop is the running extremum for "starts strictly earlier", with the dates themselves
    -- as values
    have key := Sim.foldMax_spec
      (fun m x : Gedcom.DateRange => F64.lt (years x.start.toDate) (years m.start.toDate))
      (fun _ _ hlt => dbl_lt_asymm _ _ hlt) (fun _ _ _ g1 g2 => dbl_not_lt_trans _ _ _ g2 g1)
      id d ds
    unfold Sim.foldMax at key
    simp only [id_eq] at key
    rw [h] at key
    obtain ⟨h1, h2, h3⟩ := key
    exact ⟨List.mem_cons.mpr (h3.imp_right fun ⟨x, hx, e⟩ => e ▸ hx),
      List.forall_mem_cons.mpr ⟨h1, h2⟩⟩

open Gedcom.SimSrc

/-- **`JaroWinkler`'s boost step in the model is the regenerated source expression, evaluated in
    float64 in the source's order**: the threshold guard and
    `j + 0.1*prefixMatch*(1.0-j)` as read from jaro.go by go/ast on this run. -/
theorem jwValueF_is_the_source (j boost : Dbl) (pm : Nat) (hj : leNat j 1) :
    jwValueF j boost pm =
      Generated.srcJaroWinkler.evalF (fun v => match v with
        | .j => j | .boost => boost | .pm => ofNat pm | _ => ⟨0, 0⟩) := by
  unfold jwValueF Fn.evalF Generated.srcJaroWinkler
  simp only [List.find?, Guard.firesF, Cmp.holdsF, AExp.evalF]
  by_cases h : F64.le j boost
  · simp [h]; rfl
  · simp only [h, decide_false, litF]
    simp only [show ¬ (10 = 1) by decide, if_false, if_true]
    rw [absdiff_one j hj]
    rfl

/-- **`DateRange.Similarity` in the model is the regenerated source expression, evaluated in
    float64 in the source's order**: `math.Pow((left-right)/maxYears, 2)`, the `> 1` guard
    returning 0, and `1 - similarity`, as read from date_range.go on this run. -/
theorem dateSimilarity_is_the_source (l r m : Dbl) :
    dateSimilarity l r m =
      Generated.srcDateRange.evalF (fun v => match v with
        | .left => l | .right => r | .maxYears => m | _ => ⟨0, 0⟩) := by
  unfold dateSimilarity simOfDist Fn.evalF Generated.srcDateRange
  simp only [List.find?, Guard.firesF, Cmp.holdsF, AExp.evalF, litF, if_true]
  generalize mul (div (absdiff l r) m) (div (absdiff l r) m) = p
  have e1 : ofNat 1 = one := rfl
  rw [e1]
  by_cases h : F64.lt one p
  · simp [h]; rfl
  · simp only [h, decide_false]
    rw [← e1, absdiff_one p ((leNat_iff p 1).mpr ((not_lt_iff _ _).mp h))]
    simp

/-- **The name/date mix of `(*IndividualNode).Similarity` in the model is the regenerated source
    expression, evaluated in float64 in the source's order**:
    `nameSimilarity*ratio + (birth+death)/2.0*(1.0-ratio)` as read from individual_node.go on
    this run (the nil guard returns the constant 0.5 = `half`). -/
theorem mixF_is_the_source (name birth death ratio : Dbl) :
    mixF name birth death ratio =
      Generated.srcIndividual.evalF (fun v => match v with
        | .name => name | .birth => birth | .death => death | .ratio => ratio | _ => ⟨0, 0⟩) ∧
    Generated.srcIndividual.nilValue = some (.lit 1 2) ∧
    F64.le (litF 1 2) half ∧ F64.le half (litF 1 2) := by
  refine ⟨?_, rfl, by decide +kernel, by decide +kernel⟩
  unfold mixF Fn.evalF Generated.srcIndividual
  simp only [List.find?, AExp.evalF, litF, if_true]

/-- **`WeightedSimilarity` in the model is the regenerated source, evaluated in float64 in the
    source's order** (four products, three additions from the left, the `> 1` guard) -/
theorem weightedF_is_the_source (ind par spo chi wI wP wS wC : Dbl) :
    weightedF ind par spo chi wI wP wS wC =
      Generated.srcWeighted.evalF (fun v => match v with
        | .ind => ind | .par => par | .spo => spo | .chi => chi
        | .wInd => wI | .wPar => wP | .wSpo => wS | .wChi => wC | _ => ⟨0, 0⟩) := by
  unfold weightedF weightedSumF Fn.evalF Generated.srcWeighted
  simp only [List.find?, Guard.firesF, Cmp.holdsF, AExp.evalF, litF, if_true]
  have e1 : ofNat 1 = one := rfl
  rw [e1]
  split
  · -- the sum exceeds one: the guard fires and returns the constant
    rename_i h
    simp [h]
    rfl
  · rename_i h
    simp [h]

end Gedcom.C12F

/-
  C18 — File content can never change the structure of a published page.
  Property theorems only.  They are about the functions the driver executes (`render`,
  `renderText`, `escapeString`, `encode`, `lexHtml`, `wellNested`) and about the encoder tables
  regenerated from html/core on every run (`Generated.*EscTable`): a sink that stops escaping
  changes its table and `encode_safe` no longer checks.

  Data = every value that reaches a page through `core.Text`, a `core.Tag` attribute value,
  `core.Anchor` or `core.TableHead` (and the page title).  All statements quantify over *all*
  byte strings in those positions and all component trees.
-/
import Gedcom.Lemmas.Html
import Gedcom.Generated.Escapers
namespace Gedcom.C18
open Gedcom.Html

/-- `core.Text` never writes `<`, `>`, `"` or `'`, whatever the value -/
theorem escape_safe (s : Str) (b : UInt8) (h : b ∈ renderText s) :
    b ≠ 60 ∧ b ≠ 62 ∧ b ≠ 34 ∧ b ≠ 39 := by
  have := renderText_safe s b h
  have h3 := hot_ne.mp this.1
  exact ⟨h3.1, h3.2.1, h3.2.2, this.2⟩

/-- no encoder in front of a data sink (text, table head, anchor, tag attribute) writes `<`, `>`
    or `"` — so a value can neither open or close a tag nor leave a double-quoted attribute -/
theorem encode_safe (e : Enc) (v : Str) (b : UInt8) (h : b ∈ encode e v) :
    b ≠ 60 ∧ b ≠ 62 ∧ b ≠ 34 := hot_ne.mp (Html.encode_safe e v b h)

/-- `&` only ever appears as the start of `&#34;` `&amp;` `&#39;` `&lt;` `&gt;` -/
theorem escape_amp (s : Str) : Escaped (escapeString s) :=
  escWith_escaped (tbl := Generated.headEscTable) (by decide) (by decide) s

theorem escape_table_code : PrefixCode 38 Generated.headEscTable := by
  unfold PrefixCode; decide

/-- `html.EscapeString` is injective: distinct values stay distinct on the page -/
theorem escape_injective (a b : Str) (h : escapeString a = escapeString b) : a = b :=
  escWith_injective escape_table_code a b h

/-- **`&` in `core.Text` output** only ever starts `&#34;` `&amp;` `&#39;` `&lt;` `&gt;` or
    `&nbsp;`, and none of `< > " '` occurs — for every value -/
theorem text_amp (s : Str) : EscapedWith textEntities (renderText s) := renderText_escaped s

/-- `core.Text` is *not* injective: its `&nbsp;` marker and `&nbsp;` itself render alike
    (content only — no structure involved) -/
theorem text_not_injective_counterexample :
    renderText b!"~~space~~" = renderText b!"&nbsp;" ∧ (b!"~~space~~" : Str) ≠ b!"&nbsp;" := by
  decide +kernel

theorem trusted_shape (c : Comp) : trusted (shape c) = trusted c := by
  induction c with
  | nil => rfl
  | seq a b iha ihb => simp [shape, trusted, iha, ihb]
  | text s => rfl
  | raw s => rfl
  | anchor n => exact (leafOk_congr (pieces_erase (.anchor n))).symm
  | tableHead cols => exact (leafOk_congr (pieces_erase (.tableHead cols))).symm
  | number n => rfl
  | ga id => rfl
  | tag n a b ih =>
    simp only [shape, trusted, ih]
    rw [wrapOk_shape (.tag n a b)]; rfl
  | tableCell h c w s b ih => simp only [shape, trusted, ih]; rfl
  | table c b ih => simp only [shape, trusted, ih]; rfl
  | tableRow b ih => simp only [shape, trusted, ih]; rfl
  | row b ih => simp only [shape, trusted, ih]; rfl
  | page t g b f ihb ihf =>
    simp only [shape, trusted, ihb, ihf]
    rw [wrapOk_shape (.page t g b f)]; rfl

/-- trees of one shape, one of them trusted: the one abstract run of `Balanced.lex` is the token
    stream of both renderings -/
theorem same_shape_structure (c c' : Comp) (hs : shape c' = shape c) (h : trusted c = true) :
    wellNested (render c') = true ∧ skeleton (render c') = skeleton (render c) := by
  obtain ⟨ts, hl, hc⟩ := (balanced_of_trusted c h).lex
  have hc' := hl (pieces c') (by rw [pieces_erase, hs, ← pieces_erase])
  simp [wellNested, skeleton, render, hc', hl _ rfl, hc]

/-- **Well-nestedness.**  If the literal bytes of every node form complete, fitting tags
    (`trusted`: tag names, attribute names, raw HTML and the raw class/style/id sinks — never a
    data value), then the rendered bytes are well-nested HTML, whatever the data. -/
theorem render_wellNested (c : Comp) (h : trusted c = true) : wellNested (render c) = true :=
  (same_shape_structure c c rfl h).1

/-- **Structure is independent of data.**  Two component trees that differ only in data values
    (text, attribute values, anchor names, table-head columns, page title) produce the same
    token stream — same tags, same attribute names, same nesting: no value can open or close a
    tag or leave its attribute. -/
theorem structure_preserved (c c' : Comp) (hs : shape c' = shape c) (h : trusted c = true) :
    skeleton (render c') = skeleton (render c) :=
  (same_shape_structure c c' hs h).2

/-- the tail-recursive tokenizer the driver runs is the one-step-per-byte specification -/
theorem lexHtml_spec (s : Str) : lexHtml s = lexRun .data s := lexHtml_eq s

/-! ### The fixed parts of every page are trusted (checked on the regenerated literals) -/

theorem page0_trusted : trusted (mkPage [] .nil []) = true := by decide +kernel

theorem mkPage_trusted (t g : Str) (b : Comp) :
    trusted (mkPage t b g) = (trusted (mkPage [] .nil g) && trusted b) := by
  have hw : wrapOk (Comp.pre (.page t g b footerRow)) (Comp.post (.page t g b footerRow))
      = wrapOk (Comp.pre (.page [] g .nil footerRow)) (Comp.post (.page [] g .nil footerRow)) :=
    wrapOk_shape _
  simp only [mkPage, trusted, hw, Bool.and_true]
  exact Bool.and_right_comm _ _ _

theorem page_frame_trusted (t : Str) : trusted (mkPage t .nil []) = true := by
  rw [mkPage_trusted, page0_trusted]; rfl
theorem ga_trusted : trusted (.ga b!"UA-78454410-2") = true := by decide +kernel
theorem constants_trusted :
    trusted empty = true ∧ trusted lineBreak = true ∧ trusted horizontalRule = true ∧
    trusted horizontalRuleRow = true ∧ trusted space = true ∧ trusted footerRow = true := by
  decide +kernel
theorem anchor_trusted (n : Str) : trusted (.anchor n) = true := by
  rw [← trusted_shape]; rfl

/-- a table head is trusted whatever its columns hold (they are data since the escaping fix) -/
theorem tableHead_trusted (cols : List Str) : trusted (.tableHead cols) = true :=
  (headPieces_balanced cols).leafOk

/-- a number is trusted whatever its value (counts depend on the file) -/
theorem number_trusted (n : Int) : trusted (.number n) = true := leafOk_lit (renderNumber_ne_lt n)

/-- every piece of raw HTML package html writes itself (`<em>Unknown</em>`, `<em>Hidden</em>`,
    `&nbsp;&nbsp;&nbsp;`, the 16 PlusSVG drawings — regenerated from the source) is trusted -/
theorem html_literals_trusted : ∀ s ∈ Generated.htmlRawLiterals, trusted (.raw s) = true := by
  decide +kernel

/-- the `<pre>` … `</pre>` frame of the query formatter's JSON fallback fits around any content
    that stays in element content -/
theorem query_pre_frame_ok :
    wrapOk [lit Generated.queryPreOpen] [lit Generated.queryPreClose] = true := by decide +kernel

/-! ### The composite components of html/core keep trust: they add fixed tags around their
     children and put their string arguments in data positions only -/

theorem tr_wrap : wrapOk (Comp.pre (.tableRow .nil)) (Comp.post (.tableRow .nil)) = true := by decide +kernel
theorem row_wrap : wrapOk (Comp.pre (.row .nil)) (Comp.post (.row .nil)) = true := by decide +kernel

theorem mkTag_trusted (n : Str) (l : List (Str × Str)) (b : Comp)
    (hc : chainLe (l.map (·.1)) = true) (hf : tagFits n (l.map (·.1)) = true) :
    trusted (mkTag n l b) = trusted b := by
  unfold mkTag
  rw [sortAttrs_sorted l hc]
  apply tag_trusted
  have hsub : ((l.filter fun a => !a.2.isEmpty).map (·.1)) ∈ subs (l.map (·.1)) :=
    mem_subs (List.Sublist.map _ List.filter_sublist)
  have hw := (List.all_eq_true.mp hf) _ hsub
  rw [List.map_map] at hw
  exact hw

theorem div_trusted (cls : Str) (b : Comp) : trusted (div cls b) = trusted b :=
  mkTag_trusted _ _ b rfl (show tagFits b!"div" [b!"class"] = true by decide +kernel)

theorem span_trusted (cls : Str) (b : Comp) : trusted (span cls b) = trusted b :=
  mkTag_trusted _ _ b rfl (show tagFits b!"span" [b!"class"] = true by decide +kernel)

theorem column_trusted (w : Int) (b : Comp) : trusted (column w b) = trusted b := div_trusted _ b

theorem badgePill_trusted (color cls : Str) (v : Comp) : trusted (badgePill color cls v) = trusted v :=
  span_trusted _ v

theorem link_trusted (body : Comp) (dest style : Str) : trusted (link body dest style) = trusted body := by
  -- `core.NewTag` sorts the two attributes
  show trusted (mkTag b!"a" [(b!"href", dest), (b!"style", style)] body) = trusted body
  exact mkTag_trusted _ _ body rfl (show tagFits b!"a" [b!"href", b!"style"] = true by decide +kernel)

/-- `h1` … `h6` (the code uses 1, 2, 3 and 5) -/
theorem heading_trusted (n : Nat) (hn : 1 ≤ n ∧ n ≤ 6) (cls : Str) (b : Comp) :
    trusted (heading (n : Int) cls b) = trusted b := by
  have h : ∀ m : Nat, m < 7 → 1 ≤ m → tagFits (b!"h" ++ itoa (m : Int)) [b!"class"] = true := by
    decide +kernel
  exact mkTag_trusted _ _ b rfl (h n (by omega) hn.1)

theorem card_trusted (title body : Comp) (count : Int) :
    trusted (card title count body) = (trusted title && trusted body) := by
  have h5 := fun c b => heading_trusted 5 (by omega) c b
  unfold card
  rw [div_trusted]
  simp only [trusted, Bool.and_true]
  rw [show ((5 : Int)) = ((5 : Nat) : Int) from rfl, h5]
  split
  · rfl
  · simp only [trusted, badgePill_trusted, Bool.and_true]

theorem keyedTableRow_trusted (title : Str) (visible : Bool) (v : Comp) (hv : trusted v = true) :
    trusted (keyedTableRow title visible v) = true := by
  unfold keyedTableRow
  cases visible with
  | false => rfl
  | true =>
    have hw := tr_wrap
    have hc1 : wrapOk (cellOpen true [] false []) (cellClose true) = true := by decide +kernel
    have hc2 : wrapOk (cellOpen false [] false []) (cellClose false) = true := by decide +kernel
    simp only [if_true, seqs, trusted, Bool.and_true, hv]
    simp only [Comp.pre, Comp.post] at hw ⊢
    simp [hw, hc1, hc2]

/-! ### Which sink each page component feeds (regenerated from the source on every run) -/

/-- the string parameters of html/core that the code writes raw are exactly the raw sinks of the
    model (probed with `<"` through every public constructor) -/
theorem raw_sinks_expected : rawCoreParams = expectedRawCoreParams := by decide

/-- `sinkCallOk` with the cheap test first: the class of the argument settles most calls -/
def sinkCallOkByClass (c : Nat × Nat × Nat) : Bool :=
  (c.2.2 ≥ 2 || isKnownSink c.2.1)
  && (c.2.2 != 1 || (rawSinkAllowList.map (·.1)).contains c.1 || !isRawSink c.2.1)

theorem sinkCallOkByClass_eq : sinkCallOkByClass = sinkCallOk := by
  funext c
  unfold sinkCallOkByClass sinkCallOk
  rw [Bool.or_comm _ (!isRawSink c.2.1), Bool.or_assoc]

/-- every call of a core constructor or raw write helper in html/*.go and q/html_formatter.go
    feeds a known sink, and a raw sink only ever receives literals (constants, literal-only locals
    and helpers, Sprintf of those) — or an expression on the allow-list, with its reason -/
theorem raw_sinks_fed_by_literals : Generated.sinkCalls.all sinkCallOk = true := by
  have h : Generated.sinkCalls.all sinkCallOkByClass = true := by decide +kernel
  rwa [sinkCallOkByClass_eq] at h

/-! ### The escaping code itself, translated from the source (go/ast → `Generated.Escapers`)

  The statements of `(*Text).WriteHTMLTo` and the expressions between a value and the page in
  `(*Tag)`, `(*Anchor)` and `(*TableHead).WriteHTMLTo` are programs of `Gedcom.Rewrite`; running
  them is the model's `renderText` / `encode`, so `escape_safe`, `text_amp`, `encode_safe`,
  `render_wellNested` … are statements about the translated code. -/

open Gedcom.Rewrite in
/-- every translated statement / expression is inside the fragment (nothing became `.bad`) -/
theorem escapers_translated :
    progOk Generated.textProgram = true ∧ progOk Generated.attrProgram = true ∧
    progOk Generated.anchorProgram = true ∧ progOk Generated.headProgram = true := by decide

/-- `html.EscapeString` of the standard library is the per-byte table seen through the components -/
theorem std_escape_is_the_probed_table :
    Generated.stdEscapeTable = Generated.textEscTable ∧ Generated.stdEscapeTable = Generated.headEscTable
    ∧ Generated.stdEscapeTable = Generated.anchorEscTable := by decide

open Gedcom.Rewrite in
/-- running the statements of `(*Text).WriteHTMLTo` is the model's `renderText`, for every value -/
theorem text_is_the_source (s : Str) :
    runProg Generated.stdEscapeTable Generated.textProgram s = some (renderText s) := by
  have hp : Generated.textProgram =
      [.replaceAll Generated.textReplaceBefore.1 Generated.textReplaceBefore.2, .escapeString,
       .replaceAll Generated.textReplaceAfter.1 Generated.textReplaceAfter.2] := rfl
  rw [hp, std_escape_is_the_probed_table.1]
  rfl

open Gedcom.Rewrite in
/-- … `(*Anchor)` and `(*TableHead)` apply `html.EscapeString`, which is `encode .anchor/.head` -/
theorem anchor_is_the_source (n : Str) :
    runProg Generated.stdEscapeTable Generated.anchorProgram n = some (encode .anchor n) := by
  have hp : Generated.anchorProgram = [.escapeString] := rfl
  rw [hp, std_escape_is_the_probed_table.2.2]; rfl

open Gedcom.Rewrite in
theorem head_is_the_source (c : Str) :
    runProg Generated.stdEscapeTable Generated.headProgram c = some (encode .head c) := by
  have hp : Generated.headProgram = [.escapeString] := rfl
  rw [hp, std_escape_is_the_probed_table.2.1]; rfl

open Gedcom.Rewrite in
/-- … and the `strings.NewReplacer` of `(*Tag).WriteHTMLTo` is `encode .attr` -/
theorem attr_is_the_source (v : Str) :
    runProg Generated.stdEscapeTable Generated.attrProgram v = some (encode .attr v) := by
  -- the replacer lists its four bytes in another order than the probed table
  obtain ⟨pairs, hp, hs, hb⟩ : ∃ pairs, Generated.attrProgram = [.replacer pairs] ∧ singleByte pairs = true
      ∧ ∀ k ∈ (tableOf pairs ++ Generated.attrEscTable).map (·.1),
          (tableOf pairs).lookup k = Generated.attrEscTable.lookup k :=
    ⟨_, rfl, by decide, by decide⟩
  rw [hp]
  simp only [runProg, runOp]
  rw [replacerGo_single pairs hs]
  exact congrArg some (escWith_congr_keys _ _ hb v)

open Gedcom.Rewrite in
/-- hence: whatever the translated `(*Text).WriteHTMLTo` writes contains none of `< > " '` -/
theorem source_text_safe (s o : Str) (h : runProg Generated.stdEscapeTable Generated.textProgram s = some o) :
    ∀ b ∈ o, b ≠ 60 ∧ b ≠ 62 ∧ b ≠ 34 ∧ b ≠ 39 := by
  rw [text_is_the_source] at h
  have : o = renderText s := by simpa using h.symm
  subst this
  exact fun b hb => escape_safe s b hb

/-! ### Non-vacuity -/

/-- a hostile value in every data position of a small page: trusted, hence well nested -/
example :
    let evil : Str := b!"</td><script>alert(1)</script>\"'&"
    let c := mkPage evil (.table [] (seqs [.tableHead [evil], .tableRow (.tableCell false [] true []
                (seqs [.anchor evil, link (.text evil) evil []]))])) []
    trusted c = true ∧ wellNested (render c) = true := by
  intro evil c
  have h : trusted c = true := by decide +kernel
  exact ⟨h, render_wellNested c h⟩

/-- … while the same value in a raw sink is not trusted and does break the page -/
example : trusted (.raw b!"</td><script>") = false ∧
    wellNested (render (.tableRow (.tableCell false [] false [] (.raw b!"</td><script>")))) = false := by
  decide +kernel

/-- raw-text elements: nothing inside `<title>`, `<textarea>`, `<style>`, `<script>` is a tag -/
example : wellNested b!"<title>a </b> <x</title><textarea><p></textarea><style>a<b{}</style><script>if(a<b){}</script>" = true
    ∧ wellNested b!"<title>never closed" = false := by decide +kernel

end Gedcom.C18

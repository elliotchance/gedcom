/-
  C10 — the composition.  `MergeDocumentsAndIndividuals` as C11's matching followed by C09's
  merges (`Gedcom.MergeD.mergeDocs`, the function the driver runs for the `mergedocs` requests):
  * `accounting_composed`      — from C11 `valid_matching` + `no_empty_result`;
  * `facts_of_both`            — from C09 `nothing_lost_partial` (its guard) + `nothing_invented`;
  * `output_redecodes_partial` — from C01 `decode_encode` via `merged_legal` (the merged records are
    built from headers of the inputs: C09 `nothing_invented`, `nothing_invented_slices`; inputs
    that come out of the decoder are legal: C02 `decode_legal`); the role-node order condition of
    `C01.Legal` on the output is an explicit decidable guard, evaluated by the driver on every case.
-/
import Gedcom.Model.MergeDocs
import Gedcom.Props.C01
import Gedcom.Props.C02
import Gedcom.Props.C09
import Gedcom.Props.C11
namespace Gedcom.C10
open Gedcom.Match Gedcom.MergeD Gedcom.Dec

theorem cons_ok {c : Res} {m : INode} {o : IndisOutcome} {out : List (Res × INode)} {st : MSt}
    (h : o.cons c m = .ok out st) : ∃ out0, o = .ok out0 st ∧ out = (c, m) :: out0 := by
  cases o with
  | ok out0 s => cases h; exact ⟨out0, rfl, rfl⟩
  | error => cases h
  | panic => cases h
  | outOfFuel => cases h

theorem byId_some {l : List INode} {x : Nat} {n : INode} (h : byId l x = some n) : n ∈ l ∧ n.id = x := by
  unfold byId at h
  exact ⟨List.mem_of_find?_eq_some h, by simpa using List.find?_some h⟩

theorem byId_none {l : List INode} {x : Nat} (h : byId l x = none) : x ∉ l.map INode.id := by
  intro hx
  obtain ⟨n, hn, rfl⟩ := List.mem_map.mp hx
  simpa using List.find?_eq_none.mp h n hn

/-- a comparison names nodes of the two lists and is not empty (what C11 `no_empty_result` gives) -/
def GoodRes (L R : List INode) (c : Res) : Prop :=
  c ≠ (none, none) ∧ (∀ x, c.1 = some x → x ∈ L.map INode.id) ∧ (∀ y, c.2 = some y → y ∈ R.map INode.id)

/-- what the output individual `m` of comparison `c` is: an unmatched individual is the input
    node itself (carried over by reference), a pair is `MergeNodes(left, right)` -/
inductive OutIndi (L R : List INode) : Res → INode → Prop
  | left {a : Nat} {m : INode} : byId L a = some m → OutIndi L R (some a, none) m
  | right {b : Nat} {m : INode} : byId R b = some m → OutIndi L R (none, some b) m
  | both {a b : Nat} {l r m : INode} {s0 s1 : MSt} : byId L a = some l → byId R b = some r →
      mergeNodes codeFlags l r s0 = .ok m s1 → OutIndi L R (some a, some b) m

theorem mergeIndis_cons_ok {L R : List INode} {c : Res} {rest : List Res} {st st' : MSt}
    {out : List (Res × INode)} (h : mergeIndis L R (c :: rest) st = .ok out st') :
    (¬ GoodRes L R c ∧ mergeIndis L R rest st = .ok out st') ∨
    ∃ m s1 out0, OutIndi L R c m ∧ mergeIndis L R rest s1 = .ok out0 st' ∧
      out = (c, m) :: out0 := by
  obtain ⟨a, b⟩ := c
  cases a with
  | none =>
    cases b with
    | none => exact Or.inl ⟨fun hg => hg.1 rfl, h⟩
    | some b =>
      simp only [mergeIndis] at h
      cases hr : byId R b with
      | none =>
        simp only [hr] at h
        exact Or.inl ⟨fun hg => byId_none hr (hg.2.2 b rfl), h⟩
      | some r =>
        simp only [hr] at h
        obtain ⟨out0, h0, rfl⟩ := cons_ok h
        exact Or.inr ⟨r, st, out0, .right hr, h0, rfl⟩
  | some a =>
    cases b with
    | none =>
      simp only [mergeIndis] at h
      cases hl : byId L a with
      | none =>
        simp only [hl] at h
        exact Or.inl ⟨fun hg => byId_none hl (hg.2.1 a rfl), h⟩
      | some l =>
        simp only [hl] at h
        obtain ⟨out0, h0, rfl⟩ := cons_ok h
        exact Or.inr ⟨l, st, out0, .left hl, h0, rfl⟩
    | some b =>
      simp only [mergeIndis] at h
      cases hl : byId L a with
      | none =>
        simp only [hl] at h
        exact Or.inl ⟨fun hg => byId_none hl (hg.2.1 a rfl), h⟩
      | some l =>
        cases hr : byId R b with
        | none =>
          simp only [hl, hr] at h
          exact Or.inl ⟨fun hg => byId_none hr (hg.2.2 b rfl), h⟩
        | some r =>
          simp only [hl, hr] at h
          split at h
          · rename_i m s1 hmn
            obtain ⟨out0, h0, rfl⟩ := cons_ok h
            exact Or.inr ⟨m, s1, out0, .both hl hr hmn, h0, rfl⟩
          all_goals cases h

theorem mergeIndis_srcs {L R : List INode} {res : List Res} {st st' : MSt} {out : List (Res × INode)}
    (hg : ∀ c ∈ res, GoodRes L R c) (h : mergeIndis L R res st = .ok out st') :
    out.map (·.1) = res := by
  induction res generalizing st out with
  | nil => cases h; rfl
  | cons c rest ih =>
    rcases mergeIndis_cons_ok h with ⟨hbad, _⟩ | ⟨m, s1, out0, _, h0, rfl⟩
    · exact absurd (hg c List.mem_cons_self) hbad
    · rw [List.map_cons, ih (fun c' hc' => hg c' (List.mem_cons_of_mem _ hc')) h0]

theorem output_of_comparison {L R : List INode} {res : List Res} {st st' : MSt}
    {out : List (Res × INode)} (h : mergeIndis L R res st = .ok out st') {c : Res} {m : INode}
    (hm : (c, m) ∈ out) : OutIndi L R c m := by
  induction res generalizing st out with
  | nil => cases h; cases hm
  | cons c0 rest ih =>
    rcases mergeIndis_cons_ok h with ⟨_, h0⟩ | ⟨m0, s1, out0, hmade, h0, rfl⟩
    · exact ih h0 hm
    · rcases List.mem_cons.mp hm with e | hm
      · cases e; exact hmade
      · exact ih h0 hm

theorem mergeDocs_ok {res : List Res} {Ld Rd : List INode} {st st' : MSt}
    {indis : List (Res × INode)} {others : List INode}
    (h : mergeDocs res Ld Rd st = .ok indis others st') :
    ∃ s1, mergeIndis (indisOf Ld) (indisOf Rd) res st = .ok indis s1 ∧
      others = ((mergeNodeSlicesP codeFlags (eqMergeF codeFlags (mergeFuel (othersOf Ld) (othersOf Rd)))
        (othersOf Ld) (othersOf Rd) s1).1).map (·.node) := by
  unfold mergeDocs at h
  split at h
  · cases h
  · cases h
  · cases h
  · rename_i out s1 hind
    simp only at h
    split at h
    · cases h
    · cases h
    · rename_i es s2 hsl
      simp only [DocOutcome.ok.injEq] at h
      obtain ⟨rfl, rfl, rfl⟩ := h
      exact ⟨s1, hind, by rw [(C09.mergeNodeSlicesO_ok hsl).1]⟩

theorem merged_records {Q : Node → Prop} {res : List Res} {Ld Rd : List INode} {st st' : MSt}
    {indis : List (Res × INode)} {others : List INode}
    (h : mergeDocs res Ld Rd st = .ok indis others st')
    (hl : ∀ n ∈ Ld, Q n.erase) (hr : ∀ n ∈ Rd, Q n.erase)
    (hmerge : ∀ l r m s0 s1, mergeNodes codeFlags l r s0 = .ok m s1 → Q l.erase → Q r.erase → Q m.erase)
    (hslices : ∀ fuel l r s, (∀ x ∈ l ++ r, Q x.erase) →
      ∀ e ∈ (mergeNodeSlicesP codeFlags (eqMergeF codeFlags fuel) l r s).1, Q e.node.erase) :
    ∀ k ∈ eraseList (indis.map (·.2)) ++ eraseList others, Q k := by
  obtain ⟨s1, hind, rfl⟩ := mergeDocs_ok h
  rw [eraseList_eq_map, eraseList_eq_map, ← List.map_append, List.forall_mem_map]
  intro n hn
  rcases List.mem_append.mp hn with hn | hn
  · obtain ⟨⟨c, m⟩, hcm, rfl⟩ := List.mem_map.mp hn
    cases output_of_comparison hind hcm with
    | left ha => exact hl m (List.mem_filter.mp (byId_some ha).1).1
    | right hb => exact hr m (List.mem_filter.mp (byId_some hb).1).1
    | @both _ _ l r _ s0 s1' hla hrb hmn =>
      exact hmerge l r m s0 s1' hmn (hl l (List.mem_filter.mp (byId_some hla).1).1)
        (hr r (List.mem_filter.mp (byId_some hrb).1).1)
  · obtain ⟨e, he, rfl⟩ := List.mem_map.mp hn
    refine hslices _ _ _ _ (fun x hx => ?_) e he
    rcases List.mem_append.mp hx with hx | hx
    · exact hl x (List.mem_filter.mp hx).1
    · exact hr x (List.mem_filter.mp hx).1

/-- Let the comparisons be what C11's model of `Compare` produces for
    *any* order of arrival of the similarity results (`Match.winners … arrival`, persons = the
    individuals of the two documents, C11's guards on the inputs).  If the merge of the
    individuals succeeds, it yields exactly one output individual per comparison, and every
    individual of either input is accounted for by exactly one output individual. -/
theorem accounting_composed (Lp Rp : List Person) (L R : List INode)
    (hL : Lp.map (·.id) = L.map INode.id) (hR : Rp.map (·.id) = R.map INode.id)
    (scoreT scoreF : Nat → Nat → Rat) (prefer minW : Rat)
    (ch : Person → Option Person) (s0 : Sent) (arrival : List Job)
    (hperm : arrival.Perm (jobsFrom ch s0 Lp Rp scoreT scoreF prefer)) (hadm : Admissible Rp ch)
    (hids : IdsOK Lp Rp) (hp : PtrsOK Lp Rp)
    (st st' : MSt) (out : List (Res × INode))
    (h : mergeIndis L R (winners Lp Rp minW arrival) st = .ok out st') :
    out.map (·.1) = winners Lp Rp minW arrival ∧
    (∀ x ∈ L.map INode.id, leftCount x (out.map (·.1)) = 1) ∧
    (∀ y ∈ R.map INode.id, rightCount y (out.map (·.1)) = 1) := by
  have hgood : ∀ c ∈ winners Lp Rp minW arrival, GoodRes L R c := by
    intro c hc
    obtain ⟨h1, h2, h3⟩ := C11.no_empty_result Lp Rp scoreT scoreF prefer minW ch s0 arrival hperm hadm c hc
    exact ⟨h1, fun x hx => hL ▸ h2 x hx, fun y hy => hR ▸ h3 y hy⟩
  have hsrc := mergeIndis_srcs hgood h
  obtain ⟨v1, v2⟩ := C11.valid_matching Lp Rp scoreT scoreF prefer minW ch s0 arrival hperm hadm hids hp
  rw [hsrc]
  exact ⟨rfl, fun x hx => v1 x (hL ▸ hx), fun y hy => v2 y (hR ▸ hy)⟩

/-- Every output individual made from a pair `(left, right)` keeps the left
    record's tag, value and *pointer* and represents every node of the left individual and of the
    right individual by an Equal node under an Equal parent, all the way down (C09's `covers`).
    Guard (C09's): no RESI / EVEN node in the individuals, DATE values in `D`, `Equals`
    transitive on `D`.  An unmatched individual is the input node itself. -/
theorem facts_of_both (D : List Str) (hD : dateTrans D = true) (L R : List INode)
    (hplain : ∀ n ∈ L ++ R, plainOK D n.erase = true)
    (res : List Res) (st st' : MSt) (out : List (Res × INode))
    (h : mergeIndis L R res st = .ok out st') (a b : Nat) (m : INode)
    (hm : ((some a, some b), m) ∈ out) :
    ∃ l r, byId L a = some l ∧ byId R b = some r ∧ sameHdr m.erase l.erase ∧
      covers l.erase m.erase = true ∧
      ∀ k ∈ r.erase.kids, ∃ k' ∈ m.erase.kids, covers k k' = true := by
  cases output_of_comparison h hm with
  | @both _ _ l r _ s0 s1 hl hr hmn =>
    have hlp := hplain l (List.mem_append_left _ (byId_some hl).1)
    have hrp := hplain r (List.mem_append_right _ (byId_some hr).1)
    obtain ⟨hk, hcl, _⟩ := C09.nothing_lost_partial D hD codeFlags l r m s0 s1 hlp hrp hmn
    have hinv := (C09.nothing_invented codeFlags l r m s0 s1 hmn).2
    exact ⟨l, r, hl, hr, hinv, hcl, fun k hk' => hk k (List.mem_append_right _ hk')⟩

theorem legalT_of_hdrs : ∀ (n : Node), (∀ d h, h ∈ levelAt d n → LegalHdr h.1 h.2.1 h.2.2) → LegalT n := by
  intro n
  induction n using Node.induct with
  | h t v p ks ih =>
    intro h
    rw [LegalT, legalF_iff]
    refine ⟨h 0 (t, v, p) (by rw [levelAt]; exact List.mem_singleton_self _), fun k hk => ?_⟩
    exact ih k hk fun d hh hm => h (d + 1) hh (by rw [levelAt]; exact mem_levelAtList.mpr ⟨k, hk, hm⟩)

theorem legalF_of_hdrs : ∀ (ks : List Node), (∀ d h, h ∈ levelAtList d ks → LegalHdr h.1 h.2.1 h.2.2) → LegalF ks :=
  fun ks h => (legalF_iff ks).mpr fun k hk =>
    legalT_of_hdrs k fun d hh hm => h d hh (mem_levelAtList.mpr ⟨k, hk, hm⟩)

theorem hdrs_of_legalT : ∀ (n : Node), LegalT n → ∀ d h, h ∈ levelAt d n → LegalHdr h.1 h.2.1 h.2.2 := by
  intro n
  induction n using Node.induct with
  | h t v p ks ih =>
    intro hl d h hm
    rw [LegalT, legalF_iff] at hl
    cases d with
    | zero => rw [levelAt, List.mem_singleton] at hm; subst hm; exact hl.1
    | succ d =>
      rw [levelAt] at hm
      obtain ⟨k, hk, hm⟩ := mem_levelAtList.mp hm
      exact ih k hk (hl.2 k hk) d h hm

theorem legalT_fromNodes {xs : List Node} {v : Node} (h : FromNodes xs v) (hx : ∀ x ∈ xs, LegalT x) :
    LegalT v :=
  legalT_of_hdrs v fun d hh hm =>
    have ⟨k, hk, hm'⟩ := mem_levelAtList.mp (h d hh hm)
    hdrs_of_legalT k (hx k hk) d hh hm'

/-- The records of the merged document consist of legal parts whenever the
    records of both inputs do (as everything the decoder accepts does: C02 `decode_legal`):
    every header of the output is a header of an input (C09 `nothing_invented`). -/
theorem merged_legal (res : List Res) (Ld Rd : List INode) (st st' : MSt)
    (indis : List (Res × INode)) (others : List INode)
    (hl : LegalF (eraseList Ld)) (hr : LegalF (eraseList Rd))
    (h : mergeDocs res Ld Rd st = .ok indis others st') :
    LegalF (eraseList (indis.map (·.2)) ++ eraseList others) := by
  rw [eraseList_eq_map, legalF_iff, List.forall_mem_map] at hl hr
  rw [legalF_iff]
  refine merged_records h hl hr ?_ ?_
  · intro l r m s0 s1 hmn hl hr
    exact legalT_fromNodes (C09.nothing_invented codeFlags l r m s0 s1 hmn).1
      (List.forall_mem_cons.mpr ⟨hl, List.forall_mem_cons.mpr ⟨hr, nofun⟩⟩)
  · intro fuel l r s hx e he
    exact legalT_fromNodes ((C09.nothing_invented_slices codeFlags fuel l r s).1 e he) (List.forall_mem_map.mpr hx)

/-- If both inputs consist of legal parts and the merged records
    satisfy the role-order condition of `C01.Legal` (every HUSB / WIFE / CHIL node after some FAM
    node: explicit, decidable guard — the driver evaluates `legalDocB` on every generated case
    and the correspondence shows it), the merged document serialises to text that decodes to the
    same document again, with any decoder options. -/
theorem output_redecodes_partial (res : List Res) (Ld Rd : List INode) (st st' : MSt)
    (indis : List (Res × INode)) (others : List INode) (bom : Bool) (o : Opts)
    (hl : LegalF (eraseList Ld)) (hr : LegalF (eraseList Rd))
    (h : mergeDocs res Ld Rd st = .ok indis others st')
    (hroles : rolesOKF false (eraseList (indis.map (·.2)) ++ eraseList others) = true) :
    decode o (encode ⟨bom, eraseList (indis.map (·.2)) ++ eraseList others⟩) =
      .ok ⟨bom, eraseList (indis.map (·.2)) ++ eraseList others⟩ :=
  C01.decode_encode _ ⟨merged_legal res Ld Rd st st' indis others hl hr h, hroles⟩ o

/-- every HUSB / WIFE / CHIL node of every record lies below a FAM node of that record (decidable
    guard on an *input* document; the driver evaluates it on every generated input) -/
def recordsBelowFam (l : List INode) : Bool := l.all fun n => rolesBelowFam false n.erase

/-- If the role nodes of both inputs sit below their FAM records, the records
    of the merged document satisfy the role-order condition of `C01.Legal`, in the order in which
    the merge emits them (C09 `roles_below_fam`). -/
theorem merged_roles (res : List Res) (Ld Rd : List INode) (st st' : MSt)
    (indis : List (Res × INode)) (others : List INode)
    (hl : recordsBelowFam Ld = true) (hr : recordsBelowFam Rd = true)
    (h : mergeDocs res Ld Rd st = .ok indis others st') :
    rolesOKF false (eraseList (indis.map (·.2)) ++ eraseList others) = true := by
  obtain ⟨rb1, rb2, rb3⟩ := C09.roles_below_fam codeFlags
  simp only [recordsBelowFam, List.all_eq_true] at hl hr
  exact rb3 _ (merged_records h hl hr rb1 rb2)

/-- No run-time guard on the output: if both inputs consist of
    legal parts (C02 `decode_legal` for decoded inputs) and their role lines sit below their FAM
    records (`recordsBelowFam`, decidable, on the inputs), the merged document serialises to text
    that decodes to the same document again, with any decoder options. -/
theorem output_redecodes (res : List Res) (Ld Rd : List INode) (st st' : MSt)
    (indis : List (Res × INode)) (others : List INode) (bom : Bool) (o : Opts)
    (hl : LegalF (eraseList Ld)) (hr : LegalF (eraseList Rd))
    (hbl : recordsBelowFam Ld = true) (hbr : recordsBelowFam Rd = true)
    (h : mergeDocs res Ld Rd st = .ok indis others st') :
    decode o (encode ⟨bom, eraseList (indis.map (·.2)) ++ eraseList others⟩) =
      .ok ⟨bom, eraseList (indis.map (·.2)) ++ eraseList others⟩ :=
  output_redecodes_partial res Ld Rd st st' indis others bom o hl hr h
    (merged_roles res Ld Rd st st' indis others hbl hbr h)

/-- inputs that come out of the decoder (without multi-line continuation) are legal -/
theorem decoded_input_legal (o : Opts) (hm : o.allowMultiLine = false) (s : Str) (d : Dec.Doc)
    (h : decode o s = .ok d) : LegalF d.nodes := (C02.decode_legal o hm s d h).nodes

end Gedcom.C10

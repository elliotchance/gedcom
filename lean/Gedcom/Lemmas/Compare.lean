/- The letter `compareDatesForLetter` gives a day, from where the day lies with respect to a
   forward range `[s,e]`; `compare` once both letters are known, and when it answers
   `entirelyBefore` (for any two ranges). -/
import Gedcom.Model.Compare
import Gedcom.Lemmas.Basics
namespace Gedcom

variable {v s e : Int}

theorem letterOf_before (h : v < s) (hse : s ≤ e) : letterOf v s e = .b := by
  unfold letterOf
  rw [if_neg (by omega), if_neg (by omega), if_pos h]

theorem letterOf_start (h : v = s) : letterOf v s e = .e := if_pos h

theorem letterOf_inside (h1 : s < v) (h2 : v < e) : letterOf v s e = .a := by
  unfold letterOf
  rw [if_neg (by omega), if_neg (by omega), if_neg (by omega), if_neg (by omega)]

theorem letterOf_end (h : v = e) (hs : s < v) : letterOf v s e = .E := by
  unfold letterOf
  rw [if_neg (by omega), if_pos h]

theorem letterOf_after (h : e < v) (hse : s ≤ e) : letterOf v s e = .A := by
  unfold letterOf
  rw [if_neg (by omega), if_neg (by omega), if_neg (by omega), if_pos h]

/-- the end letter is the start letter, except that a day on the range's end is `E` even where
    the range is a single day -/
theorem letterEnd_eq : letterEnd v s e = if v = e then .E else letterOf v s e := by
  unfold letterEnd
  by_cases h : v = e
  · rw [if_pos h]
    by_cases hs : v = s
    · rw [if_pos ⟨letterOf_start hs, letterOf_start h⟩]
    · rw [show letterOf v s e = .E from (if_neg hs).trans (if_pos h)]
      exact ite_self _
  · have : letterOf v e e ≠ .e := by
      unfold letterOf
      rw [if_neg h, if_neg h]
      repeat' apply ite_ne_of_ne
      all_goals nofun
    rw [if_neg h, if_neg (fun h' => this h'.2)]

theorem letterEnd_before (h : v < s) (hse : s ≤ e) : letterEnd v s e = .b := by
  rw [letterEnd_eq, if_neg (by omega), letterOf_before h hse]

theorem letterEnd_start (h : v = s) (he : v < e) : letterEnd v s e = .e := by
  rw [letterEnd_eq, if_neg (by omega), letterOf_start h]

theorem letterEnd_inside (h1 : s < v) (h2 : v < e) : letterEnd v s e = .a := by
  rw [letterEnd_eq, if_neg (by omega), letterOf_inside h1 h2]

theorem letterEnd_end (h : v = e) : letterEnd v s e = .E := by
  rw [letterEnd_eq, if_pos h]

theorem letterEnd_after (h : e < v) (hse : s ≤ e) : letterEnd v s e = .A := by
  rw [letterEnd_eq, if_neg (by omega), letterOf_after h hse]

theorem compare_of_letters {a b c d : Int} {l1 l2 : Letter} (h1 : letterOf a c d = l1)
    (h2 : letterEnd b c d = l2) : compare a b c d = Generated.compareMatrix l1 l2 := by
  unfold compare letterStart
  rw [h1, h2]

end Gedcom

namespace Gedcom.C20

theorem matrix_entirelyBefore (l1 l2 : Letter) :
    Generated.compareMatrix l1 l2 = .entirelyBefore ↔ l1 = .b ∧ l2 = .b := by
  cases l1 <;> cases l2 <;> simp [Generated.compareMatrix]

theorem letterOf_b (v s e : Int) : letterOf v s e = .b ↔ v < s ∧ v ≠ e := by
  unfold letterOf
  constructor
  · -- only the third test answers `b`, and it is reached when `v ≠ s` and `v ≠ e`
    intro h
    repeat' split at h
    all_goals first | omega | (exact absurd h (by decide))
  · rintro ⟨h1, h2⟩
    have h3 : ¬ v = s := by omega
    simp [h1, h2, h3]

theorem letterEnd_b (v s e : Int) : letterEnd v s e = .b ↔ letterOf v s e = .b := by
  unfold letterEnd
  split
  · rename_i h
    rw [h.1]
    constructor <;> intro h' <;> exact absurd h' (by decide)
  · rfl

/-- `DateRange.Compare` answers "entirely before" exactly when both ends of the receiver lie before
    the argument's start and differ from the argument's end (for ranges that run forwards:
    `b < c`, C06 `event_order`) -/
theorem compare_entirelyBefore (a b c d : Int) :
    compare a b c d = .entirelyBefore ↔ (a < c ∧ a ≠ d) ∧ (b < c ∧ b ≠ d) := by
  unfold compare letterStart
  rw [matrix_entirelyBefore, letterEnd_b, letterOf_b, letterOf_b]

end Gedcom.C20

/-
  Facts about the equality model (Gedcom/Model/Equal.lean) that hold of every node: unfolding
  equations and `Equals` rule by rule, the bridge to the greedy-matching lemmas, reflexivity, and
  the kind table — the rule, kind and tag of two nodes of which one `Equals` the other.  Symmetry
  and transitivity are in Lemmas/EqualGuard.lean.
-/
import Gedcom.Lemmas.Greedy
import Gedcom.Lemmas.Node
import Gedcom.Generated.EqualSrc
namespace Gedcom
open G

theorem eq_of_length_le_one {α : Type} {l : List α} (h : l.length ≤ 1) {x y : α} (hx : x ∈ l)
    (hy : y ∈ l) : x = y := by
  match l, h with
  | [], _ => cases hx
  | [z], _ => simp at hx hy; rw [hx, hy]
  | _ :: _ :: _, h => simp at h

/-- `a.Equals(b)` with the inner `DeepEqualNodes` calls written as such: the form in which the proofs of
    its laws unfold it (`equalsShallow_eq`); statements speak of `equalsShallow` -/
def equalsSpec (a b : Node) : Bool :=
  match a.rule with
  | .simple => a.tag == b.tag && a.value == b.value && a.ptr == b.ptr
  | .vital => a.kind == b.kind
  | .resi =>
    b.rule == .resi &&
      (datesMatch a.dates b.dates ||
        (a.dates.length + b.dates.length == 0 &&
          deepEqualNodes (a.kids.filter isPlace) (b.kids.filter isPlace)))
  | .even =>
    b.rule == .even &&
      (datesMatch a.dates b.dates ||
        (a.dates.length == 0 && b.dates.length == 0 && a.value == b.value &&
          deepEqualNodes a.kids b.kids))
  | .date => b.rule == .date && dateValueEquals a.value b.value
  | .uid => b.rule == .uid && uidEquals a.value b.value

theorem matchKids_filter (keep : Node → Bool) (l r : List Node) :
    matchKids keep l r = matchKids (fun _ => true) (l.filter keep) r := by
  induction l generalizing r with
  | nil => simp [matchKids]
  | cons k ks ih =>
    rw [matchKids]
    cases hk : keep k
    · simp only [hk, List.filter_cons_of_neg, Bool.false_eq_true, not_false_eq_true, if_false]
      exact ih r
    · simp only [List.filter_cons_of_pos hk, if_true]
      rw [matchKids]
      simp only [if_true]
      cases removeFirst (deepEqual k) r with
      | none => rfl
      | some r' => exact ih r'

theorem equalsShallow_eq (a b : Node) : equalsShallow a b = equalsSpec a b := by
  unfold equalsShallow equalsSpec deepEqualNodes
  rw [matchKids_filter isPlace]
  cases a.rule <;> rfl

theorem equalsShallow_simple {a b : Node} (h : a.rule = .simple) :
    equalsShallow a b = (a.tag == b.tag && a.value == b.value && a.ptr == b.ptr) := by
  unfold equalsShallow; rw [h]

theorem equalsShallow_vital {a b : Node} (h : a.rule = .vital) :
    equalsShallow a b = (a.kind == b.kind) := by
  unfold equalsShallow; rw [h]

theorem equalsShallow_date {a b : Node} (h : a.rule = .date) :
    equalsShallow a b = (b.rule == .date && dateValueEquals a.value b.value) := by
  unfold equalsShallow; rw [h]

theorem equalsShallow_uid {a b : Node} (h : a.rule = .uid) :
    equalsShallow a b = (b.rule == .uid && uidEquals a.value b.value) := by
  unfold equalsShallow; rw [h]

theorem equalsShallow_dated {a b : Node} (hr : a.rule = .resi ∨ a.rule = .even) (hd : a.dates ≠ []) :
    equalsShallow a b = (b.rule == a.rule && datesMatch a.dates b.dates) := by
  have hlen : a.dates.length ≠ 0 := fun h0 => hd (List.eq_nil_of_length_eq_zero h0)
  have h1 : (a.dates.length + b.dates.length == 0) = false := by
    rw [beq_eq_false_iff_ne]; omega
  have h2 : (a.dates.length == 0) = false := beq_eq_false_iff_ne.mpr hlen
  unfold equalsShallow
  rcases hr with hr | hr
  · rw [hr]; simp only [h1, Bool.false_and, Bool.or_false]
  · rw [hr]; simp only [h2, Bool.false_and, Bool.or_false]

theorem deepEqual_eq (a b : Node) :
    deepEqual a b = (equalsShallow a b && deepEqualNodes a.kids b.kids) := by
  cases a with
  | mk t v p ks =>
    rw [deepEqual]
    simp only [equalsShallow, deepEqualNodes, Node.rule, Node.kind, Node.tag, Node.value,
      Node.ptr, Node.kids, Node.dates]

theorem deepEqualNodes_length {l r : List Node} (h : deepEqualNodes l r = true) :
    l.length = r.length := by
  simp only [deepEqualNodes, Bool.and_eq_true, beq_iff_eq] at h
  exact h.1

theorem deepEqual_of_length_ne {a b : Node} (h : a.kids.length ≠ b.kids.length) :
    deepEqual a b = false := by
  rw [deepEqual_eq]
  cases hk : deepEqualNodes a.kids b.kids with
  | false => exact Bool.and_false _
  | true => exact absurd (deepEqualNodes_length hk) h

theorem deepEqualNodes_eq_greedy (l r : List Node) :
    deepEqualNodes l r = greedy deepEqual l r := by
  induction l generalizing r with
  | nil => cases r <;> simp [deepEqualNodes, greedy, matchKids]
  | cons k ks ih =>
    unfold deepEqualNodes
    rw [matchKids, greedy]
    simp only [if_true]
    cases hrf : removeFirst (deepEqual k) r with
    | none => simp
    | some r' =>
      obtain ⟨y, _, hp⟩ := removeFirst_some hrf
      have hl : r.length = r'.length + 1 := by rw [hp.length_eq]; simp
      simp only [List.length_cons, hl]
      rw [← ih r']
      unfold deepEqualNodes
      simp

theorem deepEqualNodes_sound {l r : List Node} (h : deepEqualNodes l r = true) :
    Matched deepEqual l r :=
  greedy_sound _ _ _ (deepEqualNodes_eq_greedy l r ▸ h)

theorem PDate.equals_refl (d : PDate) (h : d.isZero = false) : d.equals d = true := by
  unfold PDate.equals
  simp [h, PDate.is]

theorem DateRange.equals_refl (r : DateRange) : r.equals r = true := by
  unfold DateRange.equals
  by_cases hv : r.isValid = true
  · simp only [DateRange.isValid, Bool.and_eq_true, Bool.not_eq_true'] at hv
    simp [PDate.equals_refl _ hv.1, PDate.equals_refl _ hv.2]
  · simp [hv]

theorem dateValueEquals_refl (a : Str) : dateValueEquals a a = true :=
  DateRange.equals_refl _

theorem uidEquals_iff (a b : Str) :
    uidEquals a b = true ↔ uidUUID a = uidUUID b ∧ (uidUUID a = none → a = b) := by
  unfold uidEquals
  cases ha : uidUUID a <;> cases hb : uidUUID b <;> simp
  · rintro rfl; rw [ha] at hb; cases hb
  · rintro rfl; rw [ha] at hb; cases hb

theorem uidEquals_refl (a : Str) : uidEquals a a = true :=
  (uidEquals_iff a a).mpr ⟨rfl, fun _ => rfl⟩

theorem uidEquals_symm (a b : Str) (h : uidEquals a b = true) : uidEquals b a = true := by
  rw [uidEquals_iff] at h ⊢
  exact ⟨h.1.symm, fun hn => (h.2 (h.1.trans hn)).symm⟩

theorem uidEquals_trans (a b c : Str) (h1 : uidEquals a b = true) (h2 : uidEquals b c = true) :
    uidEquals a c = true := by
  rw [uidEquals_iff] at h1 h2 ⊢
  exact ⟨h1.1.trans h2.1, fun hn => (h1.2 hn).trans (h2.2 (h1.1.symm.trans hn))⟩

theorem datesMatch_iff (l r : List Node) :
    datesMatch l r = true ↔ ∃ x ∈ l, ∃ y ∈ r, dateValueEquals x.value y.value = true := by
  simp [datesMatch, List.any_eq_true]

theorem mem_dates {n d : Node} (h : d ∈ n.dates) : d ∈ n.kids ∧ isDate d = true :=
  List.mem_filter.mp h

theorem datesMatch_length {l r : List Node} (h : datesMatch l r = true) :
    0 < l.length ∧ 0 < r.length := by
  obtain ⟨x, hx, y, hy, _⟩ := (datesMatch_iff _ _).mp h
  exact ⟨List.length_pos_of_mem hx, List.length_pos_of_mem hy⟩

theorem datesMatch_self (l : List Node) : l = [] ∨ datesMatch l l = true := by
  cases l with
  | nil => exact Or.inl rfl
  | cons d ds =>
    exact Or.inr ((datesMatch_iff _ _).mpr ⟨d, by simp, d, by simp, dateValueEquals_refl _⟩)

theorem deepEqualNodes_refl (l : List Node) (h : ∀ k ∈ l, deepEqual k k = true) :
    deepEqualNodes l l = true := by
  rw [deepEqualNodes_eq_greedy]; exact greedy_refl _ _ h

/-- `Equals` of two nodes with the same tag, value and pointer, from their children (`hplac` is
    needed for RESI, `hkids` for EVEN) -/
theorem equalsShallow_of_head {a b : Node} (ht : a.tag = b.tag) (hv : a.value = b.value)
    (hp : a.ptr = b.ptr) (hd : (a.dates = [] ∧ b.dates = []) ∨ datesMatch a.dates b.dates = true)
    (hplac : deepEqualNodes (a.kids.filter isPlace) (b.kids.filter isPlace) = true)
    (hkids : deepEqualNodes a.kids b.kids = true) : equalsShallow a b = true := by
  have hk : b.kind = a.kind := by rw [Node.kind, Node.kind, ht]
  have hrule : b.rule = a.rule := by rw [Node.rule, Node.rule, hk]
  rw [equalsShallow_eq]
  unfold equalsSpec
  rw [hrule]
  cases a.rule with
  | simple => simp [ht, hv, hp]
  | vital => simp [hk]
  | date => simp [hv, dateValueEquals_refl]
  | uid => simp [hv, uidEquals_refl]
  | resi =>
    simp only [beq_self_eq_true, Bool.true_and, Bool.or_eq_true, Bool.and_eq_true]
    exact hd.symm.imp id fun h0 => ⟨by simp [h0.1, h0.2], hplac⟩
  | even =>
    simp only [beq_self_eq_true, Bool.true_and, Bool.or_eq_true, Bool.and_eq_true]
    exact hd.symm.imp id fun h0 => ⟨⟨⟨by simp [h0.1], by simp [h0.2]⟩, by simp [hv]⟩, hkids⟩

theorem deepEqual_refl (n : Node) : deepEqual n n = true := by
  induction n using Node.induct with
  | h t v p ks ih =>
    rw [deepEqual_eq, Bool.and_eq_true]
    exact ⟨equalsShallow_of_head rfl rfl rfl ((datesMatch_self _).imp (fun h => ⟨h, h⟩) id)
      (deepEqualNodes_refl _ fun k hk => ih k (List.mem_filter.mp hk).1) (deepEqualNodes_refl _ ih),
      deepEqualNodes_refl _ ih⟩

theorem equalsShallow_refl (a : Node) : equalsShallow a a = true :=
  (Bool.and_eq_true_iff.mp (deepEqual_eq a a ▸ deepEqual_refl a)).1

/-! ### the kind table: a kind with an `Equals` of its own belongs to one tag; a node follows the
    DATE rule exactly when its tag is DATE -/

theorem ruleOfKind_ne_simple_iff (k : String) :
    ruleOfKind k ≠ .simple ↔ k ∈ Generated.equalsOverrides := by
  simp only [Generated.equalsOverrides, List.mem_cons, List.mem_nil_iff, or_false]
  constructor
  · intro h
    by_cases m : k = "BaptismNode" ∨ k = "BirthNode" ∨ k = "BurialNode" ∨ k = "DateNode" ∨
        k = "DeathNode" ∨ k = "EventNode" ∨ k = "ResidenceNode" ∨ k = "UniqueIDNode"
    · exact m
    · exfalso
      apply h
      simp only [not_or] at m
      obtain ⟨h1, h2, h3, h4, h5, h6, h7, h8⟩ := m
      simp [ruleOfKind, h1, h2, h3, h4, h5, h6, h7, h8]
  · rintro (rfl | rfl | rfl | rfl | rfl | rfl | rfl | rfl) <;> decide +kernel

/-- apart from the four vital kinds, which share a rule, the rule determines the kind -/
theorem ruleOfKind_inj : ∀ k ∈ Generated.equalsOverrides, ∀ k' ∈ Generated.equalsOverrides,
    ruleOfKind k = ruleOfKind k' → ruleOfKind k ≠ .vital → k = k' := by decide +kernel

theorem ruleOfKind_date {k : String} (h : ruleOfKind k = .date) : k = "DateNode" :=
  ruleOfKind_inj k ((ruleOfKind_ne_simple_iff k).mp (by rw [h]; decide)) "DateNode" (by decide)
    (by rw [h]; decide) (by rw [h]; decide)

theorem bytesToString_injective {s t : Str} (h : bytesToString s = bytesToString t) : s = t := by
  refine (List.map_inj_right ?_).mp (String.ofList_injective h)
  intro a b hab
  apply UInt8.toNat_inj.mp
  rw [← toNat_ofNat_byte a, hab, toNat_ofNat_byte]

/-- a kind with an `Equals` of its own belongs to one tag: its first entry in the kind table is
    its only one -/
theorem equalsOverrides_once : ∀ e ∈ Generated.kindTable, e.2 ∈ Generated.equalsOverrides →
    Generated.kindTable.find? (·.2 == e.2) = some e := by decide +kernel

theorem kindOfTag_entry {s k : String} (h : Generated.kindOfTag s = k) (hk : k ≠ "SimpleNode") :
    ∃ e ∈ Generated.kindTable, e.1 = s ∧ e.2 = k := by
  unfold Generated.kindOfTag at h
  split at h
  · rename_i e he
    exact ⟨e, List.mem_of_find?_eq_some he, by simpa using List.find?_some he, h⟩
  · exact absurd h.symm hk

theorem tag_of_kind {a b : Node} (hk : a.kind = b.kind) (hs : a.kind ∈ Generated.equalsOverrides) :
    a.tag = b.tag := by
  -- evaluated: "SimpleNode" is not one of the eight strings of `equalsOverrides`
  have hne : a.kind ≠ "SimpleNode" := fun h => absurd (h ▸ hs) (by decide +kernel)
  obtain ⟨e1, he1, h11, h12⟩ := kindOfTag_entry (s := bytesToString a.tag) (k := a.kind) rfl hne
  obtain ⟨e2, he2, h21, h22⟩ := kindOfTag_entry (s := bytesToString b.tag) (k := a.kind) hk.symm hne
  have h1 := equalsOverrides_once e1 he1 (h12 ▸ hs)
  have h2 := equalsOverrides_once e2 he2 (h22 ▸ hs)
  rw [h12] at h1
  rw [h22, h1] at h2
  have : e1 = e2 := Option.some.inj h2
  exact bytesToString_injective (by rw [← h11, ← h21, this])

theorem isDate_of_rule {n : Node} (h : n.rule = .date) : isDate n = true := by
  have hk : n.kind = Node.kind (.mk tagDATE [] [] []) :=
    (ruleOfKind_date h).trans (by decide +kernel)
  have ht := tag_of_kind hk
    ((ruleOfKind_ne_simple_iff _).mp fun hs => by rw [Node.rule, hs] at h; cases h)
  rw [isDate, ht]
  exact beq_self_eq_true tagDATE

theorem rule_of_isDate {n : Node} (h : isDate n = true) : n.rule = .date := by
  simp only [isDate, beq_iff_eq] at h
  simp only [Node.rule, Node.kind, h]
  -- the kind table at the tag DATE
  decide +kernel

theorem rule_of_tag {a b : Node} (h : a.tag = b.tag) : a.rule = b.rule := by
  simp only [Node.rule, Node.kind, h]

theorem equalsShallow_rule {a b : Node} (h : equalsShallow a b = true) : b.rule = a.rule := by
  unfold equalsShallow at h
  cases hr : a.rule <;> rw [hr] at h <;>
    simp only [Bool.and_eq_true, beq_iff_eq] at h
  case simple => exact (rule_of_tag h.1.1).symm.trans hr
  case vital =>
    simp only [Node.rule, h.symm]
    simpa [Node.rule] using hr
  case resi => exact h.1
  case even => exact h.1
  case date => exact h.1
  case uid => exact h.1

theorem equalsShallow_kind {a b : Node} (h : equalsShallow a b = true) (hs : a.rule ≠ .simple) :
    a.kind = b.kind := by
  by_cases hv : a.rule = .vital
  · rw [equalsShallow_vital hv] at h
    exact beq_iff_eq.mp h
  · -- RESI, EVEN, DATE, _UID: `Equals` checks the rule of the other node
    have hr : b.rule = a.rule := equalsShallow_rule h
    have hb : b.rule ≠ .simple := by rw [hr]; exact hs
    exact ruleOfKind_inj a.kind ((ruleOfKind_ne_simple_iff _).mp hs) b.kind ((ruleOfKind_ne_simple_iff _).mp hb) hr.symm hv

theorem equalsShallow_tag {a b : Node} (h : equalsShallow a b = true) : a.tag = b.tag := by
  by_cases hs : a.rule = .simple
  · rw [equalsShallow_simple hs] at h
    simp only [Bool.and_eq_true, beq_iff_eq] at h
    exact h.1.1
  · exact tag_of_kind (equalsShallow_kind h hs) ((ruleOfKind_ne_simple_iff _).mp hs)

end Gedcom

/-
  `splitLines` (the model's line splitter, which every decoder theorem is about) is the
  `Decode` loop over `readLine` with stop bytes LF and CR.
-/
import Gedcom.Model.ReadLine
import Gedcom.Model.Decoder
namespace Gedcom.ReadLine
open Gedcom Gedcom.Dec

theorem readLine_rest_length (bs : List UInt8) (s acc : Str) {line rest : Str}
    (h : readLine bs s acc = (line, rest, false)) : rest.length < s.length := by
  induction s generalizing acc with
  | nil => cases h
  | cons b s ih =>
    rw [readLine] at h
    by_cases hb : bs.contains b = true
    · rw [if_pos hb] at h
      cases h
      exact Nat.lt_succ_self _
    · rw [if_neg hb] at h
      exact Nat.lt_succ_of_lt (ih (b :: acc) h)

theorem go_readLine (s acc : Str) :
    splitLines.go s acc =
      match readLine [LF, CR] s acc with
      | (line, _, true) => [line]
      | (line, rest, false) => line :: splitLines.go rest [] := by
  induction s generalizing acc with
  | nil => simp [splitLines.go, readLine]
  | cons b rest ih =>
    rw [splitLines.go, readLine]
    have hc : [LF, CR].contains b = (b == LF || b == CR) := by
      simp only [List.contains_cons, List.contains_nil, Bool.or_false]
    by_cases hb : (b == LF || b == CR) = true
    · rw [if_pos hb, if_pos (hc ▸ hb)]
    · rw [if_neg hb, if_neg (hc ▸ hb)]
      exact ih (b :: acc)

theorem allLines_eq_go (fuel : Nat) (s : Str) (h : s.length < fuel) :
    allLines [LF, CR] fuel s = splitLines.go s [] := by
  induction fuel generalizing s with
  | zero => omega
  | succ fuel ih =>
    rw [allLines, go_readLine]
    rcases hr : readLine [LF, CR] s [] with ⟨line, rest, eof⟩
    cases eof with
    | true => rfl
    | false =>
      simp only
      have := readLine_rest_length _ _ _ hr
      rw [ih rest (by omega)]

end Gedcom.ReadLine

/-
  "Nothing lost" for the merge model: the representation relation `covers`, the guard under which
  `Equals` is a matter of tag, value and pointer only and transitive, and the invariants of the
  loops (Gedcom/Lemmas/Merge.lean) that carry it.
-/
import Gedcom.Lemmas.Merge
import Gedcom.Lemmas.EqualGuard
namespace Gedcom

mutual
/-- `covers x m`: the input node `x` is represented by the result node `m` — `m.Equals(x)`, and
    every child of `x` is represented by a child of `m` ("an equal node under an equal parent",
    all the way down) -/
def covers : Node → Node → Bool
  | .mk t v p ks, m => equalsShallow m (.mk t v p ks) && coversKids ks m.kids
def coversKids : List Node → List Node → Bool
  | [], _ => true
  | k :: ks, ms => ms.any (fun m => covers k m) && coversKids ks ms
end

theorem coversKids_iff (ks ms : List Node) :
    coversKids ks ms = true ↔ ∀ k ∈ ks, ∃ m ∈ ms, covers k m = true := by
  induction ks with
  | nil => simp [coversKids]
  | cons k ks ih => simp [coversKids, ih, List.any_eq_true]

theorem covers_iff {x m : Node} :
    covers x m = true ↔ equalsShallow m x = true ∧ ∀ k ∈ x.kids, ∃ k' ∈ m.kids, covers k k' = true := by
  cases x with
  | mk t v p ks => simp [covers, coversKids_iff, Node.kids]

/-! ## the guard: header-only, transitive equality -/

/-- the node's `Equals` looks at tag, value and pointer only (not RESI / EVEN), and a DATE value
    is one of `D` -/
def hdrOK (D : List Str) (n : Node) : Bool :=
  n.rule != .resi && n.rule != .even && (n.rule != .date || D.contains n.value)

mutual
def plainOK (D : List Str) : Node → Bool
  | .mk t v p ks => hdrOK D (.mk t v p []) && plainOKList D ks
def plainOKList (D : List Str) : List Node → Bool
  | [] => true
  | k :: ks => plainOK D k && plainOKList D ks
end

/-- `DateNode.Equals` is transitive on the values in `D` (weaker than C07's `dateEquiv`) -/
def dateTrans (D : List Str) : Bool :=
  D.all fun a => D.all fun b => D.all fun c =>
    !(dateValueEquals a b && dateValueEquals b c) || dateValueEquals a c

theorem dateTrans_of_dateEquiv {D : List Str} (h : dateEquiv D = true) : dateTrans D = true := by
  simp only [dateEquiv, dateTrans, List.all_eq_true, Bool.and_eq_true] at h ⊢
  intro a ha b hb c hc
  exact (h a ha b hb).2 c hc

theorem dateTrans_apply {D : List Str} (hD : dateTrans D = true) {a b c : Str} (ha : a ∈ D)
    (hb : b ∈ D) (hc : c ∈ D) (h1 : dateValueEquals a b = true) (h2 : dateValueEquals b c = true) :
    dateValueEquals a c = true := by
  simp only [dateTrans, List.all_eq_true, Bool.or_eq_true, Bool.not_eq_true',
    Bool.and_eq_false_iff] at hD
  rcases hD a ha b hb c hc with (h | h) | h
  · rw [h1] at h; cases h
  · rw [h2] at h; cases h
  · exact h

theorem plainOKList_iff (D : List Str) (ks : List Node) :
    plainOKList D ks = true ↔ ∀ k ∈ ks, plainOK D k = true := by
  induction ks with
  | nil => simp [plainOKList]
  | cons k ks ih => simp [plainOKList, ih]

theorem plainOK_iff {D : List Str} {n : Node} :
    plainOK D n = true ↔ hdrOK D n = true ∧ ∀ k ∈ n.kids, plainOK D k = true := by
  cases n with
  | mk t v p ks =>
    simp only [plainOK, Bool.and_eq_true, plainOKList_iff, Node.kids]
    rfl

def sameHdr (a b : Node) : Prop := a.tag = b.tag ∧ a.value = b.value ∧ a.ptr = b.ptr

theorem sameHdr.rule {a b : Node} (h : sameHdr a b) : a.rule = b.rule := rule_of_tag h.1

/-- for a node that is not RESI / EVEN, `Equals` depends on the two headers only -/
theorem equalsShallow_congr {a a' b b' : Node} (ha : sameHdr a a') (hb : sameHdr b b')
    (h1 : a.rule ≠ .resi) (h2 : a.rule ≠ .even) : equalsShallow a b = equalsShallow a' b' := by
  have hr := ha.rule
  have hrb := hb.rule
  have hkb : b.kind = b'.kind := by simp only [Node.kind, hb.1]
  have hka : a.kind = a'.kind := by simp only [Node.kind, ha.1]
  cases hra : a.rule with
  | simple =>
    rw [equalsShallow_simple hra, equalsShallow_simple (hr ▸ hra), ha.1, ha.2.1, ha.2.2, hb.1, hb.2.1,
      hb.2.2]
  | vital => rw [equalsShallow_vital hra, equalsShallow_vital (hr ▸ hra), hka, hkb]
  | resi => exact absurd hra h1
  | even => exact absurd hra h2
  | date => rw [equalsShallow_date hra, equalsShallow_date (hr ▸ hra), hrb, ha.2.1, hb.2.1]
  | uid => rw [equalsShallow_uid hra, equalsShallow_uid (hr ▸ hra), hrb, ha.2.1, hb.2.1]

/-! ## the wide guard: RESI / EVEN nodes that have a DATE child are admitted

  `ResidenceNode.Equals` / `EventNode.Equals` go by the DATE children when the receiver has one
  ("some pair of dates is Equal"), and by deep equality of the PLAC children / of all children
  only when neither side has a DATE child.  Merging keeps a representative of every DATE child,
  so a dated RESI / EVEN node stays Equal to everything it was Equal to (given transitivity of the
  date relation); a dateless one need not (`nothing_lost_counterexample_resi`). -/

/-- guard of one node: a DATE value is in `D`; a RESI / EVEN node has at least one DATE child -/
def nodeOK (D : List Str) (n : Node) : Bool :=
  (n.rule != .date || D.contains n.value) &&
  ((n.rule != .resi && n.rule != .even) || !n.dates.isEmpty)

mutual
def wideOK (D : List Str) : Node → Bool
  | .mk t v p ks => nodeOK D (.mk t v p ks) && wideOKList D ks
def wideOKList (D : List Str) : List Node → Bool
  | [] => true
  | k :: ks => wideOK D k && wideOKList D ks
end

theorem wideOKList_iff (D : List Str) (ks : List Node) :
    wideOKList D ks = true ↔ ∀ k ∈ ks, wideOK D k = true := by
  induction ks with
  | nil => simp [wideOKList]
  | cons k ks ih => simp [wideOKList, ih]

theorem wideOK_iff {D : List Str} {n : Node} :
    wideOK D n = true ↔ nodeOK D n = true ∧ ∀ k ∈ n.kids, wideOK D k = true := by
  cases n with
  | mk t v p ks => simp only [wideOK, Bool.and_eq_true, wideOKList_iff, Node.kids]

theorem nodeOK_iff {D : List Str} {n : Node} :
    nodeOK D n = true ↔
      (n.rule = .date → n.value ∈ D) ∧ (n.rule = .resi ∨ n.rule = .even → n.dates ≠ []) := by
  simp only [nodeOK, Bool.and_eq_true, Bool.or_eq_true, bne_iff_ne, ne_eq, Bool.not_eq_true',
    List.isEmpty_eq_false_iff, List.contains_eq_mem, decide_eq_true_eq, ← not_or,
    ← Decidable.imp_iff_not_or]

theorem hdrOK_iff {D : List Str} {n : Node} :
    hdrOK D n = true ↔ nodeOK D n = true ∧ n.rule ≠ .resi ∧ n.rule ≠ .even := by
  simp only [hdrOK, nodeOK, Bool.and_eq_true, Bool.or_eq_true, bne_iff_ne, ne_eq]
  constructor
  · rintro ⟨⟨h1, h2⟩, h3⟩; exact ⟨⟨h3, Or.inl ⟨h1, h2⟩⟩, h1, h2⟩
  · rintro ⟨⟨h3, _⟩, h1, h2⟩; exact ⟨⟨h1, h2⟩, h3⟩

theorem hdrOK_rule {D : List Str} {n : Node} (h : hdrOK D n = true) :
    n.rule ≠ .resi ∧ n.rule ≠ .even :=
  (hdrOK_iff.mp h).2

theorem plainOK_wide {D : List Str} (n : Node) (h : plainOK D n = true) : wideOK D n = true := by
  induction n using Node.induct with
  | h t v p ks ih =>
    rw [plainOK_iff] at h
    rw [wideOK_iff]
    exact ⟨(hdrOK_iff.mp h.1).1, fun k hk => ih k hk (h.2 k hk)⟩

theorem wideOK_date_value {D : List Str} {n d : Node} (h : wideOK D n = true) (hd : d ∈ n.dates) :
    d.value ∈ D :=
  (nodeOK_iff.mp (wideOK_iff.mp ((wideOK_iff.mp h).2 d (mem_dates hd).1)).1).1
    (rule_of_isDate (mem_dates hd).2)

theorem date_of_equals {k d : Node} (h : equalsShallow k d = true) (hd : isDate d = true) :
    isDate k = true ∧ dateValueEquals k.value d.value = true := by
  have hr : k.rule = .date := by rw [← equalsShallow_rule h]; exact rule_of_isDate hd
  rw [equalsShallow_date hr, Bool.and_eq_true] at h
  exact ⟨isDate_of_rule hr, h.2⟩

theorem equalsShallow_dated_iff {a b : Node} (hr : a.rule = .resi ∨ a.rule = .even)
    (hd : a.dates ≠ []) :
    equalsShallow a b = true ↔
      b.rule = a.rule ∧ ∃ d ∈ a.dates, ∃ d' ∈ b.dates, dateValueEquals d.value d'.value = true := by
  rw [equalsShallow_dated hr hd, Bool.and_eq_true, beq_iff_eq, datesMatch_iff]

theorem date_kid_cover {e m d : Node} (hd : d ∈ e.dates)
    (hk : ∀ k ∈ e.kids, ∃ k' ∈ m.kids, covers k k' = true) :
    ∃ d' ∈ m.dates, dateValueEquals d'.value d.value = true := by
  obtain ⟨hdk, hdd⟩ := mem_dates hd
  obtain ⟨k', hk', hc⟩ := hk d hdk
  have := date_of_equals (covers_iff.mp hc).1 hdd
  exact ⟨k', List.mem_filter.mpr ⟨hk', this.1⟩, this.2⟩

/-- Reflexivity up to merging: a node with the header of `e` whose children represent the
    children of `e` is Equal to `e` -/
theorem refl_cover {D : List Str} {m e : Node} (hh : sameHdr m e) (he : nodeOK D e = true)
    (hk : ∀ k ∈ e.kids, ∃ k' ∈ m.kids, covers k k' = true) : equalsShallow m e = true := by
  by_cases hr : e.rule = .resi ∨ e.rule = .even
  · have hmr : m.rule = .resi ∨ m.rule = .even := by rw [hh.rule]; exact hr
    obtain ⟨d, hd⟩ := List.exists_mem_of_ne_nil _ ((nodeOK_iff.mp he).2 hr)
    obtain ⟨d', hd', hv⟩ := date_kid_cover hd hk
    exact (equalsShallow_dated_iff hmr (List.ne_nil_of_mem hd')).mpr ⟨hh.rule.symm, _, hd', _, hd, hv⟩
  · obtain ⟨h1, h2⟩ := not_or.mp hr
    rw [equalsShallow_congr hh ⟨rfl, rfl, rfl⟩ (by rw [hh.rule]; exact h1) (by rw [hh.rule]; exact h2)]
    exact equalsShallow_refl e

/-- Transitivity up to merging: if `m` is Equal to `e`, its children represent the children of
    `e`, and `e` is Equal to `x`, then `m` is Equal to `x`.  (For RESI / EVEN this is not
    transitivity of Equals — which fails for nodes with several dates — but uses the
    representation of the DATE children.) -/
theorem trans_cover {D : List Str} (hD : dateTrans D = true) {m e x : Node}
    (hm : wideOK D m = true) (he : wideOK D e = true) (hx : wideOK D x = true)
    (h1 : equalsShallow m e = true) (h2 : equalsShallow e x = true)
    (hk : ∀ k ∈ e.kids, ∃ k' ∈ m.kids, covers k k' = true) : equalsShallow m x = true := by
  have hm' := wideOK_iff.mp hm
  have he' := wideOK_iff.mp he
  have hx' := wideOK_iff.mp hx
  have hr1 := equalsShallow_rule h1
  have hr2 := equalsShallow_rule h2
  by_cases hr : e.rule = .resi ∨ e.rule = .even
  · have hmr : m.rule = .resi ∨ m.rule = .even := by rw [← hr1]; exact hr
    obtain ⟨_, d, hd, dx, hdx, hv⟩ :=
      (equalsShallow_dated_iff hr ((nodeOK_iff.mp he'.1).2 hr)).mp h2
    obtain ⟨d', hd', hv'⟩ := date_kid_cover hd hk
    exact (equalsShallow_dated_iff hmr (List.ne_nil_of_mem hd')).mpr ⟨hr2.trans hr1, _, hd', _, hdx,
      dateTrans_apply hD (wideOK_date_value hm hd') (wideOK_date_value he hd)
        (wideOK_date_value hx hdx) hv' hv⟩
  · -- `Equals` compares the DATE values at most, and those compose
    have hmr : ¬(m.rule = .resi ∨ m.rule = .even) := by rw [← hr1]; exact hr
    exact equalsShallow_trans
      (fun hd => dateTrans_apply hD ((nodeOK_iff.mp hm'.1).1 hd)
        ((nodeOK_iff.mp he'.1).1 (hr1.trans hd)) ((nodeOK_iff.mp hx'.1).1 (hr2.trans (hr1.trans hd))))
      (fun h => absurd h hmr) (fun h => absurd h hmr) h1 h2

theorem nodeOK_cover {D : List Str} {m e : Node} (hh : sameHdr m e) (he : nodeOK D e = true)
    (hk : ∀ k ∈ e.kids, ∃ k' ∈ m.kids, covers k k' = true) : nodeOK D m = true := by
  rw [nodeOK_iff, hh.rule, hh.2.1]
  refine ⟨(nodeOK_iff.mp he).1, fun hr => ?_⟩
  obtain ⟨d, hd⟩ := List.exists_mem_of_ne_nil _ ((nodeOK_iff.mp he).2 hr)
  obtain ⟨d', hd', _⟩ := date_kid_cover hd hk
  exact List.ne_nil_of_mem hd'

theorem covers_refl (x : Node) : covers x x = true := by
  induction x using Node.induct with
  | h t v p ks ih =>
    rw [covers_iff]
    exact ⟨equalsShallow_refl _, fun k hk => ⟨k, hk, ih k hk⟩⟩

theorem covers_trans {D : List Str} (hD : dateTrans D = true) (x : Node) :
    ∀ e m : Node, wideOK D x = true → wideOK D e = true → wideOK D m = true →
      covers x e = true → covers e m = true → covers x m = true := by
  induction x using Node.induct with
  | h t v p ks ih =>
    intro e m hx he hm h1 h2
    have hx' := wideOK_iff.mp hx
    have he' := wideOK_iff.mp he
    have hm' := wideOK_iff.mp hm
    rw [covers_iff] at h1 h2 ⊢
    refine ⟨trans_cover hD hm he hx h2.1 h1.1 h2.2, ?_⟩
    intro k hk
    obtain ⟨k', hk', hc1⟩ := h1.2 k hk
    obtain ⟨k'', hk'', hc2⟩ := h2.2 k' hk'
    exact ⟨k'', hk'', ih k hk k' k'' (hx'.2 k hk) (he'.2 k' hk') (hm'.2 k'' hk'') hc1 hc2⟩

/-- contract of a merge function: the merged node represents both arguments -/
def CovFn (D : List Str) (f : MergeFn) : Prop :=
  ∀ a b s m s', f a b s = (some m, s') → wideOK D a.erase = true → wideOK D b.erase = true →
    wideOK D m.erase = true ∧ covers a.erase m.erase = true ∧ covers b.erase m.erase = true

theorem Made.cov {D : List Str} {R : MSt → MSt → Prop} {fl : MergeFlags} {f : MergeFn}
    {l r : List INode} {st fin : MSt} {e : Elem} (hf : CovFn D f)
    (h : Made R fl f l r st fin e) (hx : ∀ x ∈ l ++ r, wideOK D x.erase = true) :
    wideOK D e.node.erase = true ∧
    ∀ p ∈ e.prov, ∀ x, p.get l r = some x → covers x.erase e.node.erase = true := by
  cases h with
  | @copy p a s hp _ _ =>
    have hok := hx a (Src.mem_iff.mpr ⟨p, hp⟩)
    dsimp only
    rw [copyIf_erase]
    refine ⟨hok, fun p' hp' x hpx => ?_⟩
    rw [List.mem_singleton.mp hp', hp] at hpx
    rw [← Option.some.inj hpx]
    exact covers_refl _
  | @merged i j a b y n s s' ha hb hy _ hfm _ =>
    have hm := hf y b s n s' hfm (by rw [hy]; exact hx a (Src.mem_iff.mpr ⟨.L i, ha⟩))
      (hx b (Src.mem_iff.mpr ⟨.R j, hb⟩))
    refine ⟨hm.1, fun p' hp' x hpx => ?_⟩
    rcases List.mem_cons.mp hp' with rfl | hp'
    · rw [← Option.some.inj (ha.symm.trans hpx), ← hy]
      exact hm.2.1
    · rw [List.mem_singleton.mp hp'] at hpx
      rw [← Option.some.inj (hb.symm.trans hpx)]
      exact hm.2.2

/-- No element is merged twice, so this needs no transitivity of `Equals`. -/
theorem mergeNodeSlices_covers {D : List Str} (fl : MergeFlags) (f : MergeFn) (hf : CovFn D f)
    (l r : List INode) (st : MSt) (hl : ∀ x ∈ l ++ r, wideOK D x.erase = true) :
    (∀ n ∈ (mergeNodeSlices fl f l r st).1, wideOK D n.erase = true) ∧
    ∀ x ∈ l ++ r, ∃ n ∈ (mergeNodeSlices fl f l r st).1, covers x.erase n.erase = true := by
  have hmade := (mergeNodeSlicesP_made (Follows.any fl f l r) st).2.2
  constructor
  · intro n hn
    obtain ⟨e, he, rfl⟩ := List.mem_map.mp hn
    exact ((hmade e he).cov hf hl).1
  · intro x hx
    obtain ⟨p, hp⟩ := Src.mem_iff.mp hx
    obtain ⟨e, he, hpe⟩ := mergeNodeSlicesP_kept fl f l r st hp
    exact ⟨e.node, List.mem_map_of_mem he, ((hmade e he).cov hf hl).2 p hpe x hp⟩

theorem sameHdr_setKids (n : INode) (ks : List INode) : sameHdr (n.setKids ks).erase n.erase := by
  rw [INode.setKids_erase, INode.erase_eq]; exact ⟨rfl, rfl, rfl⟩

theorem mergeNodesF_root {fl : MergeFlags} {fuel : Nat} {l r m : INode} {st st' : MSt}
    (h : mergeNodesF fl fuel l r st = .ok m st') : sameHdr m.erase l.erase := by
  refine mergeNodesF_rule (Q := fun l _ _ m _ => sameHdr m.erase l.erase) (fun mn _ l r st _ => ?_)
    fuel l r st m st' h
  rw [copyM_setKids_erase, INode.erase_eq l]
  exact ⟨rfl, rfl, rfl⟩

theorem wideOK_kid {D : List Str} {n k : INode} (h : wideOK D n.erase = true) (hk : k ∈ n.kids) :
    wideOK D k.erase = true :=
  (wideOK_iff.mp h).2 _ (by rw [INode.erase_kids]; exact List.mem_map_of_mem hk)

/-- what MergeNodes returns, value-wise: the left header over children that represent the
    children of both inputs -/
structure MergesTo (D : List Str) (l r m : Node) : Prop where
  ok : wideOK D m = true
  hdr : sameHdr m l
  kids : ∀ k ∈ l.kids ++ r.kids, ∃ k' ∈ m.kids, covers k k' = true

theorem MergesTo.left {D : List Str} {l r m : Node} (h : MergesTo D l r m)
    (hl : wideOK D l = true) : covers l m = true := by
  have hk : ∀ k ∈ l.kids, ∃ k' ∈ m.kids, covers k k' = true :=
    fun k hk => h.kids k (List.mem_append_left _ hk)
  rw [covers_iff]
  exact ⟨refl_cover h.hdr (wideOK_iff.mp hl).1 hk, hk⟩

theorem MergesTo.right {D : List Str} (hD : dateTrans D = true) {l r m : Node}
    (h : MergesTo D l r m) (hl : wideOK D l = true) (hr : wideOK D r = true)
    (hE : equalsShallow l r = true) : covers r m = true := by
  have hml := covers_iff.mp (h.left hl)
  rw [covers_iff]
  exact ⟨trans_cover hD h.ok hl hr hml.1 hE hml.2,
    fun k hk => h.kids k (List.mem_append_right _ hk)⟩

/-- `n.SetNodes(ks)`, with `ks` within the guard and representing the children of `n` and of `y`,
    is what MergeNodes returns for `n` and `y`: a right child absorbed by a node of the result and
    the whole call are the same step -/
theorem mergesTo_setKids {D : List Str} {n y : INode} {ks : List INode}
    (hn : wideOK D n.erase = true) (hks : ∀ k ∈ ks, wideOK D k.erase = true)
    (hk : ∀ k ∈ n.kids ++ y.kids, ∃ k' ∈ ks, covers k.erase k'.erase = true) :
    MergesTo D n.erase y.erase (n.setKids ks).erase := by
  have lift : ∀ k ∈ n.erase.kids ++ y.erase.kids,
      ∃ k' ∈ (n.setKids ks).erase.kids, covers k k' = true := by
    intro k hk'
    rw [INode.erase_kids, INode.erase_kids, ← List.map_append] at hk'
    obtain ⟨k0, hk0, rfl⟩ := List.mem_map.mp hk'
    obtain ⟨k', hk'', hc⟩ := hk k0 hk0
    exact ⟨k'.erase, by rw [INode.setKids_erase]; exact List.mem_map_of_mem hk'', hc⟩
  refine ⟨?_, sameHdr_setKids n ks, lift⟩
  rw [wideOK_iff]
  refine ⟨nodeOK_cover (sameHdr_setKids n ks) (wideOK_iff.mp hn).1
    fun k hk' => lift k (List.mem_append_left _ hk'), fun k hk' => ?_⟩
  rw [INode.setKids_erase] at hk'
  obtain ⟨k', hk'', rfl⟩ := List.mem_map.mp hk'
  exact hks k' hk''

theorem foldRight_covers {D : List Str} (hD : dateTrans D = true) (fl : MergeFlags) (eqf : MergeFn)
    (hf : CovFn D eqf) (root : Nat) (rootTag : Str) (kids cur : List INode) (st : MSt)
    (hcur : ∀ n ∈ cur, wideOK D n.erase = true) (hkids : ∀ c ∈ kids, wideOK D c.erase = true) :
    (∀ n ∈ (foldRight fl eqf root rootTag cur kids st).1, wideOK D n.erase = true) ∧
    ∀ x ∈ cur ++ kids, ∃ n ∈ (foldRight fl eqf root rootTag cur kids st).1,
      covers x.erase n.erase = true := by
  have hX : ∀ x ∈ cur ++ kids, wideOK D x.erase = true := fun x hx =>
    (List.mem_append.mp hx).elim (hcur x) (hkids x)
  -- every node there was at the start is represented among the children so far, or still to come
  have h := foldRight_inv fl eqf root rootTag
    (fun c rest _ => (∀ n ∈ c, wideOK D n.erase = true) ∧ (∀ x ∈ rest, wideOK D x.erase = true) ∧
      ∀ x ∈ cur ++ kids, (∃ n ∈ c, covers x.erase n.erase = true) ∨ x ∈ rest)
    (by
      intro pre n post child rest s _ hE ⟨h1, h2, h3⟩
      have hnok := h1 n List.mem_append_cons_self
      have hcok := h2 child List.mem_cons_self
      have hm := mergeNodeSlices_covers fl eqf hf child.kids n.kids s fun k hk =>
        (List.mem_append.mp hk).elim (wideOK_kid hcok) (wideOK_kid hnok)
      -- `n` with the merged grandchildren is `n` merged with `child`
      have hmt : MergesTo D n.erase child.erase
          (n.setKids (mergeNodeSlices fl eqf child.kids n.kids s).1).erase :=
        mergesTo_setKids hnok hm.1 fun k hk =>
          hm.2 k (List.mem_append.mpr (List.mem_append.mp hk).symm)
      refine ⟨fun n' hn' => ?_, fun x hx => h2 x (List.mem_cons_of_mem _ hx), fun x hx => ?_⟩
      · rcases mem_replaced (n' := n) hn' with rfl | hn'
        · exact hmt.ok
        · exact h1 n' hn'
      · rcases h3 x hx with ⟨y, hy, hc⟩ | hy
        · rcases mem_replaced hy with rfl | hy
          · exact Or.inl ⟨_, List.mem_append_cons_self,
              covers_trans hD _ _ _ (hX x hx) hnok hmt.ok hc (hmt.left hnok)⟩
          · exact Or.inl ⟨y, hy, hc⟩
        · rcases List.mem_cons.mp hy with rfl | hy
          · exact Or.inl ⟨_, List.mem_append_cons_self, hmt.right hD hnok hcok hE⟩
          · exact Or.inr hy)
    (by
      intro c child rest s _ ⟨h1, h2, h3⟩
      have he := addedChild_erase fl rootTag child s
      refine ⟨fun n' hn' => ?_, fun x hx => h2 x (List.mem_cons_of_mem _ hx), fun x hx => ?_⟩
      · rcases mem_added hn' with hn' | rfl
        · exact h1 n' hn'
        · rw [he]; exact h2 child List.mem_cons_self
      · rcases h3 x hx with ⟨y, hy, hc⟩ | hy
        · exact Or.inl ⟨y, List.mem_append_left _ hy, hc⟩
        · rcases List.mem_cons.mp hy with rfl | hy
          · exact Or.inl ⟨_, List.mem_append_cons_self, by rw [he]; exact covers_refl _⟩
          · exact Or.inr hy)
    kids cur st
    ⟨hcur, hkids, fun x hx => (List.mem_append.mp hx).imp (fun h => ⟨x, h, covers_refl _⟩) id⟩
  exact ⟨h.1, fun x hx => (h.2.2 x hx).resolve_right List.not_mem_nil⟩

theorem eqMergeWith_cov {D : List Str} (hD : dateTrans D = true)
    (mn : INode → INode → MSt → MergeOutcome)
    (h : ∀ l r st m st', mn l r st = .ok m st' → wideOK D l.erase = true →
      wideOK D r.erase = true → MergesTo D l.erase r.erase m.erase) :
    CovFn D (eqMergeWith mn) := by
  intro a b s m s' hf ha hb
  obtain ⟨hE, hmn⟩ := eqMergeWith_some hf
  have hmt := h a b s m s' hmn ha hb
  exact ⟨hmt.ok, hmt.left ha, hmt.right hD ha hb hE⟩

theorem mergeNodesF_covers {D : List Str} (hD : dateTrans D = true) (fl : MergeFlags) (fuel : Nat) :
    ∀ (l r : INode) (st : MSt) (m : INode) (st' : MSt), mergeNodesF fl fuel l r st = .ok m st' →
      wideOK D l.erase = true → wideOK D r.erase = true → MergesTo D l.erase r.erase m.erase := by
  refine mergeNodesF_rule (fun mn ih l r st _ hl hr => ?_) fuel
  have hc : wideOK D (copyM l st).1.erase = true := by rw [copyM_erase]; exact hl
  have hf := foldRight_covers hD fl _ (eqMergeWith_cov hD _ ih) (copyM l st).1.id l.tag r.kids
    (copyM l st).1.kids (copyM l st).2 (fun n hn => wideOK_kid hc hn) (fun c hc' => wideOK_kid hr hc')
  have := mergesTo_setKids (y := r) hc hf.1 hf.2
  rwa [copyM_erase] at this

theorem eqMergeF_cov {D : List Str} (hD : dateTrans D = true) (fl : MergeFlags) (fuel : Nat) :
    CovFn D (eqMergeF fl fuel) :=
  eqMergeWith_cov hD _ (mergeNodesF_covers hD fl fuel)

theorem neverMerge_cov (D : List Str) : CovFn D neverMerge := by
  intro a b s m s' h; simp [neverMerge] at h

end Gedcom

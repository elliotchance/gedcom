/-
  The guard of C07's symmetry / transitivity / permutation / edit theorems, characterised: what the
  asymmetric pairs of `Date.Equals` rest on, a syntactic class of DATE values inside the guard, and
  counterexample trees for every list of DATE values outside it (the known finding's matcher — the
  harness evaluates `dateEquiv` with the real `DateNode.Equals` — is the complement of the guard).
-/
import Gedcom.Lemmas.EqualGuard
import Gedcom.Lemmas.ReorderEdit
import Gedcom.Model.DateGuard
import Gedcom.Lemmas.Calendar
import Gedcom.Lemmas.DateTable
namespace Gedcom

theorem PDate.yearsFrac_den_pos (d : PDate) : 0 < d.yearsFrac.2 := by
  unfold PDate.yearsFrac
  split
  · simp
  · split
    · rcases yearsDen_cases d.toDate with h | h <;> simp [h]
    · split <;> simp

/-- for every non-zero date with a before / after constraint there is a date (year 1 or year 2
    with the same constraint) against which `Date.Equals` is not symmetric -/
theorem oneSided_breaks (a : PDate) (hz : a.isZero = false) (h : a.constraint.oneSided = true) :
    ∃ b : PDate, b.isZero = false ∧ a.asymPair b = true := by
  -- `Years()` of the years 1 and 2 given without month and day: 1.5 and 2.5
  have f1 : ∀ c, PDate.yearsFrac ⟨0, 0, 1, c, false⟩ = (1098, 732) := by
    intro c; cases c <;> decide +kernel
  have f2 : ∀ c, PDate.yearsFrac ⟨0, 0, 2, c, false⟩ = (1830, 732) := by
    intro c; cases c <;> decide +kernel
  have hp := PDate.yearsFrac_den_pos a
  have pair : ∀ y : Nat, y ≠ 0 → (a.yearsLt ⟨0, 0, y, a.constraint, false⟩ ||
      PDate.yearsLt ⟨0, 0, y, a.constraint, false⟩ a) = true →
      ∃ b : PDate, b.isZero = false ∧ a.asymPair b = true := by
    intro y hy c
    refine ⟨⟨0, 0, y, a.constraint, false⟩, by simp [PDate.isZero, hy], ?_⟩
    unfold PDate.asymPair
    rw [hz, h, c]
    simp [PDate.isZero, hy]
  by_cases c1 : (a.yearsLt ⟨0, 0, 1, a.constraint, false⟩ ||
      PDate.yearsLt ⟨0, 0, 1, a.constraint, false⟩ a) = true
  · exact pair 1 (by decide) c1
  · by_cases c2 : (a.yearsLt ⟨0, 0, 2, a.constraint, false⟩ ||
        PDate.yearsLt ⟨0, 0, 2, a.constraint, false⟩ a) = true
    · exact pair 2 (by decide) c2
    · -- `a.Years()` cannot be that of year 1 and that of year 2
      exfalso
      simp only [PDate.yearsLt, f1, f2, Bool.or_eq_true, decide_eq_true_eq, not_or] at c1 c2
      omega

theorem DateMatcher.at_plain {r c : Constraint} (hr : r.oneSided = false)
    (hc : c.oneSided = false) : DateMatcher.at r c = .A := by
  revert hr hc
  cases r <;> cases c <;> decide

theorem PDate.equals_plain_iff {a b : PDate} (ha : plainPDate a = true) (hb : plainPDate b = true) :
    a.equals b = true ↔ a.isZero = false ∧ b.isZero = false ∧ a.sameDMY b = true := by
  simp only [plainPDate, Bool.not_eq_true'] at ha hb
  rw [PDate.equals_table, DateMatcher.at_plain hb ha]
  cases hi : a.is b
  · cases a.isZero <;> cases b.isZero <;> simp [DateMatcher.run]
  · rw [PDate.sameDMY_of_is hi]
    cases a.isZero <;> cases b.isZero <;> simp

theorem parseDateRange_original (s : Str) : (parseDateRange s).original = s := by
  unfold parseDateRange
  simp only
  split <;> rfl

theorem dateValueEquals_plain (a b : Str) (ha : plainDateValue a = true)
    (hb : plainDateValue b = true) :
    dateValueEquals a b = true ↔
      a = b ∨ ((parseDateRange a).isValid = true ∧ (parseDateRange b).isValid = true ∧
        (parseDateRange a).start.sameDMY (parseDateRange b).start = true ∧
        (parseDateRange a).end_.sameDMY (parseDateRange b).end_ = true) := by
  by_cases hab : a = b
  · subst hab
    exact ⟨fun _ => Or.inl rfl, fun _ => dateValueEquals_refl a⟩
  -- different strings: the start dates and the end dates decide
  have hne : (a == b) = false := beq_false_of_ne hab
  unfold dateValueEquals DateRange.equals
  rw [parseDateRange_original, parseDateRange_original, hne, Bool.and_false, Bool.and_false]
  simp only [Bool.false_eq_true, if_false, Bool.and_eq_true, hab, false_or]
  unfold plainDateValue at ha hb
  simp only [Bool.or_eq_true, Bool.not_eq_true', Bool.and_eq_true] at ha hb
  simp only [DateRange.isValid, Bool.and_eq_true, Bool.not_eq_true']
  constructor
  · intro ⟨hs, he⟩
    obtain ⟨zs, zs'⟩ := PDate.equals_nonzero hs
    obtain ⟨ze, ze'⟩ := PDate.equals_nonzero he
    have pa := ha.resolve_left (by simp [DateRange.isValid, zs, ze])
    have pb := hb.resolve_left (by simp [DateRange.isValid, zs', ze'])
    exact ⟨⟨zs, ze⟩, ⟨zs', ze'⟩, ((PDate.equals_plain_iff pa.1 pb.1).mp hs).2.2,
      ((PDate.equals_plain_iff pa.2 pb.2).mp he).2.2⟩
  · intro ⟨va, vb, hs, he⟩
    have pa := ha.resolve_left (by simp [DateRange.isValid, va.1, va.2])
    have pb := hb.resolve_left (by simp [DateRange.isValid, vb.1, vb.2])
    exact ⟨(PDate.equals_plain_iff pa.1 pb.1).mpr ⟨va.1, vb.1, hs⟩,
      (PDate.equals_plain_iff pa.2 pb.2).mpr ⟨va.2, vb.2, he⟩⟩

theorem dateEquiv_of_plain (D : List Str) (h : D.all plainDateValue = true) :
    dateEquiv D = true := by
  simp only [List.all_eq_true] at h
  refine (dateEquiv_iff D).mpr ⟨?_, ?_⟩
  · intro a ha b hb hab
    rw [dateValueEquals_plain a b (h a ha) (h b hb)] at hab
    rw [dateValueEquals_plain b a (h b hb) (h a ha)]
    rcases hab with rfl | ⟨va, vb, hs, he⟩
    · exact Or.inl rfl
    · rw [PDate.sameDMY_comm] at hs he
      exact Or.inr ⟨vb, va, hs, he⟩
  · intro a ha b hb c hc hab hbc
    rw [dateValueEquals_plain a b (h a ha) (h b hb)] at hab
    rw [dateValueEquals_plain b c (h b hb) (h c hc)] at hbc
    rw [dateValueEquals_plain a c (h a ha) (h c hc)]
    rcases hab with rfl | ⟨va, vb, hs, he⟩
    · exact hbc
    · rcases hbc with rfl | ⟨_, vc, hs', he'⟩
      · exact Or.inr ⟨va, vb, hs, he⟩
      · exact Or.inr ⟨va, vc, PDate.sameDMY_trans hs hs', PDate.sameDMY_trans he he'⟩

theorem dateEquiv_false_cases (D : List Str) (h : dateEquiv D = false) :
    (∃ a ∈ D, ∃ b ∈ D, dateValueEquals a b = true ∧ dateValueEquals b a = false) ∨
    (∃ a ∈ D, ∃ b ∈ D, ∃ c ∈ D, dateValueEquals a b = true ∧ dateValueEquals b c = true ∧
      dateValueEquals a c = false) := by
  apply Classical.byContradiction
  intro hn
  have hD : dateEquiv D = true :=
    (dateEquiv_iff D).mpr ⟨fun a ha b hb hab => ?_, fun a ha b hb c hc hab hbc => ?_⟩
  · rw [hD] at h; cases h
  · cases hba : dateValueEquals b a
    · exact absurd (Or.inl ⟨a, ha, b, hb, hab, hba⟩) hn
    · rfl
  · cases hac : dateValueEquals a c
    · exact absurd (Or.inr ⟨a, ha, b, hb, c, hc, hab, hbc, hac⟩) hn
    · rfl

def dateLeaf (v : Str) : Node := .mk tagDATE v [] []

theorem deepEqual_dateLeaf (a b : Str) :
    deepEqual (dateLeaf a) (dateLeaf b) = dateValueEquals a b := by
  have ra : (dateLeaf a).rule = .date := rule_of_isDate (by simp [isDate, dateLeaf, Node.tag])
  have rb : (dateLeaf b).rule = .date := rule_of_isDate (by simp [isDate, dateLeaf, Node.tag])
  rw [deepEqual_eq, equalsShallow_date ra, rb]
  simp [dateLeaf, Node.value, Node.kids, deepEqualNodes, matchKids]

theorem okNode_dateLeaf {D : List Str} {a : Str} (h : a ∈ D) : okNode D (dateLeaf a) = true := by
  simp [dateLeaf, okNode, okList, h]

def birtOf (vs : List Str) : Node := .mk (lit "BIRT") [] [] (vs.map dateLeaf)

theorem okNode_birtOf {D : List Str} {vs : List Str} (h : ∀ v ∈ vs, v ∈ D) :
    okNode D (birtOf vs) = true := by
  have hb : isDateLike (.mk (lit "BIRT") [] [] []) = false := by decide +kernel
  unfold birtOf
  simp only [okNode, hb, Bool.not_false, Bool.true_or, Bool.true_and]
  apply (okList_iff D _).mpr
  intro k hk
  obtain ⟨v, hv, rfl⟩ := List.mem_map.mp hk
  exact okNode_dateLeaf (h v hv)

theorem reorder_rotate (a b c : Str) : Reorder (birtOf [a, b, c]) (birtOf [b, c, a]) := by
  unfold birtOf
  refine .mk (ReorderL.refl _) ?_
  simp only [List.map]
  exact (List.Perm.swap _ _ _).trans (List.Perm.cons _ (List.Perm.swap _ _ _))

theorem rotate_fails (a b c : Str) (hab : dateValueEquals a b = true)
    (hbc : dateValueEquals b c = true) (hca : dateValueEquals c a = false) :
    deepEqual (birtOf [a, b, c]) (birtOf [b, c, a]) = false := by
  rw [deepEqual_eq]
  have : deepEqualNodes (birtOf [a, b, c]).kids (birtOf [b, c, a]).kids = false := by
    simp [birtOf, Node.kids, deepEqualNodes, matchKids, removeFirst, deepEqual_dateLeaf, hab, hbc,
      hca]
  rw [this]
  simp

/-- the witnesses: two DATE nodes (symmetry), a BIRT with three DATE children and its rotation
    (permutation invariance); `C07.guard_weakest` says what is claimed -/
theorem guard_weakest (D : List Str) (h : dateEquiv D = false) :
    (∃ x y, okNode D x = true ∧ okNode D y = true ∧
      deepEqual x y = true ∧ deepEqual y x = false) ∨
    (∃ x y, okNode D x = true ∧ okNode D y = true ∧ Reorder x y ∧ deepEqual x y = false) := by
  rcases dateEquiv_false_cases D h with ⟨a, ha, b, hb, hab, hba⟩ | ⟨a, ha, b, hb, c, hc, hab, hbc, hac⟩
  · left
    exact ⟨dateLeaf a, dateLeaf b, okNode_dateLeaf ha, okNode_dateLeaf hb,
      by rw [deepEqual_dateLeaf]; exact hab, by rw [deepEqual_dateLeaf]; exact hba⟩
  · cases hca : dateValueEquals c a
    · right
      refine ⟨birtOf [a, b, c], birtOf [b, c, a], okNode_birtOf ?_, okNode_birtOf ?_,
        reorder_rotate a b c, rotate_fails a b c hab hbc hca⟩
      · intro v hv; simp at hv; rcases hv with rfl | rfl | rfl <;> assumption
      · intro v hv; simp at hv; rcases hv with rfl | rfl | rfl <;> assumption
    · left
      exact ⟨dateLeaf c, dateLeaf a, okNode_dateLeaf hc, okNode_dateLeaf ha,
        by rw [deepEqual_dateLeaf]; exact hca, by rw [deepEqual_dateLeaf]; exact hac⟩

end Gedcom

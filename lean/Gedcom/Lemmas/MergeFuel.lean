/-
  The nesting budget of the merge model is ample: MergeNodes inside EqualityMergeFunction inside
  MergeNodeSlices inside MergeNodes descends two levels of both trees per nesting, the merged
  tree is never taller than the taller input, so a budget of the height of the taller tree is
  never exhausted and the `outOfFuel` outcome / `oof` flag of the model are dead.
-/
import Gedcom.Lemmas.Merge
namespace Gedcom

theorem INode.height_eq (n : INode) : n.height = 1 + heightList n.kids := by
  obtain ⟨i, t, v, p, ks⟩ := n; simp [INode.height, INode.kids]

theorem INode.height_pos (n : INode) : 1 ≤ n.height := by rw [INode.height_eq]; omega

theorem heightList_le {ks : List INode} {K : Nat} :
    heightList ks ≤ K ↔ ∀ k ∈ ks, k.height ≤ K := by
  induction ks with
  | nil => simp [heightList]
  | cons k ks ih => simp [heightList, Nat.max_le, ih]

mutual
theorem copyTree_height (next : Nat) (t : INode) : (copyTree next t).1.height = t.height := by
  match t with
  | .mk i tg v p ks =>
    simp only [copyTree, INode.height]
    rw [copyKids_height]
theorem copyKids_height (next parent : Nat) (ks : List INode) :
    heightList (copyKids next parent ks).1 = heightList ks := by
  match ks with
  | [] => simp [copyKids, heightList]
  | k :: ks =>
    simp only [copyKids, heightList]
    rw [copyTree_height, copyKids_height]
end

theorem copyIf_height (b : Bool) (n : INode) (s : MSt) : (copyIf b n s).1.height = n.height := by
  unfold copyIf; split
  · simp [copyM, copyTree_height]
  · rfl

theorem copyIf_oof (b : Bool) (n : INode) (s : MSt) : (copyIf b n s).2.oof = s.oof := by
  unfold copyIf; split
  · rfl
  · rfl

mutual
def Node.hgt : Node → Nat
  | .mk _ _ _ ks => 1 + hgtList ks
def hgtList : List Node → Nat
  | [] => 0
  | k :: ks => max k.hgt (hgtList ks)
end

mutual
theorem INode.height_erase (n : INode) : n.height = n.erase.hgt := by
  match n with
  | .mk i t v p ks => simp only [INode.height, INode.erase, Node.hgt]; rw [heightList_erase]
theorem heightList_erase (ks : List INode) : heightList ks = hgtList (eraseList ks) := by
  match ks with
  | [] => rfl
  | k :: ks => simp only [heightList, eraseList, hgtList]; rw [INode.height_erase, heightList_erase]
end

theorem Node.hgt_eq (n : Node) : n.hgt = 1 + hgtList n.kids := by
  cases n; simp [Node.hgt, Node.kids]

theorem hgtList_le {ks : List Node} {K : Nat} : hgtList ks ≤ K ↔ ∀ k ∈ ks, k.hgt ≤ K := by
  induction ks with
  | nil => simp [hgtList]
  | cons k ks ih => simp [hgtList, Nat.max_le, ih]

/-- contract: on arguments of height ≤ K the merge function leaves the out-of-fuel flag alone and
    returns a node of height ≤ K -/
def HFn (K : Nat) (f : MergeFn) : Prop :=
  ∀ a b s, a.height ≤ K → b.height ≤ K →
    (f a b s).2.oof = s.oof ∧ ∀ m, (f a b s).1 = some m → m.height ≤ K

theorem mergeNodeSlices_height (fl : MergeFlags) (K : Nat) (f : MergeFn) (hf : HFn K f)
    (l r : List INode) (st : MSt) (hl : heightList l ≤ K) (hr : heightList r ≤ K) :
    (mergeNodeSlices fl f l r st).2.oof = st.oof ∧
    heightList (mergeNodeSlices fl f l r st).1 ≤ K := by
  rw [heightList_le] at hl hr ⊢
  have hy : ∀ {y a : INode}, a ∈ l → y.erase = a.erase → y.height ≤ K := fun ha h => by
    rw [INode.height_erase, h, ← INode.height_erase]; exact hl _ ha
  obtain ⟨hR, _, hmade⟩ := mergeNodeSlicesP_made (R := fun s s' => s'.oof = s.oof) (fl := fl)
    (f := f) (l := l) (r := r)
    ⟨fun _ => rfl, fun _ _ _ h h' => h'.trans h, fun p a s => copyIf_oof _ a s,
      fun y a b s ha hb hya => (hf y b s (hy ha hya) (hr b hb)).1⟩ st
  refine ⟨hR, fun n hn => ?_⟩
  obtain ⟨e, he, rfl⟩ := List.mem_map.mp hn
  cases hmade e he with
  | @copy p a s hp _ _ =>
    dsimp only
    rw [copyIf_height]
    rcases List.mem_append.mp (Src.mem_iff.mpr ⟨p, hp⟩) with h | h
    · exact hl a h
    · exact hr a h
  | @merged i j a b y n s s' ha hb hya _ hfm _ =>
    exact (hf y b s (hy (List.mem_of_getElem? ha) hya) (hr b (List.mem_of_getElem? hb))).2 n
      (by rw [hfm])

theorem INode.setKids_height (n : INode) (ks : List INode) :
    (n.setKids ks).height = 1 + heightList ks := by
  simp [INode.setKids, INode.height]

theorem copyChildM_height (t : Str) (n : INode) (s : MSt) :
    (copyChildM t n s).1.height = n.height :=
  copyTree_height _ _

theorem foldRight_height (fl : MergeFlags) (eqf : MergeFn) (B : Nat) (hf : HFn (B - 1) eqf)
    (root : Nat) (rootTag : Str) (kids cur : List INode) (st : MSt)
    (hcur : heightList cur ≤ B) (hkids : heightList kids ≤ B) :
    (foldRight fl eqf root rootTag cur kids st).2.oof = st.oof ∧
    heightList (foldRight fl eqf root rootTag cur kids st).1 ≤ B := by
  rw [heightList_le] at hcur hkids ⊢
  exact (foldRight_forall fl eqf root rootTag (·.height ≤ B) (·.oof = st.oof)
    (fun _ _ h => h)
    (by
      intro n child s hn hc _ hs
      rw [INode.height_eq] at hn hc
      have hm := mergeNodeSlices_height fl (B - 1) eqf hf child.kids n.kids s (by omega) (by omega)
      exact ⟨by rw [INode.setKids_height]; omega, hm.1.trans hs⟩)
    (by
      intro child s hc hs
      unfold addedChild
      split
      · exact ⟨by rw [copyChildM_height]; exact hc, hs⟩
      · exact ⟨hc, hs⟩)
    kids cur st hcur hkids rfl).symm

def FuelOK (mn : INode → INode → MSt → MergeOutcome) (l r : INode) (st : MSt) : Prop :=
  (∃ m st', mn l r st = .ok m st' ∧ st'.oof = st.oof ∧ m.height ≤ max l.height r.height) ∨
    mn l r st = .error

theorem eqMergeWith_height (mn : INode → INode → MSt → MergeOutcome) {K fuel : Nat} (hK : K ≤ fuel)
    (h : ∀ l r st, l.height ≤ fuel → r.height ≤ fuel → FuelOK mn l r st) :
    HFn K (eqMergeWith mn) := by
  intro a b s ha hb
  unfold eqMergeWith
  split
  · rcases h a b s (Nat.le_trans ha hK) (Nat.le_trans hb hK) with ⟨m, st', h1, h2, h3⟩ | h1
    · rw [h1]
      exact ⟨h2, fun m' hm' => by cases hm'; omega⟩
    · rw [h1]
      exact ⟨rfl, fun _ h => by cases h⟩
  · exact ⟨rfl, fun _ h => by cases h⟩

/-- A budget of the height of the taller tree is never exhausted; the merged tree is not
    taller than the taller input. -/
theorem mergeNodesF_fuel (fl : MergeFlags) (fuel : Nat) :
    ∀ (l r : INode) (st : MSt), l.height ≤ fuel → r.height ≤ fuel →
      FuelOK (mergeNodesF fl fuel) l r st := by
  induction fuel with
  | zero => intro l r st hl; have := l.height_pos; omega
  | succ fuel ih =>
    intro l r st hl hr
    unfold FuelOK
    rw [mergeNodesF_succ]
    split
    · exact Or.inr rfl
    · left
      have hcl : heightList (copyM l st).1.kids = heightList l.kids := by
        have h2 : (copyM l st).1.height = l.height := copyTree_height st.next l
        rw [INode.height_eq, INode.height_eq l] at h2
        omega
      rw [INode.height_eq] at hl hr
      -- MergeNodes is nested on grandchildren: one level below the taller list of children
      have hB : max (heightList l.kids) (heightList r.kids) - 1 ≤ fuel := by omega
      have hf := foldRight_height fl _ (max (heightList l.kids) (heightList r.kids))
        (eqMergeWith_height _ hB ih) (copyM l st).1.id l.tag r.kids (copyM l st).1.kids
        (copyM l st).2 (hcl ▸ Nat.le_max_left _ _) (Nat.le_max_right _ _)
      refine ⟨_, _, rfl, hf.1, ?_⟩
      rw [INode.setKids_height, INode.height_eq l, INode.height_eq r]
      omega

theorem mergeFuel_ge (l r : List INode) :
    heightList l ≤ mergeFuel l r ∧ heightList r ≤ mergeFuel l r := by
  unfold mergeFuel
  omega

theorem mergeNodesF_mergeFuel (fl : MergeFlags) (l r : INode) (st : MSt) :
    FuelOK (mergeNodesF fl (mergeFuel [l] [r])) l r st :=
  mergeNodesF_fuel fl _ l r st (heightList_le.mp (mergeFuel_ge [l] [r]).1 l List.mem_cons_self)
    (heightList_le.mp (mergeFuel_ge [l] [r]).2 r List.mem_cons_self)

theorem mergeNodes_ok {fl : MergeFlags} {l r m : INode} {st st' : MSt}
    (h : mergeNodes fl l r st = .ok m st') :
    mergeNodesF fl (mergeFuel [l] [r]) l r st = .ok m st' := by
  unfold mergeNodes at h
  split at h
  · rename_i m0 s0 h0
    split at h
    · cases h
    · split at h
      · cases h
      · injection h with h1 h2; subst h1 h2; exact h0
  · rename_i o hne
    exact absurd h (by intro h'; exact hne m st' h')

/-- at the driver's budget the out-of-fuel branch of `mergeNodes` is dead -/
theorem mergeNodes_of_ok {fl : MergeFlags} {l r m : INode} {st st' : MSt} (hst : st.oof = false)
    (h : mergeNodesF fl (mergeFuel [l] [r]) l r st = .ok m st') :
    mergeNodes fl l r st = if st'.panicked then .panic else .ok m st' := by
  have hoof : st'.oof = false := by
    rcases mergeNodesF_mergeFuel fl l r st with ⟨_, _, h1, h2, _⟩ | h1
    · rw [h] at h1
      injection h1 with _ h1
      rw [h1, h2, hst]
    · rw [h] at h1; cases h1
  unfold mergeNodes
  rw [h]
  simp only [hoof, Bool.false_eq_true, if_false]

end Gedcom

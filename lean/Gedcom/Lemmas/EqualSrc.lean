/-
  The interpreters of Model/EqualSrc.lean, step by step: what `runSimple` does on each kind of
  statement, and what each piece of the translated `Date.Equals` (constants, table, matcher bodies)
  denotes.  Props/C07 puts the pieces together for the generated programs.
-/
import Gedcom.Model.EqualSrc
import Gedcom.Lemmas.DateTable
namespace Gedcom.EqualSrc

theorem runSimple_nil (got arg : String) (rest : List (String × String)) (a b : Node)
    (h : arg = "node" ∨ arg = "node2") :
    runSimple got (("nil", arg) :: rest) a b = runSimple got rest a b := by
  rcases h with rfl | rfl <;> rfl

theorem runSimple_get (got f : String) (rest : List (String × String)) (a b : Node) :
    runSimple got (("get", f) :: rest) a b = runSimple f rest a b := by
  simp only [runSimple, String.reduceBEq, Bool.false_eq_true, ↓reduceIte]

/-- `if node.f != f { return false }`, where `f` is the variable assigned last -/
theorem runSimple_ne (f : String) (rest : List (String × String)) (a b : Node) (v : Bool)
    (h : nodeFieldEq f a b = some v) :
    runSimple f (("ne", f) :: rest) a b = if v then runSimple f rest a b else some false := by
  rw [runSimple]
  simp only [String.reduceBEq, Bool.false_eq_true, ↓reduceIte, beq_self_eq_true, h]
  cases v <;> rfl

theorem runSimple_retEq (got f : String) (rest : List (String × String)) (a b : Node) :
    runSimple got (("ret-eq", f) :: rest) a b = nodeFieldEq f a b := by
  simp only [runSimple, String.reduceBEq, Bool.false_eq_true, ↓reduceIte]

/-- name, kind and arguments under which the translation lists the matcher -/
def matcherBody : DateMatcher → String × String × List String
  | .A => ("equalsA", "fields", ["Day", "Month", "Year"])
  | .B => ("equalsB", "years", [">"])
  | .C => ("equalsC", "years", ["<"])
  | .D => ("equalsD", "const", ["false"])

/-- the constants are declared in the order of the model's constructors -/
theorem constraintIndex_eq (c : Constraint) : constraintIndex c = some c.ctorIdx := by
  cases c <;> decide +kernel

theorem matchers_at (row col : Constraint) :
    (Generated.dateEqualsMatchers[row.ctorIdx]?).bind (·[col.ctorIdx]?) =
      some (matcherBody (DateMatcher.at row col)).1 := by
  cases row <;> cases col <;> rfl

theorem bodies_find (m : DateMatcher) :
    Generated.dateMatcherBodies.find? (·.1 == (matcherBody m).1) = some (matcherBody m) := by
  cases m <;> decide +kernel

theorem runMatcher_body (m : DateMatcher) (x y : PDate) :
    runMatcher (matcherBody m).2.1 (matcherBody m).2.2 x y = some (m.run x y) := by
  cases m
  · show some (_ && (_ && (_ && true))) = some (_ && _ && _)
    rw [Bool.and_true, Bool.and_assoc]
  · rfl
  · rfl
  · rfl

end Gedcom.EqualSrc

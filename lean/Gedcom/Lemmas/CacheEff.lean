/-
  C13 — the model's step for the mutators of a child list and of the root list *is* the
  interpretation of the statement lists translated from the Go source
  (`Generated/CacheEffects.lean`), in source order.
-/
import Gedcom.Lemmas.CacheEdits
import Gedcom.Generated.CacheEffects
namespace Gedcom.CacheEff
open Gedcom.Cache

/-- `node.SimpleNode.M(…)` runs the translated body of `SimpleNode.M` -/
def sup : Meth → List GEff
  | .addNode => Generated.simpleAddNode
  | .deleteNode => Generated.simpleDeleteNode
  | .setNodes => Generated.simpleSetNodes

/-- dynamic dispatch of `n.AddNode(…)`: the Go type of a node is decided by its tag (decoder.go,
    `newNodeWithChildren`); `Generated.overriders` says no other type defines the method -/
def addNodeSrc (t : Str) : List GEff :=
  if t == tFAM then Generated.familyAddNode else if t == tINDI then Generated.individualAddNode
  else Generated.simpleAddNode
def deleteNodeSrc (t : Str) : List GEff :=
  if t == tFAM then Generated.familyDeleteNode else if t == tINDI then Generated.individualDeleteNode
  else Generated.simpleDeleteNode
def setNodesSrc (t : Str) : List GEff :=
  if t == tFAM then Generated.familySetNodes else if t == tINDI then Generated.individualSetNodes
  else Generated.simpleSetNodes

variable {b1 b2 b3 : Bool}

theorem editedTo_is_source (n : Nat) (ks : List Id) (s : St) (x : Ctx) (fam ind simple : List GEff)
    (hF : runBody sup x fam s =
      bumpFamilyLinks (resetFamily n (Cache.resetNodeCache { s with heap := setKids s.heap n ks })))
    (hI : runBody sup x ind s = Cache.resetNodeCache { s with heap := setKids s.heap n ks })
    (hS : runBody sup x simple s = Cache.resetNodeCache { s with heap := setKids s.heap n ks }) :
    editedTo n ks s =
      runBody sup x (if (abs s).tag n == tFAM then fam else if (abs s).tag n == tINDI then ind else simple) s := by
  rw [editedTo_cases]
  by_cases hf : ((abs s).tag n == tFAM) = true
  · rw [if_pos hf, if_pos hf, hF]
  · rw [if_neg hf, if_neg hf]
    by_cases hi : ((abs s).tag n == tINDI) = true
    · rw [if_pos hi, hI]
    · rw [if_neg hi, hS]

theorem addKid_is_source (n c : Nat) (s : St) :
    addKid (Flags.goodWith b1 b2 b3) n c s = runBody sup ⟨n, c, []⟩ (addNodeSrc ((abs s).tag n)) s := by
  rw [addKid_eq]
  exact editedTo_is_source n _ s ⟨n, c, []⟩ _ _ _ rfl rfl rfl

theorem deleteKid_is_source (n c : Nat) (s : St) :
    deleteKid (Flags.goodWith b1 b2 b3) n c s = runBody sup ⟨n, c, []⟩ (deleteNodeSrc ((abs s).tag n)) s := by
  rw [deleteKid_eq]
  exact editedTo_is_source n _ s ⟨n, c, []⟩ _ _ _ rfl rfl rfl

theorem setKidsOp_is_source (n : Nat) (ks : List Id) (s : St) :
    setKidsOp (Flags.goodWith b1 b2 b3) n ks s = runBody sup ⟨n, 0, ks⟩ (setNodesSrc ((abs s).tag n)) s := by
  rw [setKidsOp_eq]
  exact editedTo_is_source n ks s ⟨n, 0, ks⟩ _ _ _ rfl rfl rfl

theorem docDelete_is_source (r : Nat) (s : St) :
    docDelete (Flags.goodWith b1 b2 b3) r s = runBody sup ⟨0, r, []⟩ Generated.documentDeleteNode s := by
  rw [docDelete_eq]
  cases h : s.roots.contains r
  · have hm : r ∉ s.roots := by
      intro hc
      have : s.roots.contains r = true := by simpa using hc
      rw [h] at this; exact absurd this (by decide)
    have he : s.roots.erase r = s.roots := List.erase_of_not_mem hm
    simp only [Bool.false_eq_true, if_false, runBody, Generated.documentDeleteNode, List.foldl, runOne,
      runBase, guardHolds, h, if_true, he]
  · simp only [if_true, runBody, Generated.documentDeleteNode, List.foldl, runOne, runBase, guardHolds, h]
    rfl

theorem docSetNodes_is_source (ks : List Id) (s : St) :
    docSetNodes (Flags.goodWith b1 b2 b3) ks s = runBody sup ⟨0, 0, ks⟩ Generated.documentSetNodes s := by
  rw [docSetNodes_eq]
  rfl

theorem docAppend_is_source (x : NodeRec) (s : St) :
    docAppend (Flags.goodWith b1 b2 b3) x s =
      runDocAdd s.heap.length Generated.documentAddNode (alloc x s) := by
  have hp : ∀ r : List Id, (Abs.mk (s.heap ++ [x]) r).ptr s.heap.length = x.ptr := fun _ => ptr_append_new
  have ht : ∀ r : List Id, (Abs.mk (s.heap ++ [x]) r).tag s.heap.length = x.tag := fun _ => tag_append_new
  rw [docAppend_eq, docAppend0_eq]
  -- statement by statement: `rootsAppend` is `roots := roots ++ [c]`; `storePointer`, under `hasPointer`, is
  -- the `ptrIdx` update for a non-empty pointer; `clearFamilies`, under `isFamily`, is `dfams := none` for a
  -- family record; `bumpLinks` is the outer `bumpFamilyLinks`; `nilCheck`, `readPointer`, `lock`, `unlock`
  -- change nothing.  The two guards are decided by the record's pointer and tag:
  cases hE : x.ptr.isEmpty
  · cases hF : (x.tag == tFAM)
    · simp [runDocAdd, Generated.documentAddNode, docAddStmt, docAddGuard, alloc, abs, hp, ht, hE, hF,
        bumpFamilyLinks]
    · simp [runDocAdd, Generated.documentAddNode, docAddStmt, docAddGuard, alloc, abs, hp, ht, hE, hF,
        bumpFamilyLinks]
  · cases hF : (x.tag == tFAM)
    · simp [runDocAdd, Generated.documentAddNode, docAddStmt, docAddGuard, alloc, abs, hp, ht, hE, hF,
        bumpFamilyLinks]
    · simp [runDocAdd, Generated.documentAddNode, docAddStmt, docAddGuard, alloc, abs, hp, ht, hE, hF,
        bumpFamilyLinks]

theorem cell_store_get {α : Type} (V : Nat) (v : α) : (Cell.store V v).get V = some v := by
  simp [Cell.store, Cell.get]

theorem cell_bump_miss {α : Type} (c : Cell α) (V : Nat) (h : c.version ≤ V) : c.get (V + 1) = none := by
  unfold Cell.get
  have : (c.version == V + 1) = false := by
    cases hq : c.version == V + 1 with
    | false => rfl
    | true => have : c.version = V + 1 := by simpa using hq
              omega
  simp [this]

theorem cell_store_le {α : Type} (V : Nat) (v : α) : (Cell.store V v).version ≤ V := Nat.le_refl _

end Gedcom.CacheEff

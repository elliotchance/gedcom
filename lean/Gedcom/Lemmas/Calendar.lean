/- The calendar behind C05: day numbers and the cross-multiplied `Years()` fractions both order days
   as (year, day of the year) does (`dayNumber_lt_iff`, `yearsFrac_lt_iff`).  Core Lean and `omega`. -/
import Gedcom.Model.Calendar
import Gedcom.Lemmas.Basics
namespace Gedcom

theorem isLeap_iff (y : Int) :
    isLeap y = true ↔ (y % 4 = 0 ∧ (y % 100 ≠ 0 ∨ y % 400 = 0)) := by
  unfold isLeap; simp

-- the three quotients step at the multiples of 4, 100 and 400: the leap-year rule
theorem daysBeforeYear_succ (y : Int) :
    daysBeforeYear (y + 1) = daysBeforeYear y + daysInYear y := by
  have d100 : y % 100 = 0 → y % 4 = 0 := by omega
  have d400 : y % 400 = 0 → y % 100 = 0 := by omega
  unfold daysBeforeYear daysInYear
  rw [Int.add_sub_cancel, ediv_step y (show (0 : Int) < 4 by decide),
    ediv_step y (show (0 : Int) < 100 by decide), ediv_step y (show (0 : Int) < 400 by decide)]
  generalize (y - 1) / 4 = q4
  generalize (y - 1) / 100 = q100
  generalize (y - 1) / 400 = q400
  by_cases c4 : y % 4 = 0
  · by_cases c100 : y % 100 = 0
    · by_cases c400 : y % 400 = 0
      · rw [if_pos ((isLeap_iff y).mpr ⟨c4, .inr c400⟩), if_pos c4, if_pos c100, if_pos c400]
        omega
      · rw [if_neg (fun h => ((isLeap_iff y).mp h).2.elim (· c100) c400), if_pos c4, if_pos c100,
          if_neg c400]
        omega
    · rw [if_pos ((isLeap_iff y).mpr ⟨c4, .inl c100⟩), if_pos c4, if_neg c100,
        if_neg (fun h => c100 (d400 h))]
      omega
  · rw [if_neg (fun h => c4 ((isLeap_iff y).mp h).1), if_neg c4, if_neg (fun h => c4 (d100 h)),
      if_neg (fun h => c4 (d100 (d400 h)))]
    omega

theorem daysBeforeYear_mono {y1 y2 : Int} (h : y1 ≤ y2) : daysBeforeYear y1 ≤ daysBeforeYear y2 := by
  unfold daysBeforeYear; omega

theorem daysInYear_cases (y : Int) : daysInYear y = 365 ∨ daysInYear y = 366 := by
  unfold daysInYear; split <;> simp

-- `dim` and `cum` are tables: facts about them are checked entry by entry, 12 months × leap or not.
theorem dim_pos (l : Bool) {m : Nat} (h1 : 1 ≤ m) (h2 : m ≤ 12) : 28 ≤ dim l m ∧ dim l m ≤ 31 :=
  (by decide +kernel : ∀ l : Bool, ∀ m, m < 13 → 1 ≤ m → 28 ≤ dim l m ∧ dim l m ≤ 31)
    l m (by omega) h1

theorem cum_succ (l : Bool) {m : Nat} (h1 : 1 ≤ m) (h2 : m < 12) :
    cum l (m + 1) = cum l m + dim l m :=
  (by decide +kernel : ∀ l : Bool, ∀ m, m < 12 → 1 ≤ m → cum l (m + 1) = cum l m + dim l m)
    l m h2 h1

theorem cum_bounds (l : Bool) {m : Nat} (h1 : 1 ≤ m) (h2 : m ≤ 12) :
    0 ≤ cum l m ∧ cum l m + dim l m ≤ if l then 366 else 365 :=
  (by decide +kernel : ∀ l : Bool, ∀ m, m < 13 → 1 ≤ m →
    0 ≤ cum l m ∧ cum l m + dim l m ≤ if l then 366 else 365) l m (by omega) h1

theorem cum_leap (l : Bool) {m : Nat} (h1 : 1 ≤ m) (h2 : m ≤ 12) :
    cum l m = cum false m + (if l = true ∧ 3 ≤ m then 1 else 0) :=
  (by decide +kernel : ∀ l : Bool, ∀ m, m < 13 → 1 ≤ m →
    cum l m = cum false m + (if l = true ∧ 3 ≤ m then 1 else 0)) l m (by omega) h1

theorem cum_nonneg (l : Bool) (m : Nat) : 0 ≤ cum l m := by
  unfold cum
  split <;> (try split) <;> omega

theorem dim_nonneg (l : Bool) (m : Nat) : 0 ≤ dim l m := by
  unfold dim
  split <;> (try split) <;> omega

theorem yearDay_bounds (y : Int) (m : Nat) (d : Int) (h1 : 1 ≤ m) (h2 : m ≤ 12)
    (hd1 : 1 ≤ d) (hd2 : d ≤ dim (isLeap y) m) :
    1 ≤ yearDay y m d ∧ yearDay y m d ≤ daysInYear y := by
  have := cum_bounds (isLeap y) h1 h2
  unfold yearDay daysInYear
  omega

theorem year_last (y : Int) : yearDay y 12 31 = daysInYear y := by
  unfold yearDay daysInYear; cases isLeap y <;> rfl

theorem dayNumber_eq (y : Int) (m : Nat) (d : Int) :
    dayNumber y m d = daysBeforeYear y + yearDay y m d := Int.add_assoc _ _ _

theorem month_roll (y : Int) (m : Nat) (hm : 1 ≤ m) (hm' : m < 12) :
    dayNumber y (m+1) 1 = dayNumber y m (dim (isLeap y) m) + 1 := by
  unfold dayNumber
  rw [cum_succ (isLeap y) hm hm']
  omega

theorem year_roll (y : Int) : dayNumber (y+1) 1 1 = dayNumber y 12 31 + 1 := by
  rw [dayNumber_eq, dayNumber_eq, year_last, daysBeforeYear_succ]
  -- 1 January is day 1 of its year
  rfl

theorem dayNumber_lt_iff {y1 y2 n1 n2 : Int} (h1 : 1 ≤ n1) (h1' : n1 ≤ daysInYear y1)
    (h2 : 1 ≤ n2) (h2' : n2 ≤ daysInYear y2) :
    daysBeforeYear y1 + n1 < daysBeforeYear y2 + n2 ↔ y1 < y2 ∨ (y1 = y2 ∧ n1 < n2) := by
  -- a whole year lies between a day of an earlier year and the first of a later one
  have step {y y' : Int} (h : y < y') : daysBeforeYear y + daysInYear y ≤ daysBeforeYear y' := by
    rw [← daysBeforeYear_succ]
    exact daysBeforeYear_mono (by omega)
  by_cases hlt : y1 < y2
  · have := step hlt
    omega
  · by_cases heq : y1 = y2
    · subst heq
      omega
    · have := step (show y2 < y1 by omega)
      omega

theorem yearsFrac_lt_iff {y1 y2 n1 n2 : Int} (h1 : 1 ≤ n1) (h1' : n1 ≤ daysInYear y1)
    (h2 : 1 ≤ n2) (h2' : n2 ≤ daysInYear y2) :
    (y1 * (2 * (daysInYear y1 + 1)) + 2 * n1) * (2 * (daysInYear y2 + 1)) <
      (y2 * (2 * (daysInYear y2 + 1)) + 2 * n2) * (2 * (daysInYear y1 + 1)) ↔
    y1 < y2 ∨ (y1 = y2 ∧ n1 < n2) := by
  by_cases heq : y1 = y2
  · subst heq
    rcases daysInYear_cases y1 with e | e <;> rw [e] at h1' h2' ⊢ <;> omega
  · rcases daysInYear_cases y1 with e1 | e1 <;> rcases daysInYear_cases y2 with e2 | e2 <;>
      rw [e1] at h1' ⊢ <;> rw [e2] at h2' ⊢ <;> omega

theorem yearsDen_cases (d : Date) : d.yearsDen = 732 ∨ d.yearsDen = 734 := by
  unfold Date.yearsDen; rcases daysInYear_cases (d.year : Int) with e | e <;> rw [e] <;> simp

theorem yearsDen_pos (d : Date) : 0 < d.yearsDen := by
  rcases yearsDen_cases d with e | e <;> omega

theorem yearsLt_trans {a b c : Date} (h1 : a.yearsLt b) (h2 : b.yearsLt c) : a.yearsLt c :=
  cross_lt_trans (yearsDen_pos a) (yearsDen_pos b) (yearsDen_pos c) h1 h2

theorem yearsLt_irrefl (a : Date) : ¬ a.yearsLt a := by
  unfold Date.yearsLt; omega

/-- the loop of `DateNodes.Minimum()` / `Maximum()`: `better d m` says that `d` replaces the
    candidate `m` -/
theorem select_spec (go : List Date → Nat → Option (Nat × Date) → Option (Nat × Date))
    (better : Date → Date → Prop) [DecidableRel better]
    (go_nil : ∀ i acc, go [] i acc = acc)
    (go_none : ∀ d rest i, go (d :: rest) i none = go rest (i + 1) (some (i, d)))
    (go_some : ∀ d rest i j m, go (d :: rest) i (some (j, m)) =
      go rest (i + 1) (if better d m then some (i, d) else some (j, m)))
    (irrefl : ∀ a, ¬ better a a) (trans : ∀ {a b c}, better a b → better b c → better a c)
    (ds : List Date) (k : Nat) (h : (go ds 0 none).map (·.1) = some k) :
    ∃ x, ds[k]? = some x ∧ ∀ d ∈ ds, ¬ better d x := by
  -- invariant (`pre` = the part already seen): the candidate is in `pre`, and nothing in `pre` is better
  have inv (pre ds : List Date) (acc : Option (Nat × Date)) (k : Nat) (x : Date)
      (hacc : match acc with
        | none => pre = []
        | some (j, m) => pre[j]? = some m ∧ ∀ d ∈ pre, ¬ better d m)
      (h : go ds pre.length acc = some (k, x)) :
      (pre ++ ds)[k]? = some x ∧ ∀ d ∈ pre ++ ds, ¬ better d x := by
    induction ds generalizing pre acc with
    | nil =>
      rw [go_nil] at h
      subst h
      simpa using hacc
    | cons d rest ih =>
      have hlen : (pre ++ [d]).length = pre.length + 1 := by simp
      cases acc with
      | none =>
        simp only at hacc; subst hacc
        rw [go_none] at h
        have := ih [d] (some (0, d)) (by simp [irrefl]) (by simpa using h)
        simpa using this
      | some jm =>
        obtain ⟨j, m⟩ := jm
        simp only at hacc
        rw [go_some] at h
        by_cases hlt : better d m
        · -- `d` is the new candidate: whatever was not better than `m` is not better than `d`
          rw [if_pos hlt] at h
          have := ih (pre ++ [d]) (some (pre.length, d))
            ⟨by simp, List.forall_mem_append.mpr
              ⟨fun y hy hyd => hacc.2 y hy (trans hyd hlt), List.forall_mem_singleton.mpr (irrefl d)⟩⟩
            (by rw [hlen]; exact h)
          simpa using this
        · rw [if_neg hlt] at h
          have hj : j < pre.length := lt_of_getElem? hacc.1
          have := ih (pre ++ [d]) (some (j, m))
            ⟨by rw [List.getElem?_append_left hj]; exact hacc.1,
              List.forall_mem_append.mpr ⟨hacc.2, List.forall_mem_singleton.mpr hlt⟩⟩
            (by rw [hlen]; exact h)
          simpa using this
  obtain ⟨⟨k', x⟩, hg, hk⟩ := Option.map_eq_some_iff.mp h
  subst hk
  exact ⟨x, inv [] ds none k' x rfl hg⟩

namespace C05

/-- a full, calendar-valid date -/
def Full (d : Date) : Prop :=
  1 ≤ d.month ∧ d.month ≤ 12 ∧ 1 ≤ d.day ∧ (d.day : Int) ≤ dim (isLeap d.year) d.month

theorem full_firstDay (d : Date) (h : Full d) : d.firstDay = dayNumber d.year d.month d.day := by
  unfold Date.firstDay
  obtain ⟨h1, _, h3, _⟩ := h
  rw [if_neg (by omega), if_neg (by omega)]

theorem full_lastDay (d : Date) (h : Full d) : d.lastDay = dayNumber d.year d.month d.day := by
  unfold Date.lastDay
  obtain ⟨h1, _, h3, _⟩ := h
  rw [if_neg (by omega), if_neg (by omega)]

theorem full_yearsNum (d : Date) (h : Full d) :
    d.yearsNum = 2 * yearDay d.year d.month d.day := by
  unfold Date.yearsNum
  obtain ⟨h1, _, h3, _⟩ := h
  rw [if_neg (by omega), if_neg (by omega)]

theorem full_yearDay (d : Date) (h : Full d) :
    1 ≤ yearDay d.year d.month d.day ∧ yearDay d.year d.month d.day ≤ daysInYear d.year := by
  obtain ⟨hm1, hm12, hd1, hdim⟩ := h
  exact yearDay_bounds _ _ _ hm1 hm12 (by omega) hdim

theorem firstDay_lt_iff (a b : Date) (ha : Full a) (hb : Full b) :
    a.firstDay < b.firstDay ↔ (a.year : Int) < b.year ∨
      ((a.year : Int) = b.year ∧ yearDay a.year a.month a.day < yearDay b.year b.month b.day) := by
  rw [full_firstDay a ha, full_firstDay b hb, dayNumber_eq, dayNumber_eq]
  exact dayNumber_lt_iff (full_yearDay a ha).1 (full_yearDay a ha).2 (full_yearDay b hb).1
    (full_yearDay b hb).2

theorem yearsLt_iff (a b : Date) (ha : Full a) (hb : Full b) :
    a.yearsLt b ↔ (a.year : Int) < b.year ∨
      ((a.year : Int) = b.year ∧ yearDay a.year a.month a.day < yearDay b.year b.month b.day) := by
  unfold Date.yearsLt Date.yearsDen
  rw [full_yearsNum a ha, full_yearsNum b hb]
  exact yearsFrac_lt_iff (full_yearDay a ha).1 (full_yearDay a ha).2 (full_yearDay b hb).1
    (full_yearDay b hb).2

/-- on calendar days the Years scale is the calendar -/
theorem yearsLt_iff_day (a b : Date) (ha : Full a) (hb : Full b) :
    a.yearsLt b ↔ dayNumber a.year a.month a.day < dayNumber b.year b.month b.day := by
  rw [← full_firstDay a ha, ← full_firstDay b hb, yearsLt_iff a b ha hb, firstDay_lt_iff a b ha hb]

end C05

end Gedcom

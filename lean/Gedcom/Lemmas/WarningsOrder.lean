/- C20 `order_independent`: records and CHIL lines in another order give the same warnings up to
   `norm`; the checks see the document only through `indiOf` (core Lean only). -/
import Gedcom.Lemmas.Warnings
import Gedcom.Lemmas.Basics
namespace Gedcom.Warn

def FamEquiv (f f' : Fam) : Prop :=
  f.ptr = f'.ptr ∧ f.husb = f'.husb ∧ f.wife = f'.wife ∧ f.events = f'.events ∧ f.chil.Perm f'.chil

inductive RecEquiv : Rec → Rec → Prop
  | indi (i : Indi) : RecEquiv (.indi i) (.indi i)
  | fam {f f' : Fam} : FamEquiv f f' → RecEquiv (.fam f) (.fam f')

inductive RecsEquiv : List Rec → List Rec → Prop
  | nil : RecsEquiv [] []
  | cons {r r' : Rec} {l l' : List Rec} : RecEquiv r r' → RecsEquiv l l' → RecsEquiv (r :: l) (r' :: l')

/-- `d'` is `d` with its records in another order and, inside each family, the CHIL lines in
    another order -/
def Reordered (d d' : Doc) : Prop := ∃ d1, d.Perm d1 ∧ RecsEquiv d1 d'

def PtrsNodup (d : Doc) : Prop := ((indis d).map (·.ptr)).Nodup

instance (d : Doc) : Decidable (PtrsNodup d) := by unfold PtrsNodup; exact inferInstance

theorem indis_recsEquiv {l l' : List Rec} (h : RecsEquiv l l') : indis l = indis l' := by
  induction h with
  | nil => rfl
  | cons hr _ ih =>
    cases hr with
    | indi i => simp only [indis, List.filterMap_cons] at ih ⊢; rw [ih]
    | fam hf => simp only [indis, List.filterMap_cons] at ih ⊢; exact ih

theorem indiOf_reordered {d d' : Doc} (hn : PtrsNodup d) (h : Reordered d d') :
    indiOf d' = indiOf d := by
  obtain ⟨d1, hp, he⟩ := h
  have hperm : (indis d).Perm (indis d') := by
    rw [← indis_recsEquiv he]
    exact hp.filterMap _
  funext p
  -- at most one individual has the pointer `p`
  exact (find_perm_unique _ _ _ hperm fun a ha b hb pa pb =>
    inj_of_nodup_map Indi.ptr hn ha hb ((beq_iff_eq.mp pa).trans (beq_iff_eq.mp pb).symm)).symm

/-- the checks mention the document only as `indiOf d` -/
theorem marriedFrom_congr {d d' : Doc} (h : indiOf d' = indiOf d) {f f' : Fam}
    (hp : f'.ptr = f.ptr) (hh : f'.husb = f.husb) (hw : f'.wife = f.wife) (evs : List Ev) (k : Nat) :
    marriedFrom d' f' k evs = marriedFrom d f k evs := by
  simp only [marriedFrom_eq, marriedAt, hp, hh, hw, h]

theorem recWarnings_congr {d d' : Doc} (h : indiOf d' = indiOf d) (now : Date) (r : Rec) :
    recWarnings d' now r = recWarnings d now r := by
  cases r with
  | indi i => rfl
  | fam f =>
    have hs : siblingStep d' = siblingStep d := by
      funext fam c1 st c2
      rw [siblingStep, siblingStep, siblingHit, siblingHit, h]
    simp only [recWarnings, famOwn, childrenBornBeforeParents, childrenBornBeforeParentsRaw,
      siblingsBornTooClose, siblingsLoop, marriedOutOfRange, marriedFrom_congr h rfl rfl rfl,
      inverseSpouses, hs, h]

/-- what a warning says about people: a pair warning without its family context (which family
    reports a pair that is listed in several depends on the order of the records) and with the
    smaller sibling pointer first; other warnings unchanged -/
def norm : Warning → Warning
  | .siblingsBornTooClose _ a b => if a ≤ b then .siblingsBornTooClose 0 a b else .siblingsBornTooClose 0 b a
  | .childBornBeforeParent _ p c => .childBornBeforeParent 0 p c
  | w => w

theorem norm_sib_eq_iff {f f' a b a' b' : Nat} :
    norm (.siblingsBornTooClose f a b) = norm (.siblingsBornTooClose f' a' b') ↔
      symPair (a, b) (a', b') := by
  simp only [norm, symPair]
  split <;> split <;> simp only [Warning.siblingsBornTooClose.injEq, true_and] <;> omega

theorem norm_kind (w : Warning) : (norm w).kind = w.kind := by
  cases w <;> simp only [norm]
  case siblingsBornTooClose f a b => by_cases h : a ≤ b <;> simp [h, Warning.kind]
  all_goals rfl

theorem isPair_norm (w : Warning) : isPair (norm w) = isPair w := by simp [isPair, norm_kind]

theorem norm_of_not_pair {w : Warning} (h : isPair w = false) : norm w = w := by
  cases w <;> simp [norm, isPair, Warning.kind] at h ⊢

/-- on pair warnings `norm` forgets exactly what `samePair` ignores -/
theorem samePair_iff_norm {w w' : Warning} (h1 : isPair w = true) :
    samePair w w' ↔ norm w = norm w' := by
  cases w <;> simp [isPair, Warning.kind] at h1
  case childBornBeforeParent f p c =>
    cases w' <;> simp only [samePair, norm, Warning.childBornBeforeParent.injEq, true_and, false_iff,
      reduceCtorEq]
    case siblingsBornTooClose f' a b => split <;> exact Warning.noConfusion
  case siblingsBornTooClose f a b =>
    cases w' with
    | siblingsBornTooClose f' a' b' => exact norm_sib_eq_iff.symm
    | _ =>
      simp only [samePair, norm, false_iff]
      split <;> exact Warning.noConfusion

theorem samePair.isPair {w w' : Warning} (h : samePair w w') : isPair w = true := by
  cases w <;> first | rfl | exact h.elim

theorem opp_pairs_nodup (ws : List Warning) :
    (((oncePerPair ws).filter isPair).map norm).Nodup := by
  rw [List.nodup_iff_pairwise_ne, List.pairwise_map]
  have h := ((opp_once ws [] []).1).filter isPair
  -- `Pairwise.filter` keeps the relation; pair warnings with equal `norm` are the same pair
  refine List.Pairwise.imp_of_mem ?_ h
  intro a b ha _ hne e
  exact hne ((samePair_iff_norm (List.mem_filter.mp ha).2).mpr e)

theorem mem_opp_pairs (ws : List Warning) (x : Warning) :
    x ∈ ((oncePerPair ws).filter isPair).map norm ↔ x ∈ (ws.filter isPair).map norm := by
  simp only [List.mem_map, List.mem_filter]
  constructor
  · rintro ⟨w, ⟨hw, hp⟩, rfl⟩
    exact ⟨w, ⟨(oncePerPair_sublist ws).subset hw, hp⟩, rfl⟩
  · rintro ⟨w, ⟨hw, hp⟩, rfl⟩
    obtain ⟨w', h1, h2⟩ := opp_kept ((samePair_iff_norm hp).mpr rfl) ws [] []
      (by cases w <;> exact Bool.noConfusion) hw
    exact ⟨w', ⟨h1, h2.isPair⟩, (samePair_iff_norm h2.isPair).mp h2⟩

theorem filter_map_norm (p : Warning → Bool) (hp : ∀ w, p (norm w) = p w) (ws : List Warning) :
    (ws.filter p).map norm = (ws.map norm).filter p := by
  rw [List.filter_map, show p ∘ norm = p from funext hp]

theorem opp_perm {ws ws' : List Warning} (h : (ws.map norm).Perm (ws'.map norm)) :
    ((oncePerPair ws).map norm).Perm ((oncePerPair ws').map norm) := by
  have parts : ∀ l : List Warning, (l.map norm).Perm
      ((l.filter isPair).map norm ++ (l.filter (fun w => !isPair w)).map norm) := by
    intro l
    exact ((List.filter_append_perm isPair l).symm).map norm |>.trans (by rw [List.map_append])
  refine (parts _).trans (List.Perm.trans ?_ (parts _).symm)
  refine List.Perm.append ?_ ?_
  · rw [List.perm_ext_iff_of_nodup (opp_pairs_nodup ws) (opp_pairs_nodup ws')]
    intro x
    rw [mem_opp_pairs, mem_opp_pairs, filter_map_norm isPair isPair_norm, filter_map_norm isPair isPair_norm]
    exact (h.filter isPair).mem_iff
  · unfold oncePerPair
    rw [opp_filter_other, opp_filter_other,
      filter_map_norm (fun w => !isPair w) (fun w => by simp [isPair_norm]),
      filter_map_norm (fun w => !isPair w) (fun w => by simp [isPair_norm])]
    exact h.filter _

theorem siblings_perm (d : Doc) {f f' : Fam} (he : FamEquiv f f') :
    ((siblingsBornTooClose d f).map norm).Perm ((siblingsBornTooClose d f').map norm) := by
  obtain ⟨hp, _, _, _, hc⟩ := he
  rw [siblings_eq_oncePerPair, siblings_eq_oncePerPair]
  apply opp_perm
  unfold sibHits chilPairs
  rw [hp]
  exact ((((hc.flatMap_right _).trans (perm_flatMap_left _ fun _ => hc.map _)).filter _).map _).map _

theorem famWarnings_perm (d : Doc) (now : Date) {f f' : Fam} (he : FamEquiv f f') :
    ((recWarnings d now (.fam f)).map norm).Perm ((recWarnings d now (.fam f')).map norm) := by
  have hs := siblings_perm d he
  obtain ⟨p, h, w, c, e⟩ := f
  obtain ⟨p', h', w', c', e'⟩ := f'
  obtain ⟨hp, hh, hw, hev, hc⟩ := he
  simp only at hp hh hw hev hc
  subst hp; subst hh; subst hw; subst hev
  simp only [recWarnings, famOwn, List.map_append]
  have h1 : ((childrenBornBeforeParents d ⟨p, h, w, c, e⟩).map norm).Perm
      ((childrenBornBeforeParents d ⟨p, h, w, c', e⟩).map norm) := by
    unfold childrenBornBeforeParents
    apply opp_perm
    apply List.Perm.map
    unfold childrenBornBeforeParentsRaw
    exact hc.flatMap_right _
  have h3 : marriedOutOfRange d ⟨p, h, w, c, e⟩ = marriedOutOfRange d ⟨p, h, w, c', e⟩ :=
    marriedFrom_congr (d := d) (f := ⟨p, h, w, c', e⟩) (f' := ⟨p, h, w, c, e⟩) rfl rfl rfl rfl e 0
  have h4 : inverseSpouses d ⟨p, h, w, c, e⟩ = inverseSpouses d ⟨p, h, w, c', e⟩ := rfl
  rw [h3, h4]
  exact ((h1.append hs).append (List.Perm.refl _)).append (List.Perm.refl _) |>.append (List.Perm.refl _)

theorem recsEquiv_perm (d : Doc) (now : Date) {l l' : List Rec} (h : RecsEquiv l l') :
    ((l.flatMap (recWarnings d now)).map norm).Perm ((l'.flatMap (recWarnings d now)).map norm) := by
  induction h with
  | nil => exact List.Perm.refl _
  | cons hr _ ih =>
    simp only [List.flatMap_cons, List.map_append]
    refine List.Perm.append ?_ ih
    cases hr with
    | indi i => exact List.Perm.refl _
    | fam hf => exact famWarnings_perm d now hf

end Gedcom.Warn

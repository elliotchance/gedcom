/- A forest is determined by its preorder listing (levels + headers): feeding a tree's listing to
   the open-node stack and closing down to its level attaches the tree (`feedT`, `feedF`). -/
import Gedcom.Lemmas.Machine
import Gedcom.Lemmas.Node
namespace Gedcom.Dec

theorem listingF_append (lvl : Nat) (a b : List Node) :
    listingF lvl (a ++ b) = listingF lvl a ++ listingF lvl b := by
  induction a with
  | nil => simp [listingF]
  | cons x xs ih => simp [listingF, ih, List.append_assoc]

theorem listingF_single (lvl : Nat) (n : Node) : listingF lvl [n] = listingT lvl n := by
  simp [listingF]

def feed (s : St) (e : Entry) : St := push (closeTo e.level s) e.hdr
def feedAll (s : St) : List Entry → St
  | [] => s
  | e :: es => feedAll (feed s e) es

theorem feedAll_append (s : St) (a b : List Entry) : feedAll s (a ++ b) = feedAll (feedAll s a) b := by
  induction a generalizing s with
  | nil => rfl
  | cons x xs ih => simp [feedAll, ih]

theorem feedAll_setFam (b : Bool) (s : St) (es : List Entry) :
    feedAll (setFam b s) es = setFam b (feedAll s es) := by
  induction es generalizing s with
  | nil => rfl
  | cons e es ih =>
    rw [feedAll, feed, closeTo_setFam]
    exact ih (feed s e)

mutual
theorem feedT (t : Node) (lvl : Nat) (s : St) (hl : lvl ≤ s.stack.length) :
    lvl < (feedAll s (listingT lvl t)).stack.length ∧
    closeTo lvl (feedAll s (listingT lvl t)) = attach (closeTo lvl s) [t] := by
  match t with
  | .mk tg v p ks =>
    let s1 : St := push (closeTo lvl s) ⟨tg, v, p⟩
    have hlen0 : (closeTo lvl s).stack.length = lvl := closeTo_len lvl s hl
    have hs1len : s1.stack.length = lvl + 1 := congrArg (· + 1) hlen0
    have hrec := feedF ks (lvl + 1) s1 (by omega)
    have hfeed : feedAll s (listingT lvl (.mk tg v p ks)) = feedAll s1 (listingF (lvl + 1) ks) := by
      simp [listingT, feedAll, feed, s1]
    rw [hfeed]
    refine ⟨by omega, ?_⟩
    rw [← closeTo_closeTo lvl (lvl + 1) _ (by omega), hrec.2, closeTo_self s1 (lvl + 1) (by omega)]
    have hp := closeTo_push (closeTo lvl s) ⟨tg, v, p⟩ ks
    rw [hlen0] at hp
    exact hp
theorem feedF (f : List Node) (lvl : Nat) (s : St) (hl : lvl ≤ s.stack.length) :
    lvl ≤ (feedAll s (listingF lvl f)).stack.length ∧
    closeTo lvl (feedAll s (listingF lvl f)) = attach (closeTo lvl s) f := by
  match f with
  | [] => simp [listingF, feedAll, hl]
  | t :: ts =>
    have h1 := feedT t lvl s hl
    have h2 := feedF ts lvl (feedAll s (listingT lvl t)) (by omega)
    rw [listingF, feedAll_append]
    refine ⟨h2.1, ?_⟩
    rw [h2.2, h1.2, attach_attach]
    simp
end

def rebuild (es : List Entry) : Forest := (closeTo 0 (feedAll ⟨[], [], false⟩ es)).roots

theorem rebuild_listing (f : Forest) : rebuild (listingF 0 f) = f := by
  unfold rebuild
  rw [(feedF f 0 ⟨[], [], false⟩ (by simp)).2]
  simp [closeTo, closeN, attach]

theorem listingF_length (lvl : Nat) (f : List Node) : (listingF lvl f).length = Forest.size f := by
  induction f using Forest.induct generalizing lvl with
  | nil => rfl
  | cons tg v p ks ns ihk ihn =>
    simp [listingF, listingT, Forest.size, Node.size, ihk, ihn]
    omega

theorem listingT_length (lvl : Nat) (t : Node) : (listingT lvl t).length = t.size := by
  rw [← listingF_single, listingF_length]
  simp [Forest.size]

theorem listingF_levels_ge (lvl : Nat) (f : List Node) : ∀ e ∈ listingF lvl f, lvl ≤ e.level := by
  induction f using Forest.induct generalizing lvl with
  | nil => exact fun e he => nomatch he
  | cons tg v p ks ns ihk ihn =>
    intro e he
    simp only [listingF, listingT, List.cons_append, List.mem_cons, List.mem_append] at he
    obtain rfl | he | he := he
    · exact Nat.le_refl _
    · have := ihk (lvl + 1) e he
      omega
    · exact ihn lvl e he

theorem listingT_levels_ge (lvl : Nat) (t : Node) : ∀ e ∈ listingT lvl t, lvl ≤ e.level := by
  rw [← listingF_single]
  exact listingF_levels_ge lvl [t]

theorem listingF_roots (lvl : Nat) (f : List Node) :
    (listingF lvl f).filter (fun e => e.level == lvl) = f.map (fun k => ⟨lvl, ⟨k.tag, k.value, k.ptr⟩⟩) := by
  induction f with
  | nil => simp [listingF]
  | cons t ts ih =>
    obtain ⟨tg, v, p, ks⟩ := t
    have hdeep : (listingF (lvl + 1) ks).filter (fun e => e.level == lvl) = [] := by
      rw [List.filter_eq_nil_iff]
      intro e he
      have := listingF_levels_ge (lvl + 1) ks e he
      simp; omega
    simp [listingF, listingT, List.filter_append, hdeep, ih, Node.tag, Node.value, Node.ptr]

end Gedcom.Dec

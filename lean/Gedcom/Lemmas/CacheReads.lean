/-
  C13 — every read of the cache machine keeps the state coherent, keeps the document and answers what the
  bare document gives (`Sound`, one `*_sound` lemma per read, up to `runView_sound`).
-/
import Gedcom.Lemmas.Cache
namespace Gedcom.Cache

/-- the document `a` is a parameter because no read changes it: what a read needs of its arguments is a
    hypothesis about `a`, and `bind` asks the continuation only about the value returned -/
def Sound {α : Type} (a : Abs) (m : M α) (x : α) : Prop :=
  ∀ s, Inv s → abs s = a → Inv (m s).2 ∧ abs (m s).2 = a ∧ (m s).1 = x

variable {a : Abs}

theorem Sound.pure {α : Type} (x : α) : Sound a (M.pure x) x := fun _ hi ha => ⟨hi, ha, rfl⟩

theorem Sound.ofAbs {α : Type} (f : Abs → α) : Sound a (M.ofAbs f) (f a) :=
  fun _ hi ha => ⟨hi, ha, congrArg f ha⟩

theorem Sound.bind {α β : Type} {m : M α} {k : α → M β} {x : α} {y : β} (hm : Sound a m x)
    (hk : Sound a (k x) y) : Sound a (M.bind m k) y := by
  intro s hi ha
  obtain ⟨i1, a1, r1⟩ := hm s hi ha
  have h2 := hk (m s).2 i1 a1
  rw [← r1] at h2
  exact h2

theorem Sound.mapM' {α β : Type} {k : α → M β} {g : α → β} :
    ∀ (l : List α), (∀ x ∈ l, Sound a (k x) (g x)) → Sound a (M.mapM' k l) (l.map g)
  | [], _ => Sound.pure []
  | x :: xs, h =>
    (h x List.mem_cons_self).bind
      ((Sound.mapM' xs fun y hy => h y (List.mem_cons_of_mem _ hy)).bind (Sound.pure _))

theorem Sound.filterM' {α : Type} {k : α → M Bool} {g : α → Bool} :
    ∀ (l : List α), (∀ x ∈ l, Sound a (k x) (g x)) → Sound a (M.filterM' k l) (l.filter g)
  | [], _ => Sound.pure []
  | x :: xs, h => by
    have hx := h x List.mem_cons_self
    have hxs := Sound.filterM' xs fun y hy => h y (List.mem_cons_of_mem _ hy)
    rw [List.filter_cons]
    exact hx.bind (hxs.bind (Sound.pure _))

theorem nwt_sound {n : Id} (hn : n < a.heap.length) (t : Str) : Sound a (nwt n t) (specNWT a n t) := by
  intro s hi ha
  subst ha
  unfold nwt
  split
  · rename_i ids h
    exact ⟨hi, rfl, hi.2.nc _ (mem_of_lookup h)⟩
  · split
    · exact ⟨inv_memo hi rfl rfl (hnc := mem_cons_new (fun _ h => h) ⟨hn, rfl⟩), rfl, rfl⟩
    · exact ⟨inv_memo hi rfl rfl, rfl, rfl⟩

theorem docFamilies_sound : Sound a docFamilies (specFamilies a) := by
  intro s hi ha
  subst ha
  unfold docFamilies
  split
  · rename_i l h
    exact ⟨hi, rfl, hi.2.df l h⟩
  · exact ⟨inv_memo hi rfl rfl (hdf := fun l hl => Or.inr (Option.some.inj hl).symm), rfl, rfl⟩

theorem byPtr_sound (p : Str) : Sound a (byPtr p) (specByPtr a p) :=
  fun s hi ha => by subst ha; exact ⟨hi, rfl, hi.2.idx p⟩

theorem husband_sound {f : Id} (hf : a.tag f = tFAM) : Sound a (husband f) (specHusband a f) := by
  intro s hi ha
  subst ha
  have hlt : f < s.heap.length := tag_lt hf tFAM_ne
  unfold husband
  split
  · rename_i h hh
    exact ⟨hi, rfl, hi.2.hus _ (mem_of_lookup hh) hf⟩
  · obtain ⟨hi1, a1, r1⟩ := nwt_sound hlt tHUSB s hi rfl
    have r1' : (nwt f tHUSB s).1.head? = specHusband (abs s) f := congrArg List.head? r1
    exact ⟨inv_memo hi1 a1 a1 (hH := mem_cons_new (fun _ h => h) ⟨hlt, r1'⟩), a1, r1'⟩

theorem wife_sound {f : Id} (hf : a.tag f = tFAM) : Sound a (wife f) (specWife a f) := by
  intro s hi ha
  subst ha
  have hlt : f < s.heap.length := tag_lt hf tFAM_ne
  unfold wife
  split
  · rename_i h hh
    exact ⟨hi, rfl, hi.2.wif _ (mem_of_lookup hh) hf⟩
  · obtain ⟨hi1, a1, r1⟩ := nwt_sound hlt tWIFE s hi rfl
    have r1' : (nwt f tWIFE s).1.head? = specWife (abs s) f := congrArg List.head? r1
    exact ⟨inv_memo hi1 a1 a1 (hW := mem_cons_new (fun _ h => h) ⟨hlt, r1'⟩), a1, r1'⟩

theorem individualOf_sound (h : Id) : Sound a (individualOf h) (specIndividualOf a h) :=
  (Sound.ofAbs _).bind ((byPtr_sound _).bind (Sound.ofAbs _))

theorem isInd_sound (h : Option Id) (i : Id) : Sound a (isInd h i) (specIsInd a h i) := by
  cases h with
  | none => exact Sound.pure false
  | some h => exact (individualOf_sound h).bind (Sound.ofAbs _)

theorem hasChild_sound {f : Id} (hf : f < a.heap.length) (i : Id) : Sound a (hasChild f i) (specHasChild a f i) :=
  (nwt_sound hf tCHIL).bind (Sound.ofAbs _)

theorem member_sound {f : Id} (hf : a.tag f = tFAM) (i : Id) : Sound a (member i f) (specMember a i f) :=
  (hasChild_sound (tag_lt hf tFAM_ne) i).bind ((husband_sound hf).bind ((isInd_sound _ i).bind
    ((wife_sound hf).bind ((isInd_sound _ i).bind (Sound.pure _)))))

theorem famLoop_sound (i : Id) :
    Sound a (M.bind docFamilies fun fs => M.filterM' (member i) fs) (specIndFamilies a i) :=
  docFamilies_sound.bind (Sound.filterM' _ fun _ hf => member_sound (mem_specFamilies hf) i)

theorem indFamilies_sound {i : Id} (hi : isIndi a i = true) : Sound a (indFamilies i) (specIndFamilies a i) := by
  intro s hs ha
  subst ha
  have ⟨hr, ht⟩ := isIndi_iff.mp hi
  unfold indFamilies
  split
  · rename_i l hl
    exact ⟨hs, rfl, hs.2.fam _ (mem_of_lookup hl) hr ht⟩
  · obtain ⟨hi1, a1, r1⟩ := famLoop_sound i s hs rfl
    generalize (M.bind docFamilies fun fs => M.filterM' (member i) fs) s = r at *
    exact ⟨inv_memo hi1 a1 a1 (hF := mem_cons_new (fun _ h => h) ⟨hs.1.roots _ hr, r1⟩), a1, r1⟩

theorem parents_sound {i : Id} (hi : isIndi a i = true) : Sound a (parents i) (specParents a i) :=
  (indFamilies_sound hi).bind
    (Sound.filterM' _ fun _ hf => hasChild_sound (tag_lt (mem_specIndFamilies hf) tFAM_ne) i)

theorem children_sound {i : Id} (hi : isIndi a i = true) : Sound a (children i) (specChildren a i) := by
  have fam : ∀ f ∈ specIndFamilies a i, f < a.heap.length :=
    fun f hf => tag_lt (mem_specIndFamilies hf) tFAM_ne
  refine (indFamilies_sound hi).bind ((Sound.filterM' (g := fun f => !specHasChild a f i) _ fun f hf =>
    (hasChild_sound (fam f hf) i).bind (Sound.pure _)).bind ?_)
  unfold specChildren
  rw [List.flatMap_def]
  exact (Sound.mapM' (g := specFamChildren a) _ fun f hf =>
    nwt_sound (fam f (List.mem_filter.mp hf).1) tCHIL).bind (Sound.pure _)

theorem optInd_sound (b : Bool) (w : Id) :
    Sound a (if b then M.bind (individualOf w) fun x => M.pure [x] else M.pure [])
      (if b then [specIndividualOf a w] else []) := by
  cases b
  · exact Sound.pure []
  · exact Sound.bind (k := fun x => M.pure [x]) (individualOf_sound w) (Sound.pure _)

theorem spousesOf_sound {f : Id} (hf : a.tag f = tFAM) (i : Id) :
    Sound a (spousesOf i f) (specSpousesOf a i f) := by
  rw [specSpousesOf_eq]
  refine (husband_sound hf).bind ((wife_sound hf).bind ?_)
  cases specHusband a f with
  | none => exact Sound.pure []
  | some h =>
    cases specWife a f with
    | none => exact Sound.pure []
    | some w =>
      exact (isInd_sound (some h) i).bind ((optInd_sound _ w).bind ((isInd_sound (some w) i).bind
        ((optInd_sound _ h).bind (Sound.pure _))))

theorem eventDates_sound (w : AWF a) {n : Id} (hn : n < a.heap.length) (t : Str) : Sound a (eventDates n t) () :=
  (nwt_sound hn t).bind ((Sound.mapM' _ fun _ he => nwt_sound (specNWT_lt w he) tDATE).bind (Sound.pure ()))

theorem birthOf_sound (w : AWF a) {i : Option Id} (hi : ∀ x, i = some x → x < a.heap.length) :
    Sound a (birthOf i) () := by
  cases i with
  | none => exact Sound.pure ()
  | some x => exact eventDates_sound w (hi x rfl) tBIRT

theorem indiWarnReads_sound (w : AWF a) {i : Id} (hi : i < a.heap.length) : Sound a (indiWarnReads i) () :=
  (eventDates_sound w hi tBIRT).bind ((eventDates_sound w hi tBAPM).bind ((eventDates_sound w hi tBAPL).bind
    ((eventDates_sound w hi tDEAT).bind ((eventDates_sound w hi tBURI).bind ((nwt_sound hi tSEX).bind (Sound.pure ()))))))

theorem spouseLoop_sound (i : Id) :
    Sound a (M.bind docFamilies fun fs => M.bind (M.mapM' (spousesOf i) fs) fun ls => M.pure ls.flatten)
      (specSpouses a i) := by
  unfold specSpouses
  rw [List.flatMap_def]
  exact docFamilies_sound.bind
    ((Sound.mapM' _ fun _ hf => spousesOf_sound (mem_specFamilies hf) i).bind (Sound.pure _))

theorem spouses_sound {i : Id} (hi : isIndi a i = true) : Sound a (spouses i) (specSpouses a i) := by
  intro s hs ha
  subst ha
  have ⟨hr, ht⟩ := isIndi_iff.mp hi
  unfold spouses
  split
  · rename_i l hl
    exact ⟨hs, rfl, hs.2.spo _ (mem_of_lookup hl) hr ht⟩
  · obtain ⟨hi1, a1, r1⟩ := spouseLoop_sound i s hs rfl
    generalize (M.bind docFamilies fun fs => M.bind (M.mapM' (spousesOf i) fs) fun ls => M.pure ls.flatten) s = r at *
    exact ⟨inv_memo hi1 a1 a1 (hS := mem_cons_new (fun _ h => h) ⟨hs.1.roots _ hr, r1⟩), a1, r1⟩

def specSpouseIndividual (a : Abs) (isHusb : Bool) (f : Id) : Option Id :=
  match (if isHusb then specHusband a f else specWife a f) with
  | some h => specIndividualOf a h
  | none => none

theorem specSpouseIndividual_lt {a : Abs} (w : AWF a) {isHusb : Bool} {f j : Id}
    (e : specSpouseIndividual a isHusb f = some j) : j < a.heap.length := by
  unfold specSpouseIndividual at e
  split at e
  · exact specIndividualOf_lt w e
  · cases e

theorem spouseRead_sound (isHusb : Bool) {f : Id} (hf : a.tag f = tFAM) :
    Sound a (spouseRead isHusb f) (if isHusb then specHusband a f else specWife a f) := by
  unfold spouseRead
  cases isHusb
  · exact wife_sound hf
  · exact husband_sound hf

theorem spouseIndividual_sound (isHusb : Bool) {f : Id} (hf : a.tag f = tFAM) :
    Sound a (spouseIndividual isHusb f) (specSpouseIndividual a isHusb f) := by
  unfold specSpouseIndividual
  refine (spouseRead_sound isHusb hf).bind ?_
  cases (if isHusb then specHusband a f else specWife a f) with
  | none => exact Sound.pure none
  | some h => exact individualOf_sound h

theorem spouseBirth_sound (w : AWF a) (isHusb : Bool) {f : Id} (hf : a.tag f = tFAM) :
    Sound a (spouseBirth isHusb f) () :=
  (spouseIndividual_sound isHusb hf).bind (birthOf_sound w fun _ hx => specSpouseIndividual_lt w hx)

theorem famWarnReads_sound (w : AWF a) {f : Id} (hf : a.tag f = tFAM) : Sound a (famWarnReads f) () :=
  (spouseBirth_sound w true hf).bind ((spouseBirth_sound w false hf).bind ((nwt_sound (tag_lt hf tFAM_ne) tCHIL).bind
    ((Sound.mapM' (g := fun _ => ()) _ fun c _ =>
        (individualOf_sound c).bind (birthOf_sound w fun _ hx => specIndividualOf_lt w hx)).bind
      ((eventDates_sound w (tag_lt hf tFAM_ne) tMARR).bind (Sound.pure ())))))

theorem rootWarnReads_sound (w : AWF a) {r : Id} (hr : r < a.heap.length) : Sound a (rootWarnReads r) () := by
  refine (Sound.ofAbs _).bind ?_
  split
  · exact indiWarnReads_sound w hr
  · split
    · rename_i h
      exact famWarnReads_sound w (by simpa using h)
    · exact Sound.pure ()

theorem warningsRead_sound (w : AWF a) : Sound a warningsRead () :=
  (Sound.ofAbs _).bind ((Sound.mapM' (g := fun _ => ()) _ fun r hr =>
    rootWarnReads_sound w (w.roots r hr)).bind (Sound.pure ()))

/-- a read whose answer is not modelled (`Document.Warnings()`) -/
def Pure {α : Type} (pre : Abs → Prop) (m : M α) : Prop :=
  ∀ s, Inv s → pre (abs s) → Inv (m s).2 ∧ abs (m s).2 = abs s

/-- `Document.Warnings()` keeps every cache coherent and does not change the document -/
theorem warningsRead_pure : Pure (fun _ => True) warningsRead := fun s hi _ =>
  have h := warningsRead_sound hi.1.awf s hi rfl
  ⟨h.1, h.2.1⟩

theorem runView_sound (w : AWF a) {v : View} (hok : v.ok a = true) : Sound a (runView v) (specView a v) := by
  have indi : ∀ {i : Id}, isIndi a i = true → i < a.heap.length := fun h => w.roots _ (isIndi_iff.mp h).1
  cases v <;> simp only [runView, specView]
  case nodesWithTag n t => exact (nwt_sound (by simpa [View.ok] using hok) t).bind (Sound.pure _)
  case individuals => exact (Sound.ofAbs _).bind (Sound.pure _)
  case families => exact docFamilies_sound.bind (Sound.pure _)
  case byPointer p => exact (byPtr_sound p).bind (Sound.pure _)
  case indFamilies i => exact (indFamilies_sound hok).bind (Sound.pure _)
  case spouses i => exact (spouses_sound hok).bind (Sound.pure _)
  case parents i => exact (parents_sound hok).bind (Sound.pure _)
  case children i => exact (children_sound hok).bind (Sound.pure _)
  case husband f => exact (husband_sound (isFam_iff.mp hok)).bind (Sound.pure _)
  case wife f => exact (wife_sound (isFam_iff.mp hok)).bind (Sound.pure _)
  case famChildren f => exact (nwt_sound (tag_lt (isFam_iff.mp hok) tFAM_ne) tCHIL).bind (Sound.pure _)
  case names i => exact (nwt_sound (indi hok) tNAME).bind (Sound.pure _)
  case eventsOf i t =>
    simp only [View.ok, Bool.and_eq_true] at hok
    exact (nwt_sound (indi hok.1) t).bind (Sound.pure _)
  case allEvents i => exact (Sound.ofAbs _).bind (Sound.pure _)

theorem subject_lt {a : Abs} (w : AWF a) {v : View} (hok : v.ok a = true) {n : Id}
    (hn : v.subject = some n) : n < a.heap.length := by
  cases v with
  | nodesWithTag m t => cases hn; exact of_decide_eq_true hok
  | individuals | families | byPointer p => cases hn
  | indFamilies i | spouses i | parents i | children i | names i | allEvents i =>
    cases hn; exact w.roots _ (isIndi_iff.mp hok).1
  | husband f | wife f | famChildren f => cases hn; exact tag_lt (isFam_iff.mp hok) tFAM_ne
  | eventsOf i t =>
    cases hn
    simp only [View.ok, Bool.and_eq_true] at hok
    exact w.roots _ (isIndi_iff.mp hok.1).1

end Gedcom.Cache

/- Legality of a document's fields (C01's hypothesis) and the decoder's step on one written line; the
   induction over the forest is in Lemmas/MultiLine. -/
import Gedcom.Lemmas.LineAct
import Gedcom.Lemmas.Trim
import Gedcom.Lemmas.Node
namespace Gedcom.Dec

/-- legality of one node's own fields (C01's "GEDCOM-legal parts") -/
structure LegalHdr (t v p : Str) : Prop where
  tag_ne : t ≠ []
  tag_word : ∀ x ∈ t, isWord x = true
  ptr_ok : ∀ x ∈ p, x ≠ AT ∧ x ≠ LF ∧ x ≠ CR
  val_ok : ∀ x ∈ v, x ≠ LF ∧ x ≠ CR
  val_trim : trimSpace v = v
  record_no_value : isRecordTag t = true → v = []

mutual
def LegalT : Node → Prop
  | .mk t v p ks => LegalHdr t v p ∧ LegalF ks
def LegalF : List Node → Prop
  | [] => True
  | n :: ns => LegalT n ∧ LegalF ns
end

theorem legalF_iff (ks : List Node) : LegalF ks ↔ ∀ k ∈ ks, LegalT k := by
  induction ks with
  | nil => simp [LegalF]
  | cons k ks ih => rw [LegalF, ih]; simp

theorem legalHdrB_sound {t v p : Str} (h : legalHdrB t v p = true) : LegalHdr t v p := by
  unfold legalHdrB at h
  simp only [Bool.and_eq_true, List.all_eq_true, bne_iff_ne, ne_eq, beq_iff_eq, Bool.or_eq_true,
    Bool.not_eq_eq_eq_not, Bool.not_true, decide_eq_true_eq] at h
  obtain ⟨⟨⟨⟨⟨h1, h2⟩, h3⟩, h4⟩, h5⟩, h6⟩ := h
  refine ⟨h1, h2, ?_, h4, h5, ?_⟩
  · intro x hx; have := h3 x hx; exact ⟨this.1.1, this.1.2, this.2⟩
  · intro hr; rcases h6 with h6 | h6
    · rw [hr] at h6; exact absurd h6 (by simp)
    · exact h6

theorem legalFB_sound (f : List Node) (h : legalFB f = true) : LegalF f := by
  induction f using Forest.induct with
  | nil =>
    rw [LegalF]
    trivial
  | cons tg v p ks ns ihk ihn =>
    rw [legalFB, legalTB, Bool.and_eq_true, Bool.and_eq_true] at h
    rw [LegalF, LegalT]
    exact ⟨⟨legalHdrB_sound h.1.1, ihk h.1.2⟩, ihn h.2⟩

theorem legalTB_sound (t : Node) (h : legalTB t = true) : LegalT t :=
  (legalFB_sound [t] (by simp [legalFB, h])).1

theorem renderLine_nobreak (lvl : Nat) (t v p : Str) (htw : ∀ x ∈ t, isWord x = true)
    (hp : ∀ x ∈ p, x ≠ AT ∧ x ≠ LF ∧ x ≠ CR) (hv : NoBreak v) :
    NoBreak (renderLine ⟨lvl, p, t, v⟩) := by
  intro x hx
  unfold renderLine at hx
  simp only [List.mem_append] at hx
  rcases hx with ((hx | hx) | hx) | hx
  · rcases hx with hx | hx
    · obtain ⟨hlf, hcr, _, _⟩ := isDigit_not_break (natToDec_digits lvl x hx); exact ⟨hlf, hcr⟩
    · simp at hx; subst hx; decide
  · by_cases hpn : p = []
    · simp [hpn] at hx
    · simp only [hpn, if_false, List.mem_append, List.mem_cons, List.not_mem_nil, or_false] at hx
      rcases hx with (hx | hx) | hx
      · subst hx; decide
      · exact (hp x hx).2
      · rcases hx with hx | hx <;> subst hx <;> decide
  · obtain ⟨_, _, hlf, hcr⟩ := isWord_not (htw x hx); exact ⟨hlf, hcr⟩
  · by_cases hvn : v = []
    · simp [hvn] at hx
    · simp only [hvn, if_false, List.mem_cons] at hx
      rcases hx with hx | hx
      · subst hx; decide
      · exact hv x hx

theorem splitGo_line (a rest cur : Str) (ha : NoBreak a) :
    splitLines.go (a ++ LF :: rest) cur = (cur.reverse ++ a) :: splitLines.go rest [] := by
  induction a generalizing cur with
  | nil => simp [splitLines.go]
  | cons x xs ih =>
    have hx := ha x (by simp)
    have h1 : (x == LF) = false := by simpa using hx.1
    have h2 : (x == CR) = false := by simpa using hx.2
    simp only [List.cons_append, splitLines.go, h1, h2, Bool.or_self, Bool.false_eq_true, if_false]
    rw [ih (x :: cur) (fun z hz => ha z (by simp [hz]))]
    simp

theorem step_rendered (o : Opts) (s : St) (lvl : Nat) {t v p : Str} (hline : LegalLine ⟨lvl, p, t, v⟩)
    (hrec : isRecordTag t = true → v = [])
    (hl : lvl ≤ s.stack.length) (htop : TopOK s) (hrole : (!isRoleTag t || s.seenFam) = true) :
    step o s (renderLine ⟨lvl, p, t, v⟩) =
      .next (push (closeTo lvl (setFam (s.seenFam || t == tFAM) s)) ⟨t, v, p⟩) := by
  have hhdr : hdrOf ⟨lvl, p, t, v⟩ = ⟨t, v, p⟩ := by
    unfold hdrOf
    cases hr : isRecordTag t
    · rfl
    · rw [hrec hr]; rfl
  rw [step_act, lineAct_node o (parseLine_renderLine _ hline) hrole hl, St.act, hhdr]
  exact congrArg (fun x => StepResult.next (push (closeTo lvl x) ⟨t, v, p⟩))
    (trimTop_of_TopOK (setFam (s.seenFam || t == tFAM) s) htop)

theorem encNode_append (lvl : Nat) (t v p : Str) (ks : List Node) (rest : Str) :
    encNode lvl (.mk t v p ks) ++ rest =
      renderLine ⟨lvl, p, t, v⟩ ++ LF :: (encForest (lvl + 1) ks ++ rest) := by
  simp [encNode, List.append_assoc]

theorem trimTop_appendTop_LF (s : St) (h : TopOK s) : trimTop (appendTop [LF] s) = s := by
  rcases s with ⟨r, _ | ⟨f, fs⟩, sf⟩
  · rfl
  · have := trimSpace_append_LF f.hdr.value (h f fs rfl)
    simp [appendTop, trimTop, this]

/-- the encoder's text ends with a line feed, so the loop's last line is blank: it leaves the
    document as it was -/
theorem run_last_blank (o : Opts) (s : St) (n : Nat) (htop : TopOK s) :
    ∃ s', run o s n (splitLines.go [] []) = .inr s' ∧ trimTop s' = s := by
  rw [splitLines.go, List.reverse_nil, run, step_act, lineAct_nil]
  by_cases hm : (o.allowMultiLine && s.stack.length != 0) = true
  · rw [if_pos hm]; exact ⟨appendTop [LF] s, rfl, trimTop_appendTop_LF s htop⟩
  · rw [if_neg hm]; exact ⟨s, rfl, trimTop_of_TopOK s htop⟩

end Gedcom.Dec

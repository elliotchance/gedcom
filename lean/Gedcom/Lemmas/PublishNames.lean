/- Naming facts that hold whatever the regenerated tables are: a table comes in as a hypothesis (`tableOk`) and
   Props/C19 supplies the value.  `getUniqueKey` finds a key by pigeonhole; source keys are distinct because they
   can be decoded. -/
import Gedcom.Model.PublishNames
import Gedcom.Lemmas.Basics
import Gedcom.Lemmas.Decimal
namespace Gedcom.Publish

theorem digitChar_eq : ∀ d, d < 10 → digitChar d = UInt8.ofNat (48 + d) := by decide

theorem decOf_natToDecF (f n : Nat) (h : n < f) : DecOf n (natToDecF f n) := by
  induction f generalizing n with
  | zero => omega
  | succ f ih =>
    unfold natToDecF
    split
    · rename_i h10
      rw [digitChar_eq n h10]
      exact .digit h10
    · rename_i h10
      rw [digitChar_eq _ (Nat.mod_lt _ (by omega))]
      exact .snoc h10 (ih (n / 10) (by omega))

theorem decOf_natToDec (n : Nat) : DecOf n (natToDec n) := decOf_natToDecF (n + 1) n (by omega)

theorem natToDec_injective (i j : Nat) (h : natToDec i = natToDec j) : i = j :=
  (decOf_natToDec i).inj (h ▸ decOf_natToDec j)

theorem natToDec_digits (n : Nat) : ∀ b ∈ natToDec n, 48 ≤ b.toNat ∧ b.toNat ≤ 57 :=
  (decOf_natToDec n).forall_mem fun d h => by
    rw [digit_toNat h]
    omega

theorem candidate_injective (s : Str) (i j : Nat) (h : candidate s i = candidate s j) : i = j := by
  unfold candidate at h
  by_cases hi : i = 0 <;> by_cases hj : j = 0 <;> simp [hi, hj] at h ⊢
  · exact natToDec_injective i j h

theorem uniqueKey_isSome (taken places : List Str) (s : Str) : (uniqueKey taken places s).isSome := by
  unfold uniqueKey
  cases hf : List.find? _ _ with
  | some k => rfl
  | none =>
    exfalso
    rw [List.find?_eq_none] at hf
    let n := taken.length + places.length
    have hn : ((List.range (n + 1)).map (candidate s)).Nodup :=
      nodup_map (candidate_injective s) List.nodup_range
    have hs : ∀ c ∈ (List.range (n + 1)).map (candidate s), c ∈ taken ++ places := by
      intro c hc
      have : c ∉ taken → c ∈ places := by simpa using hf c hc
      by_cases ht : c ∈ taken
      · simp [ht]
      · simp [this ht]
    have := hn.length_le_of_subset fun c hc => hs c hc
    simp at this
    omega

theorem uniqueKey_fresh {taken places : List Str} {s k : Str} (h : uniqueKey taken places s = some k) :
    k ∉ taken ∧ k ∉ places ∧ ∃ i, k = candidate s i := by
  unfold uniqueKey at h
  have hp : k ∉ taken ∧ k ∉ places := by simpa using List.find?_some h
  have hm := List.mem_of_find?_eq_some h
  obtain ⟨i, _, hi⟩ := List.mem_map.mp hm
  exact ⟨hp.1, hp.2, i, hi.symm⟩

theorem placeEntriesR_keys_nodup (r ps : List Str) : ((placeEntriesR r ps).map (·.1)).Nodup := by
  induction ps with
  | nil => simp [placeEntriesR]
  | cons p ps ih =>
    simp only [placeEntriesR, List.map_cons, List.nodup_cons]
    constructor
    · intro hm
      obtain ⟨kv, hkv, hk⟩ := List.mem_map.mp hm
      have := (List.mem_filter.mp hkv).2
      simp [hk] at this
    · exact (ih.sublist ((List.filter_sublist).map _))

theorem placeEntriesR_key (r ps : List Str) : ∀ kv ∈ placeEntriesR r ps, kv.1 = placeKey r kv.2 := by
  induction ps with
  | nil => simp [placeEntriesR]
  | cons p ps ih =>
    intro kv hkv
    simp only [placeEntriesR, List.mem_cons] at hkv
    rcases hkv with rfl | hkv
    · rfl
    · exact ih kv (List.mem_filter.mp hkv).1

theorem placeKey_spec (r : List Str) (p : Str) :
    placeKey r p ∉ r ∧ ∃ i, placeKey r p = candidate (sanitize p) i := by
  unfold placeKey
  have hs := uniqueKey_isSome [] r (sanitize p)
  cases hk : uniqueKey [] r (sanitize p) with
  | none => simp [hk] at hs
  | some k =>
    obtain ⟨_, h2, i, hi⟩ := uniqueKey_fresh hk
    exact ⟨by simpa using h2, i, by simpa using hi⟩

/-! ### the key of a source pointer can be decoded -/

def hexVal (b : UInt8) : Nat := if b.toNat ≤ 57 then b.toNat - 48 else b.toNat - 87

/-- reads a key back: `_xx` is the byte with that hexadecimal code, any other byte is itself
    (`skip`: bytes of an escape already read) -/
def decGo : Nat → Str → Str
  | _, [] => []
  | k+1, _ :: t => decGo k t
  | 0, b :: t =>
    if b == 95 then
      match t with
      | h :: l :: _ => UInt8.ofNat (hexVal h * 16 + hexVal l) :: decGo 2 t
      | _ => b :: decGo 0 t
    else b :: decGo 0 t

def decodeKey (s : Str) : Str := decGo 0 s

/-- an entry of the per-byte table is the byte itself (not `_`) or its `_xx` escape -/
def entryOk (e : Str × Nat) : Bool :=
  (e.1 == [UInt8.ofNat e.2] && e.2 != 95) || e.1 == [95, hexDigit (e.2 / 16), hexDigit (e.2 % 16)]

def tableOk (tbl : List Str) : Bool := tbl.length == 256 && tbl.zipIdx.all entryOk

theorem hexVal_hexDigit : ∀ d, d < 16 → hexVal (hexDigit d) = d := by decide

theorem decode_escape (c : Nat) (hc : c < 256) (rest : Str) :
    decodeKey (95 :: hexDigit (c / 16) :: hexDigit (c % 16) :: rest) = UInt8.ofNat c :: decodeKey rest := by
  unfold decodeKey
  simp only [decGo, beq_self_eq_true, if_true]
  rw [hexVal_hexDigit _ (by omega), hexVal_hexDigit _ (Nat.mod_lt _ (by omega))]
  congr 2
  omega

theorem decode_raw (b : UInt8) (hb : b ≠ 95) (rest : Str) : decodeKey (b :: rest) = b :: decodeKey rest := by
  unfold decodeKey
  have : (b == 95) = false := by simpa using hb
  simp [decGo, this]

theorem tableOk_mem (tbl : List Str) (h : tableOk tbl = true) (c : UInt8) :
    (tbl.getD c.toNat [c], c.toNat) ∈ tbl.zipIdx := by
  unfold tableOk at h
  simp only [Bool.and_eq_true, beq_iff_eq] at h
  have hlt : c.toNat < tbl.length := by rw [h.1]; exact UInt8.toNat_lt c
  rw [List.mem_iff_getElem?]
  exact ⟨c.toNat, by simp [List.getElem?_zipIdx, List.getD, List.getElem?_eq_getElem hlt]⟩

theorem tableOk_get (tbl : List Str) (h : tableOk tbl = true) (c : UInt8) :
    entryOk (tbl.getD c.toNat [c], c.toNat) = true := by
  have hall : tbl.zipIdx.all entryOk = true := by
    unfold tableOk at h
    exact (Bool.and_eq_true _ _ ▸ h).2
  exact List.all_eq_true.mp hall _ (tableOk_mem tbl h c)

theorem decode_entry (tbl : List Str) (h : tableOk tbl = true) (c : UInt8) (rest : Str) :
    decodeKey (tbl.getD c.toNat [c] ++ rest) = c :: decodeKey rest := by
  have he := tableOk_get tbl h c
  unfold entryOk at he
  simp only [Bool.or_eq_true, Bool.and_eq_true, beq_iff_eq, bne_iff_ne, ne_eq] at he
  rcases he with ⟨he, hne⟩ | he
  · rw [he]
    have hc : UInt8.ofNat c.toNat = c := by simp
    rw [hc]
    have : c ≠ 95 := by
      intro e; apply hne; rw [e]; rfl
    simpa using decode_raw c this rest
  · rw [he]
    have := decode_escape c.toNat (UInt8.toNat_lt c) rest
    simpa using this

theorem decode_flatMap (tbl : List Str) (h : tableOk tbl = true) (p : Str) :
    decodeKey (p.flatMap (fun c => tbl.getD c.toNat [c])) = p := by
  induction p with
  | nil => simp [decodeKey, decGo]
  | cons c cs ih =>
    simp only [List.flatMap_cons]
    rw [decode_entry tbl h c, ih]

theorem decode_escapeFirst (k : Str) (hk : k.head? ≠ some 95) : decodeKey (escapeFirst k) = decodeKey k := by
  cases k with
  | nil => rfl
  | cons b t =>
    simp only [escapeFirst]
    rw [decode_escape b.toNat (UInt8.toNat_lt b) t]
    have hb : b ≠ 95 := by intro e; apply hk; simp [e]
    rw [decode_raw b hb t]
    simp

end Gedcom.Publish

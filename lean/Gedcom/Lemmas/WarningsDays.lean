/- C20: a DATE value as days — the guards of the exact-day theorems, the day numbers of its two
   instants (`Whole`), `Date.Sub` as a capped distance. -/
import Gedcom.Lemmas.WarningsChecks
import Gedcom.Lemmas.Calendar
import Gedcom.Lemmas.Compare
namespace Gedcom.Warn

instance (t : Date) : Decidable (C05.Full t) := by unfold C05.Full; exact inferInstance

def DateV.exact : DateV → Bool
  | .ok t => decide (C05.Full t ∧ 1000 ≤ t.year)
  | .bad _ => true
  | .gen _ _ _ => false

def DateV.NoGen : DateV → Prop
  | .gen _ _ _ => False
  | _ => True

theorem DateV.NoGen.cases {x : DateV} (h : x.NoGen) : (∃ t, x = .ok t) ∨ (∃ l, x = .bad l) := by
  cases x with
  | ok t => exact Or.inl ⟨t, rfl⟩
  | bad l => exact Or.inr ⟨l, rfl⟩
  | gen l s e => exact absurd h (by simp [DateV.NoGen])

def evsExact (evs : List Ev) : Bool := evs.all fun e => e.dates.all DateV.exact

/-- every DATE of the document is a calendar-valid exact day of the year 1000 or later, or does
    not parse (decidable).  The lower bound keeps exact dates well away from Go's zero
    time 1 Jan 0001, which the code uses for an absent date: a child born in the year 1 and a
    sibling without a birth date would count as born too close. -/
def ExactDates (d : Doc) : Prop :=
  d.all (fun | .indi i => evsExact i.events | .fam f => evsExact f.events) = true

instance (d : Doc) : Decidable (ExactDates d) := by unfold ExactDates; exact inferInstance

/-- the guards `ExactDates`, `DatesWithin`, `WholeDates` have this shape -/
theorem allDates_indi {P Q : DateV → Bool} {d : Doc}
    (h : d.all (fun | .indi i => i.events.all fun e => e.dates.all P
                    | .fam f => f.events.all fun e => e.dates.all Q) = true)
    {i : Indi} (hi : Rec.indi i ∈ d) {e : Ev} (he : e ∈ i.events) {x : DateV} (hx : x ∈ e.dates) :
    P x = true :=
  List.all_eq_true.mp (List.all_eq_true.mp (List.all_eq_true.mp h _ hi) e he) x hx

theorem allDates_fam {P Q : DateV → Bool} {d : Doc}
    (h : d.all (fun | .indi i => i.events.all fun e => e.dates.all P
                    | .fam f => f.events.all fun e => e.dates.all Q) = true)
    {f : Fam} (hf : Rec.fam f ∈ d) {e : Ev} (he : e ∈ f.events) {x : DateV} (hx : x ∈ e.dates) :
    Q x = true :=
  List.all_eq_true.mp (List.all_eq_true.mp (List.all_eq_true.mp h _ hf) e he) x hx

theorem DateV.exact_ok {t : Date} (h : (DateV.ok t).exact = true) : C05.Full t ∧ 1000 ≤ t.year :=
  of_decide_eq_true h

theorem ExactDates.fam {d : Doc} (h : ExactDates d) {f : Fam} (hf : Rec.fam f ∈ d) {e : Ev}
    (he : e ∈ f.events) {t : Date} (ht : DateV.ok t ∈ e.dates) : C05.Full t ∧ 1000 ≤ t.year :=
  DateV.exact_ok (allDates_fam h hf he ht)

def DateV.Fine : DateV → Prop
  | .ok t => C05.Full t
  | .bad _ => True
  | .gen _ _ _ => False

theorem DateV.Fine.noGen {x : DateV} (h : x.Fine) : x.NoGen := by
  cases x <;> simp [DateV.Fine, DateV.NoGen] at h ⊢

theorem DateV.fine_of_exact {x : DateV} (h : x.exact = true) : x.Fine := by
  cases x with
  | ok t => exact (DateV.exact_ok h).1
  | bad l => trivial
  | gen l s e => simp [DateV.exact] at h

theorem ExactDates.fine_indi {d : Doc} (h : ExactDates d) {i : Indi} (hi : Rec.indi i ∈ d) {e : Ev}
    (he : e ∈ i.events) {x : DateV} (hx : x ∈ e.dates) : x.Fine :=
  DateV.fine_of_exact (allDates_indi h hi he hx)

theorem ExactDates.fine_fam {d : Doc} (h : ExactDates d) {f : Fam} (hf : Rec.fam f ∈ d) {e : Ev}
    (he : e ∈ f.events) {x : DateV} (hx : x ∈ e.dates) : x.Fine :=
  DateV.fine_of_exact (allDates_fam h hf he hx)

theorem ExactDates.noGen_fam {d : Doc} (h : ExactDates d) {f : Fam} (hf : Rec.fam f ∈ d) {e : Ev}
    (he : e ∈ f.events) {x : DateV} (hx : x ∈ e.dates) : x.NoGen :=
  (h.fine_fam hf he hx).noGen

def dayOf (t : Date) : Int := dayNumber t.year t.month t.day

def DateV.within (lo hi : Int) : DateV → Bool
  | .ok t => decide (lo ≤ dayOf t ∧ dayOf t ≤ hi)
  | .bad _ => true
  | .gen _ _ _ => true

/-- every exact date of the document lies in the window of days `[lo, hi]` (decidable) -/
def DatesWithin (lo hi : Int) (d : Doc) : Prop :=
  d.all (fun
    | .indi i => i.events.all fun e => e.dates.all (DateV.within lo hi)
    | .fam f => f.events.all fun e => e.dates.all (DateV.within lo hi)) = true

instance (lo hi : Int) (d : Doc) : Decidable (DatesWithin lo hi d) := by
  unfold DatesWithin; exact inferInstance

theorem DateV.within_ok {lo hi : Int} {t : Date} :
    (DateV.ok t).within lo hi = true ↔ lo ≤ dayOf t ∧ dayOf t ≤ hi := decide_eq_true_iff

theorem DatesWithin.indi {lo hi : Int} {d : Doc} (h : DatesWithin lo hi d) {i : Indi}
    (hi' : Rec.indi i ∈ d) {e : Ev} (he : e ∈ i.events) {t : Date} (ht : DateV.ok t ∈ e.dates) :
    lo ≤ dayOf t ∧ dayOf t ≤ hi :=
  DateV.within_ok.mp (allDates_indi h hi' he ht)

theorem birthOf_fine {d : Doc} (hx : ExactDates d) {p : Nat} {x : DateV}
    (h : birthOf (indiOf d p) = some x) : x.Fine :=
  birthOf_all (fun _ hi _ he _ => hx.fine_indi hi he) h

theorem DateV.Fine.ok_of_valid {x : DateV} (hf : x.Fine) (hv : x.valid = true) : ∃ t, x = .ok t := by
  cases x with
  | ok t => exact ⟨t, rfl⟩
  | bad l => exact Bool.noConfusion hv
  | gen l s e => exact hf.elim

/-- the instants of `x` are whole days (as an end, Go's zero time is not) -/
def Whole (x : DateV) : Prop :=
  startI (some x) = dayS x * nsPerDay ∧ endI (some x) = (dayE x + 1) * nsPerDay - 1

theorem whole_ok (t : Date) : Whole (.ok t) :=
  ⟨by rw [dayS_ok]; rfl, by rw [dayE_ok]; rfl⟩

theorem dayS_full {t : Date} (h : C05.Full t) : dayS (.ok t) = dayOf t := by
  rw [dayS_ok, C05.full_firstDay t h]; rfl

theorem dayE_full {t : Date} (h : C05.Full t) : dayE (.ok t) = dayOf t := by
  rw [dayE_ok, C05.full_lastDay t h, dayOf]

/-- `Date.Sub`: the distance of the two instants, capped at the maximum duration -/
theorem dateSub_eq (x y : Int) : dateSub x y = min (max (x - y) (y - x)) maxDur := by
  unfold dateSub timeSub durAbs maxDur minDur
  omega

theorem dateSub_comm (x y : Int) : dateSub x y = dateSub y x := by
  rw [dateSub_eq, dateSub_eq, Int.max_comm]

theorem dateSub_lt_iff (x y T : Int) (hT : T ≤ maxDur) :
    dateSub x y < T ↔ x - y < T ∧ y - x < T := by
  rw [dateSub_eq]
  omega

def absd (x y : Int) : Int := if x ≤ y then y - x else x - y

theorem dateSub_days {x y a b : Int} (h : x - y = (a - b) * nsPerDay) :
    dateSub x y = min (absd a b * nsPerDay) maxDur := by
  have e : max (x - y) (y - x) = absd a b * nsPerDay := by
    unfold absd nsPerDay at *
    omega
  rw [dateSub_eq, e]

theorem dateSub_start {x y : DateV} (hx : Whole x) (hy : Whole y) :
    dateSub (startI (some x)) (startI (some y)) = min (absd (dayS x) (dayS y) * nsPerDay) maxDur :=
  dateSub_days (by rw [hx.1, hy.1]; simp only [nsPerDay]; omega)

theorem dateSub_end {x y : DateV} (hx : Whole x) (hy : Whole y) :
    dateSub (endI (some x)) (endI (some y)) = min (absd (dayE x) (dayE y) * nsPerDay) maxDur :=
  dateSub_days (by rw [hx.2, hy.2]; simp only [nsPerDay]; omega)

theorem compare_ok {a b : Date} (ha : C05.Full a) (hb : C05.Full b) :
    compare (dayS (.ok a)) (dayE (.ok a)) (dayS (.ok b)) (dayE (.ok b)) = .entirelyBefore ↔
      dayOf a < dayOf b := by
  rw [dayS_full ha, dayE_full ha, dayS_full hb, dayE_full hb, C20.compare_entirelyBefore]
  omega

end Gedcom.Warn

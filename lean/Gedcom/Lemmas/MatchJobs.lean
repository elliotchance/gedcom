/-
  The jobs `jobsFrom` creates meet what the theorems about `winners` ask of a list of results: each
  is `Justified`, and the certain ones pair nobody twice (`jobsOK_from`: the guard `JobsOK` from
  distinct nodes alone).  `PtrsOK` is a hypothesis the property theorems name; no proof uses it.
-/
import Gedcom.Lemmas.Match
namespace Gedcom.Match

def SharesUid (a b : Person) : Prop := ∃ u ∈ a.uids, u ∈ b.uids

/-- a job is between a left and a right individual; a certain job shares a unique identifier or
    has the same pointer and a forced score at least `prefer`; an uncertain job carries the
    pair's score -/
def Justified (L R : List Person) (scoreT scoreF : Nat → Nat → Rat) (prefer : Rat) (j : Job) : Prop :=
  ∃ a ∈ L, ∃ b ∈ R, j.l = a.id ∧ j.r = b.id ∧
    ((j.certain = true ∧ (SharesUid a b ∨ (a.ptr = b.ptr ∧ prefer ≤ scoreT a.id b.id))) ∨
     (j.certain = false ∧ j.score = scoreF a.id b.id))

theorem of_mem_uniqueCands {R : List Person} {a b : Person} (hm : b ∈ uniqueCands R a) :
    b ∈ R ∧ SharesUid a b := by
  unfold uniqueCands at hm
  obtain ⟨u, hu, hf⟩ := List.mem_filterMap.mp hm
  have h1 := List.mem_of_find?_eq_some hf
  have h2 := List.find?_some hf
  exact ⟨h1, u, hu, List.contains_iff_mem.mp h2⟩

theorem Admissible.spec {R : List Person} {ch : Person → Option Person} (h : Admissible R ch)
    {a b : Person} (hab : ch a = some b) : b ∈ R ∧ SharesUid a b := by
  have := h a
  rw [hab] at this
  exact of_mem_uniqueCands this

theorem uniqueTarget_admissible (R : List Person) : Admissible R (uniqueTarget R) := by
  intro a
  unfold uniqueTarget
  cases h : uniqueCands R a with
  | nil => simp
  | cons b bs => simp

/-! `createUniqueJobs` and `createPointerJobs` have one shape: walk the left list with the sent sets
in hand; an individual is skipped, or paired with a right individual whose pointer has not been
sent, and then both pointers are sent.  What the validity theorems need of the two phases holds of
every such pass. -/

/-- `Pass P as s js s'`: walking `as` from the sent sets `s` can emit the jobs `js` and end with
    `s'`, where `P a b t` is what the phase asks of a pair it emits in state `t` -/
inductive Pass (P : Person → Person → Sent → Prop) : List Person → Sent → List Job → Sent → Prop
  | nil (s : Sent) : Pass P [] s [] s
  | skip {a : Person} {as : List Person} {s s' : Sent} {js : List Job} :
      Pass P as s js s' → Pass P (a :: as) s js s'
  | take {a b : Person} {as : List Person} {s s' : Sent} {js : List Job} (w : Rat) :
      P a b s → b.ptr ∉ s.b → Pass P as ⟨a.ptr :: s.a, b.ptr :: s.b⟩ js s' →
      Pass P (a :: as) s (⟨a.id, b.id, true, w⟩ :: js) s'

/-- job `j` of a pass from `s` to `s'` was emitted for `a` and `b` in state `t`, to which the sent
    sets had grown from `s`: the right pointer had not been sent, both pointers are sent in the end -/
structure EmittedAt (P : Person → Person → Sent → Prop) (s s' : Sent) (j : Job) (a b : Person)
    (t : Sent) : Prop where
  certain : j.certain = true
  l : j.l = a.id
  r : j.r = b.id
  offer : P a b t
  beforeA : s.a ⊆ t.a
  unsentB : b.ptr ∉ s.b
  sentA : a.ptr ∈ s'.a
  sentB : b.ptr ∈ s'.b

namespace Pass
variable {P : Person → Person → Sent → Prop} {as : List Person} {s s' : Sent} {js : List Job}

theorem sent_le (h : Pass P as s js s') : s.a ⊆ s'.a ∧ s.b ⊆ s'.b := by
  induction h with
  | nil s => exact ⟨List.Subset.refl _, List.Subset.refl _⟩
  | skip _ ih => exact ih
  | take _ _ _ _ ih =>
    exact ⟨(List.subset_cons_self _ _).trans ih.1, (List.subset_cons_self _ _).trans ih.2⟩

theorem emitted (h : Pass P as s js s') {j : Job} (hj : j ∈ js) :
    ∃ a ∈ as, ∃ b t, EmittedAt P s s' j a b t := by
  induction h with
  | nil s => cases hj
  | skip _ ih =>
    obtain ⟨a, ha, rest⟩ := ih hj
    exact ⟨a, List.mem_cons_of_mem _ ha, rest⟩
  | @take a b as s s' js w hP hb hrest ih =>
    rcases List.mem_cons.mp hj with rfl | hj
    · exact ⟨a, List.mem_cons_self, b, s, rfl, rfl, rfl, hP, List.Subset.refl _, hb,
        hrest.sent_le.1 List.mem_cons_self, hrest.sent_le.2 List.mem_cons_self⟩
    · obtain ⟨a', ha', b', t, e⟩ := ih hj
      exact ⟨a', List.mem_cons_of_mem _ ha', b', t,
        { e with beforeA := (List.subset_cons_self _ _).trans e.beforeA
                 unsentB := fun h => e.unsentB (List.mem_cons_of_mem _ h) }⟩

theorem certain (h : Pass P as s js s') {j : Job} (hj : j ∈ js) : j.certain = true := by
  obtain ⟨_, _, _, _, e⟩ := h.emitted hj
  exact e.certain

/-- nobody gets two jobs: a left individual is walked past once, and the pointer of a right
    individual is sent when a later job looks at it; a node id names one individual of `R` -/
theorem apart {R : List Person} (h : Pass P as s js s') (hP : ∀ a b t, P a b t → b ∈ R)
    (hL : (as.map (·.id)).Nodup) (hR : (R.map (·.id)).Nodup) : Apart js := by
  refine apart_iff_pairwise.mpr ?_
  induction h with
  | nil => exact .nil
  | skip _ ih => exact ih (List.nodup_cons.mp hL).2
  | @take a b as s s' js w hPab _ hrest ih =>
    rw [List.map_cons, List.nodup_cons] at hL
    refine List.pairwise_cons.mpr ⟨fun j hj => ?_, ih hL.2⟩
    obtain ⟨a', ha', b', t, e⟩ := hrest.emitted hj
    refine ⟨fun h => hL.1 (List.mem_map.mpr ⟨a', ha', (h.trans e.l).symm⟩), fun h => ?_⟩
    have : b' = b := inj_of_nodup_map (·.id) hR (hP _ _ _ e.offer) (hP _ _ _ hPab) (by rw [← e.r, ← h])
    exact e.unsentB (this ▸ List.mem_cons_self)

/-- two passes in a row over the same list pair nobody twice when the second offers nobody whose
    pointer is sent: what the first pass paired is sent by then -/
theorem apart_append {Q : Person → Person → Sent → Prop} {R : List Person} {s'' : Sent}
    {js' : List Job} (h : Pass P as s js s') (h' : Pass Q as s' js' s'')
    (hP : ∀ a b t, P a b t → b ∈ R) (hQ : ∀ a b t, Q a b t → b ∈ R ∧ a.ptr ∉ t.a)
    (hL : (as.map (·.id)).Nodup) (hR : (R.map (·.id)).Nodup) : Apart (js ++ js') := by
  refine apart_iff_pairwise.mpr (List.pairwise_append.mpr
    ⟨apart_iff_pairwise.mp (h.apart hP hL hR),
      apart_iff_pairwise.mp (h'.apart (fun a b t hq => (hQ a b t hq).1) hL hR), fun j hj j' hj' => ?_⟩)
  obtain ⟨a, ha, b, _, e⟩ := h.emitted hj
  obtain ⟨a', ha', b', _, e'⟩ := h'.emitted hj'
  refine ⟨fun hl => ?_, fun hr => ?_⟩
  · have : a = a' := inj_of_nodup_map (·.id) hL ha ha' (by rw [← e.l, ← e'.l, hl])
    exact (hQ _ _ _ e'.offer).2 (e'.beforeA (this ▸ e.sentA))
  · have : b = b' := inj_of_nodup_map (·.id) hR (hP _ _ _ e.offer) (hQ _ _ _ e'.offer).1
      (by rw [← e.r, ← e'.r, hr])
    exact e'.unsentB (this ▸ e.sentB)

end Pass

theorem uniqueJobs_pass (ch : Person → Option Person) (as : List Person) (s : Sent) :
    Pass (fun a b _ => ch a = some b) as s (uniqueJobs ch as s).1 (uniqueJobs ch as s).2 := by
  induction as generalizing s with
  | nil => exact .nil s
  | cons a as ih =>
    rw [uniqueJobs]
    cases hb : ch a with
    | none => exact (ih s).skip
    | some b =>
      by_cases hsb : s.b.contains b.ptr = true
      · simp only [if_pos hsb]; exact (ih s).skip
      · simp only [if_neg hsb]
        exact (ih _).take 0 hb (mt List.contains_iff_mem.mpr hsb)

theorem pointerJobs_pass (R : List Person) (scoreT : Nat → Nat → Rat) (prefer : Rat)
    (as : List Person) (s : Sent) :
    Pass (fun a b t => a.ptr ∉ t.a ∧ R.find? (fun b => b.ptr == a.ptr) = some b ∧ prefer ≤ scoreT a.id b.id)
      as s (pointerJobs R scoreT prefer as s).1 (pointerJobs R scoreT prefer as s).2 := by
  induction as generalizing s with
  | nil => exact .nil s
  | cons a as ih =>
    rw [pointerJobs]
    by_cases hsa : s.a.contains a.ptr = true
    · rw [if_pos hsa]; exact (ih s).skip
    rw [if_neg hsa]
    cases hb : R.find? (fun b => b.ptr == a.ptr) with
    | none => exact (ih s).skip
    | some b =>
      by_cases hsb : s.b.contains b.ptr = true
      · simp only [if_pos hsb]; exact (ih s).skip
      by_cases hpre : prefer ≤ scoreT a.id b.id
      · simp only [if_neg hsb, if_pos hpre]
        exact (ih _).take _ ⟨mt List.contains_iff_mem.mpr hsa, hb, hpre⟩ (mt List.contains_iff_mem.mpr hsb)
      · simp only [if_neg hsb, if_neg hpre]; exact (ih s).skip

section
variable {L R : List Person} {scoreT scoreF : Nat → Nat → Rat} {prefer : Rat}

theorem of_mem_matrixJobs {s : Sent} {j : Job} (hj : j ∈ matrixJobs L R s scoreF) :
    ∃ a ∈ L, ∃ b ∈ R, j = ⟨a.id, b.id, false, scoreF a.id b.id⟩ := by
  simp only [matrixJobs, List.mem_flatMap, List.mem_map, List.mem_filter] at hj
  obtain ⟨a, ⟨ha, _⟩, b, ⟨hb, _⟩, e⟩ := hj
  exact ⟨a, ha, b, hb, e.symm⟩

theorem jobsFrom_justified {ch : Person → Option Person} (hch : Admissible R ch) {s0 : Sent} {j : Job}
    (hj : j ∈ jobsFrom ch s0 L R scoreT scoreF prefer) : Justified L R scoreT scoreF prefer j := by
  unfold jobsFrom at hj
  split at hj
  · cases hj
  · simp only [List.mem_append] at hj
    rcases hj with (hj | hj) | hj
    · obtain ⟨a, ha, b, _, e⟩ := (uniqueJobs_pass ch L s0).emitted hj
      obtain ⟨hb, hu⟩ := hch.spec e.offer
      exact ⟨a, ha, b, hb, e.l, e.r, Or.inl ⟨e.certain, Or.inl hu⟩⟩
    · obtain ⟨a, ha, b, _, e⟩ := (pointerJobs_pass R scoreT prefer L _).emitted hj
      obtain ⟨_, hb, hpre⟩ := e.offer
      have hp : (b.ptr == a.ptr) = true := List.find?_some (p := fun b : Person => b.ptr == a.ptr) hb
      exact ⟨a, ha, b, List.mem_of_find?_eq_some hb, e.l, e.r,
        Or.inl ⟨e.certain, Or.inr ⟨(eq_of_beq hp).symm, hpre⟩⟩⟩
    · obtain ⟨a, ha, b, hb, rfl⟩ := of_mem_matrixJobs hj
      exact ⟨a, ha, b, hb, rfl, rfl, Or.inr ⟨rfl, rfl⟩⟩

theorem winners_justified {minW : Rat} {arr : List Job}
    (hj : ∀ j ∈ arr, Justified L R scoreT scoreF prefer j) {r : Res} (h : r ∈ winners L R minW arr) :
    (∃ a ∈ L, ∃ b ∈ R, r = (some a.id, some b.id) ∧
      (SharesUid a b ∨ (a.ptr = b.ptr ∧ prefer ≤ scoreT a.id b.id) ∨ minW ≤ scoreF a.id b.id)) ∨
    (∃ p ∈ L, r = (some p.id, none)) ∨ (∃ p ∈ R, r = (none, some p.id)) := by
  rw [winners_eq] at h
  simp only [assemble, List.mem_append, List.mem_map] at h
  rcases h with (⟨j, hjp, rfl⟩ | ⟨p, hp, rfl⟩) | ⟨p, hp, rfl⟩
  · obtain ⟨hja, hc⟩ := pairsOf_mem hjp
    obtain ⟨a, ha, b, hb, el, er, hjust⟩ := hj j hja
    refine Or.inl ⟨a, ha, b, hb, by rw [pairOf, el, er], ?_⟩
    rcases hjust with ⟨_, h | h⟩ | ⟨hf, hs⟩
    · exact Or.inl h
    · exact Or.inr (Or.inl h)
    · -- an uncertain job is paired by the winner loop only: its score reaches the threshold
      exact Or.inr (Or.inr (hs ▸ hc.resolve_left (hf ▸ Bool.false_ne_true)))
  · exact Or.inr (Or.inl ⟨p, (List.mem_filter.mp hp).1, rfl⟩)
  · exact Or.inr (Or.inr ⟨p, (List.mem_filter.mp hp).1, rfl⟩)

end

/-- `jobsFrom_justified` at `jobs`: a fresh options value, choices in document order (`uniqueTarget`);
    `C11.jobs_justified` is the statement for every admissible choice and every history -/
theorem jobs_justified' (L R : List Person) (scoreT scoreF : Nat → Nat → Rat) (prefer : Rat) :
    ∀ j ∈ jobs L R scoreT scoreF prefer, Justified L R scoreT scoreF prefer j :=
  fun _ hj => jobsFrom_justified (uniqueTarget_admissible R) hj

theorem jobsFrom_eq (ch : Person → Option Person) (s0 : Sent) (L R : List Person)
    (scoreT scoreF : Nat → Nat → Rat) (prefer : Rat) (h : R.isEmpty = false) :
    jobsFrom ch s0 L R scoreT scoreF prefer =
      (uniqueJobs ch L s0).1 ++
      (pointerJobs R scoreT prefer L (uniqueJobs ch L s0).2).1 ++
      matrixJobs L R (pointerJobs R scoreT prefer L (uniqueJobs ch L s0).2).2 scoreF := by
  unfold jobsFrom
  simp [h]

/-- pointers need not be unique for this: a second individual with the same pointer finds it sent -/
theorem jobsOK_from {L R : List Person} (scoreT scoreF : Nat → Nat → Rat) (prefer : Rat)
    {ch : Person → Option Person} (hch : Admissible R ch) (s0 : Sent) (hids : IdsOK L R) :
    JobsOK L R (jobsFrom ch s0 L R scoreT scoreF prefer) := by
  refine ⟨fun j hj => ?_, ?_⟩
  · obtain ⟨a, ha, b, hb, el, er, _⟩ := jobsFrom_justified hch hj
    exact ⟨el ▸ List.mem_map_of_mem ha, er ▸ List.mem_map_of_mem hb⟩
  · cases hR : R.isEmpty with
    | true => simp [jobsFrom, hR]
    | false =>
      rw [jobsFrom_eq ch s0 L R scoreT scoreF prefer hR]
      have hU := uniqueJobs_pass ch L s0
      have hP := pointerJobs_pass R scoreT prefer L (uniqueJobs ch L s0).2
      -- the certain jobs are the unique-identifier jobs followed by the pointer jobs
      rw [List.filter_append, List.filter_append,
        List.filter_eq_self.mpr (fun j hj => hU.certain hj),
        List.filter_eq_self.mpr (fun j hj => hP.certain hj),
        List.filter_eq_nil_iff.mpr (fun j hj => by
          obtain ⟨_, _, _, _, rfl⟩ := of_mem_matrixJobs hj
          simp),
        List.append_nil]
      exact hU.apart_append hP (fun _ _ _ h => (hch.spec h).1)
        (fun _ _ _ h => ⟨List.mem_of_find?_eq_some h.2.1, h.1⟩) hids.left hids.right

/-- pointers unique per side -/
def PtrsOK (L R : List Person) : Prop := (L.map (·.ptr)).Nodup ∧ (R.map (·.ptr)).Nodup

instance (L R : List Person) : Decidable (PtrsOK L R) := by unfold PtrsOK; exact inferInstance

end Gedcom.Match

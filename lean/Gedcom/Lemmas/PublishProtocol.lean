/- Every step lowers `St.rank`; everything else that holds of a run is one invariant (`Inv`), kept by every step;
   `runSched_succ` ties the executable scheduler to the step relation. -/
import Gedcom.Model.PublishProtocol
import Gedcom.Lemmas.Basics
namespace Gedcom.Publish

theorem sum_set (f : Worker → Nat) {ws : List Worker} {i : Nat} {w : Worker} (h : ws[i]? = some w)
    (w' : Worker) : ((setW ws i w').map f).sum + f w = (ws.map f).sum + f w' := by
  induction ws generalizing i with
  | nil => simp at h
  | cons x xs ih =>
    cases i with
    | zero =>
      obtain rfl : x = w := by simpa using h
      simp only [setW, List.set_cons_zero, List.map_cons, List.sum_cons]
      omega
    | succ i =>
      have := ih (by simpa using h)
      simp only [setW, List.set_cons_succ, List.map_cons, List.sum_cons] at this ⊢
      omega

theorem afterFailure_rank : workerRank afterFailure ≤ 1 := by
  unfold afterFailure; split <;> simp [workerRank]

theorem step_decreases {cap : Nat} {fails : Writer} {s s' : St} (h : Step cap fails s s') :
    s'.rank < s.rank := by
  cases h with
  | produce f rest h1 h2 => simp [St.rank, h1]; omega
  | close h1 h2 => simp [St.rank, h2]
  | take i f rest h1 h2 =>
    have := sum_set workerRank h1 (.holding f)
    simp [St.rank, h2, workerRank] at this ⊢; omega
  | finish i h1 h2 h3 =>
    have := sum_set workerRank h1 .done
    simp [St.rank, workerRank] at this ⊢; omega
  | writeOk i f h1 h2 =>
    have := sum_set workerRank h1 .idle
    simp [St.rank, workerRank] at this ⊢; omega
  | writeFail i f h1 h2 =>
    have := sum_set workerRank h1 afterFailure
    have hr := afterFailure_rank
    have h2 : workerRank (Worker.holding f) = 2 := rfl
    simp only [St.rank] at this ⊢; omega

inductive StepsN (cap : Nat) (fails : Writer) : Nat → St → St → Prop
  | refl (s : St) : StepsN cap fails 0 s s
  | tail (n : Nat) (a b c : St) : StepsN cap fails n a b → Step cap fails b c → StepsN cap fails (n + 1) a c

theorem stepsN_rank {cap : Nat} {fails : Writer} {n : Nat} {a b : St} (h : StepsN cap fails n a b) :
    n + b.rank ≤ a.rank := by
  induction h with
  | refl s => simp
  | tail n a b c _ hs ih => have := step_decreases hs; omega

theorem rank_init (files : List Nat) (jobs : Nat) : (St.init files jobs).rank = 3 * files.length + jobs + 1 := by
  simp [St.init, St.rank, workerRank]
  omega

theorem Steps.invariant {cap : Nat} {fails : Writer} {P : St → Prop}
    (hstep : ∀ {s s'}, P s → Step cap fails s s' → P s') {a b : St} (ha : P a)
    (h : Steps cap fails a b) : P b := by
  induction h with
  | refl => exact ha
  | tail m c _ hs ih => exact hstep ih hs

theorem mem_enabled {cap : Nat} {fails : Writer} {s s' : St} :
    s' ∈ enabled cap fails s ↔ Step cap fails s s' := by
  constructor
  · intro h
    unfold enabled at h
    rcases List.mem_append.mp h with h | h
    · split at h
      · rename_i f rest hf
        split at h
        · rename_i hc; obtain rfl := List.mem_singleton.mp h; exact .produce s f rest hf hc
        · cases h
      · rename_i hf
        split at h
        · cases h
        · rename_i hc; obtain rfl := List.mem_singleton.mp h; exact .close s hf (by simpa using hc)
    · obtain ⟨i, _, hi⟩ := List.mem_flatMap.mp h
      split at hi
      · rename_i hw
        split at hi
        · rename_i f rest hc; obtain rfl := List.mem_singleton.mp hi; exact .take s i f rest hw hc
        · rename_i hc
          split at hi
          · rename_i hcl; obtain rfl := List.mem_singleton.mp hi; exact .finish s i hw hc hcl
          · cases hi
      · rename_i f hw
        split at hi
        · rename_i hf; obtain rfl := List.mem_singleton.mp hi; exact .writeFail s i f hw hf
        · rename_i hf; obtain rfl := List.mem_singleton.mp hi; exact .writeOk s i f hw (by simpa using hf)
      · cases hi
  · intro h
    unfold enabled
    simp only [List.mem_append, List.mem_flatMap, List.mem_range]
    cases h with
    | produce f rest h1 h2 => exact Or.inl (by simp [h1, h2])
    | close h1 h2 => exact Or.inl (by simp [h1, h2])
    | take i f rest h1 h2 => exact Or.inr ⟨i, lt_of_getElem? h1, by simp [h1, h2]⟩
    | finish i h1 h2 h3 => exact Or.inr ⟨i, lt_of_getElem? h1, by simp [h1, h2, h3]⟩
    | writeOk i f h1 h2 => exact Or.inr ⟨i, lt_of_getElem? h1, by simp [h1, h2]⟩
    | writeFail i f h1 h2 => exact Or.inr ⟨i, lt_of_getElem? h1, by simp [h1, h2]⟩

theorem steps_head {cap : Nat} {fails : Writer} {a b c : St}
    (hab : Step cap fails a b) (hbc : Steps cap fails b c) : Steps cap fails a c := by
  induction hbc with
  | refl => exact .tail a a _ (.refl a) hab
  | tail m c' _ hmc ih' => exact .tail a m c' ih' hmc

theorem runSched_succ (cap : Nat) (fails : Writer) (fuel : Nat) (sched : List Nat) (s : St) :
    (runSched cap fails (fuel + 1) sched s = s ∧ (s.returned ∨ ∀ t, ¬ Step cap fails s t))
    ∨ ∃ t, Step cap fails s t
        ∧ runSched cap fails (fuel + 1) sched s = runSched cap fails fuel (sched.drop 1) t := by
  rw [runSched]
  split
  · rename_i hr; exact .inl ⟨rfl, .inl (by simpa [St.returned] using hr)⟩
  · split
    · rename_i he
      exact .inl ⟨rfl, .inr fun t ht => by simpa [he] using mem_enabled.mpr ht⟩
    · rename_i e es he
      have hstep : ∀ pick, Step cap fails s ((e :: es).getD pick e) :=
        fun pick => mem_enabled.mp (he ▸ getD_mem_cons e es pick)
      cases sched with
      | nil => exact .inr ⟨_, hstep 0, rfl⟩
      | cons p ps => exact .inr ⟨_, hstep (p % (es.length + 1)), rfl⟩

theorem runSched_returns (cap : Nat) (fails : Writer) (fuel : Nat) (sched : List Nat) (s : St)
    (hf : s.rank < fuel) (nd : ∀ t, ¬ t.returned → ∃ t', Step cap fails t t') :
    (runSched cap fails fuel sched s).returned := by
  induction fuel generalizing sched s with
  | zero => omega
  | succ fuel ih =>
    rcases runSched_succ cap fails fuel sched s with ⟨e, hr | hn⟩ | ⟨t, ht, e⟩
    · rw [e]; exact hr
    · rw [e]; exact Classical.byContradiction fun hr => (nd s hr).elim hn
    · rw [e]; exact ih _ _ (by have := step_decreases ht; omega)

theorem held_cons (w : Worker) (ws : List Worker) : held (w :: ws) = held [w] ++ held ws := by
  cases w <;> rfl

theorem held_replicate_idle (j : Nat) : held (List.replicate j Worker.idle) = [] := by
  induction j with
  | zero => rfl
  | succ j ih => simp [List.replicate_succ, held, ih]

theorem afterFailure_held : held [afterFailure] = [] := by
  unfold afterFailure; split <;> rfl

theorem count_held (a : Nat) (ws : List Worker) :
    (held ws).count a = (ws.map fun w => (held [w]).count a).sum := by
  induction ws with
  | nil => rfl
  | cons w ws ih => rw [held_cons, List.count_append, ih]; rfl

theorem held_nil_of_done (ws : List Worker) (h : ∀ w ∈ ws, w = Worker.done ∨ w = Worker.failed) :
    held ws = [] := by
  induction ws with
  | nil => rfl
  | cons x xs ih =>
    have hx := h x (by simp)
    have := ih (fun w hw => h w (by simp [hw]))
    rcases hx with hx | hx <;> subst hx <;> simpa [held] using this

/-- closing happens only after everything was sent -/
def ClosedInv (s : St) : Prop := s.closed = true → s.todo = []

theorem closedInv_step {cap : Nat} {fails : Writer} {s s' : St}
    (hc : ClosedInv s) (h : Step cap fails s s') : ClosedInv s' := by
  unfold ClosedInv at hc ⊢
  cases h with
  | produce f rest h1 h2 => intro hcl; have := hc hcl; simp [h1] at this
  | close h1 h2 => intro _; exact h1
  | take i f rest h1 h2 => exact hc
  | finish i h1 h2 h3 => exact hc
  | writeOk i f h1 h2 => exact hc
  | writeFail i f h1 h2 => exact hc

theorem closedInv_steps {cap : Nat} {fails : Writer} {a b : St}
    (hc : ClosedInv a) (h : Steps cap fails a b) : ClosedInv b :=
  Steps.invariant closedInv_step hc h

theorem afterFailure_ne_done : afterFailure ≠ Worker.done := by
  unfold afterFailure; split <;> simp

theorem records_error : Generated.publishRecordsError = true := by decide

/-- what holds in every state reachable from `St.init files jobs` under the writer `fails`.
    `conserved`: every file is at exactly one place; `done`: the channel never refills -/
structure Inv (files : List Nat) (jobs : Nat) (fails : Writer) (s : St) : Prop where
  conserved : files.Perm (s.log.map (·.1) ++ held s.workers ++ s.chan ++ s.todo)
  closed : ClosedInv s
  done : Worker.done ∈ s.workers → s.closed = true ∧ s.chan = []
  err : s.err.isSome = true ↔ ∃ e ∈ s.log, e.2 = false
  failed : (Worker.failed ∈ s.workers ∨ ∃ e ∈ s.log, e.2 = false) → ∃ n, fails n = true
  jobs : s.workers.length = jobs

theorem Inv.init (files : List Nat) (jobs : Nat) (fails : Writer) :
    Inv files jobs fails (St.init files jobs) where
  conserved := by simp [St.init, held_replicate_idle]
  closed := fun h => by cases h
  done := fun h => by cases List.eq_of_mem_replicate h
  err := by simp [St.init]
  failed := fun h => by
    rcases h with h | ⟨e, he, _⟩
    · cases List.eq_of_mem_replicate h
    · cases he
  jobs := by simp [St.init]

theorem Inv.step {files : List Nat} {jobs cap : Nat} {fails : Writer} {s s' : St}
    (inv : Inv files jobs fails s) (h : Step cap fails s s') : Inv files jobs fails s' := by
  -- counted file by file: a step moves one file from one place to the next, or none
  have count := List.perm_iff_count.mp inv.conserved
  -- a worker that goes from `w` to `w'` takes its file along
  have moved : ∀ a {i w} w', s.workers[i]? = some w →
      (held (setW s.workers i w')).count a + (held [w]).count a
        = (held s.workers).count a + (held [w']).count a :=
    fun a _ _ w' hw => by
      have := sum_set (fun w => (held [w]).count a) hw w'
      rwa [← count_held, ← count_held] at this
  have old : ∀ {x w' : Worker} {i : Nat}, x ≠ w' → x ∈ setW s.workers i w' → x ∈ s.workers :=
    fun hne hx => (List.mem_or_eq_of_mem_set hx).resolve_right hne
  have len : ∀ {i : Nat} {w' : Worker}, (setW s.workers i w').length = jobs :=
    (List.length_set ..).trans inv.jobs
  have closed := closedInv_step inv.closed h
  cases h with
  | produce f rest h1 h2 =>
    have opn : s.closed ≠ true := fun hcl => by simpa [h1] using inv.closed hcl
    exact { inv with
      conserved := List.perm_iff_count.mpr fun a => by
        have := count a
        simp only [h1, List.count_append, List.count_cons, List.count_nil] at this ⊢
        omega
      closed := closed
      done := fun hd => absurd (inv.done hd).1 opn }
  | close h1 h2 =>
    exact { inv with
      closed := closed
      done := fun hd => by simpa [h2] using (inv.done hd).1 }
  | take i f rest h1 h2 =>
    exact { inv with
      conserved := List.perm_iff_count.mpr fun a => by
        have c := count a
        have m := moved a (.holding f) h1
        simp only [h2, held, List.count_append, List.count_cons, List.count_nil] at c m ⊢
        omega
      done := fun hd => by simpa [h2] using (inv.done (old (by simp) hd)).2
      failed := fun hf => inv.failed (hf.imp_left (old (by simp)))
      jobs := len }
  | finish i h1 h2 h3 =>
    exact { inv with
      conserved := List.perm_iff_count.mpr fun a => by
        have c := count a
        have m := moved a .done h1
        simp only [held, List.count_append, List.count_nil] at c m ⊢
        omega
      done := fun _ => ⟨h3, h2⟩
      failed := fun hf => inv.failed (hf.imp_left (old (by simp)))
      jobs := len }
  | writeOk i f h1 h2 =>
    have log : (∃ e ∈ s.log ++ [(f, true)], e.2 = false) ↔ ∃ e ∈ s.log, e.2 = false := by simp
    exact { inv with
      conserved := List.perm_iff_count.mpr fun a => by
        have c := count a
        have m := moved a .idle h1
        simp only [held, List.map_append, List.map_cons, List.map_nil, List.count_append, List.count_cons,
          List.count_nil] at c m ⊢
        omega
      done := fun hd => inv.done (old (by simp) hd)
      err := inv.err.trans log.symm
      failed := fun hf => inv.failed (hf.imp (old (by simp)) log.mp)
      jobs := len }
  | writeFail i f h1 h2 =>
    exact { inv with
      conserved := List.perm_iff_count.mpr fun a => by
        have c := count a
        have m := moved a afterFailure h1
        simp only [held, afterFailure_held, List.map_append, List.map_cons, List.map_nil, List.count_append,
          List.count_cons, List.count_nil] at c m ⊢
        omega
      done := fun hd => inv.done (old (Ne.symm afterFailure_ne_done) hd)
      err := by simp [records_error]
      failed := fun _ => ⟨_, h2⟩
      jobs := len }

theorem Inv.of_steps {files : List Nat} {jobs cap : Nat} {fails : Writer} {s : St}
    (h : Steps cap fails (St.init files jobs) s) : Inv files jobs fails s :=
  Steps.invariant Inv.step (Inv.init files jobs fails) h

end Gedcom.Publish

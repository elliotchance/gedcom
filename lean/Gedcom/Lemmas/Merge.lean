/-
  The loops of the merge model (Gedcom/Model/Merge.lean), each with its invariant rule
  (`firstMerge_none` / `_some`, `pass_inv`, `mergeLoop_inv`; `foldRight_inv` for the child loop of
  MergeNodes), and what MergeNodeSlices returns (`mergeNodeSlicesP_made`).  A property of the slice
  level is a reading of that theorem; a property of the node MergeNodes returns goes up the nesting
  by `mergeNodesF_rule`, through a contract of the merge function (`FreshFn`, Lemmas/MergeFresh).
  Guarantees 1–5 are those of `MergeNodeSlices`' doc comment in merge.go: as long as the longer
  input, no longer than both, deep copies only, merged at most once, only left with right.
-/
import Gedcom.Model.Merge
import Gedcom.Lemmas.Ident
import Gedcom.Lemmas.Equal
namespace Gedcom

/-! ## the innermost loop: `for j, node2 := range right` -/

/-- Invariant rule for the innermost loop, for a predicate `P` on states that every declined call
    keeps: when every node of `right` is declined, `P` holds at the end … -/
theorem firstMerge_none {f : MergeFn} {node : INode} {P : MSt → Prop} {right : List (Nat × INode)}
    {st st' : MSt} (hP : ∀ j r s s', (j, r) ∈ right → f node r s = (none, s') → P s → P s')
    (h0 : P st) (h : firstMerge f node right st = (none, st')) :
    P st' ∧ ∀ y ∈ right, ∃ s1 s2, f node y.2 s1 = (none, s2) := by
  fun_induction firstMerge f node right st with
  | case1 st => cases h; exact ⟨h0, fun y hy => nomatch hy⟩
  | case2 j r rs st m s1 hf => cases h
  | case3 j r rs st s1 hf m j' rs' s2 hrec ih => cases h
  | case4 j r rs st s1 hf s2 hrec ih =>
    cases h
    have := ih (fun j' r' s s' hm => hP j' r' s s' (List.mem_cons_of_mem _ hm))
      (hP j r st s1 List.mem_cons_self hf h0) hrec
    exact ⟨this.1, fun y hy => (List.mem_cons.mp hy).elim (fun e => e ▸ ⟨st, s1, hf⟩) (this.2 y)⟩

/-- … and otherwise at the call that merged: `right` splits around the node used -/
theorem firstMerge_some {f : MergeFn} {node : INode} {P : MSt → Prop} {right : List (Nat × INode)}
    {st st' : MSt} {m : INode} {j : Nat} {right' : List (Nat × INode)}
    (hP : ∀ j r s s', (j, r) ∈ right → f node r s = (none, s') → P s → P s') (h0 : P st)
    (h : firstMerge f node right st = (some (m, j, right'), st')) :
    ∃ rpre r rpost s1, right = rpre ++ (j, r) :: rpost ∧ right' = rpre ++ rpost ∧
      P s1 ∧ f node r s1 = (some m, st') := by
  fun_induction firstMerge f node right st generalizing right' with
  | case1 st => cases h
  | case2 j0 r0 rs st m0 s1 hf => cases h; exact ⟨[], r0, rs, st, rfl, rfl, h0, hf⟩
  | case3 j0 r0 rs st s1 hf m1 j1 rs1 s2 hrec ih =>
    cases h
    obtain ⟨rpre, r, rpost, s3, h1, h2, h3, h4⟩ :=
      ih (fun j' r' s s' hm => hP j' r' s s' (List.mem_cons_of_mem _ hm))
        (hP j0 r0 st s1 List.mem_cons_self hf h0) hrec
    exact ⟨(j0, r0) :: rpre, r, rpost, s3, by rw [h1]; rfl, by rw [h2]; rfl, h3, h4⟩
  | case4 j r rs st s1 hf s2 hrec ih => cases h

/-! ## one sweep: `for i := 0; i < len(newSlice); i++` -/

/-- A predicate over (whole slice, right, alreadyMerged, state) survives the two things a sweep
    does: a declined call of the merge function on an unmarked element and a right node, and a
    merge (remove the element, append the merged node, drop the right node used, mark the merged
    node). -/
structure SweepInv (f : MergeFn)
    (Inv : List Elem → List (Nat × INode) → List Nat → MSt → Prop) : Prop where
  declined : ∀ sl rt mg e, e ∈ sl → mg.contains e.node.id = false → ∀ j r s s', (j, r) ∈ rt →
    f e.node r s = (none, s') → Inv sl rt mg s → Inv sl rt mg s'
  merged : ∀ pre e post rpre j r rpost mg s m s', mg.contains e.node.id = false →
    f e.node r s = (some m, s') →
    Inv (pre ++ e :: post) (rpre ++ (j, r) :: rpost) mg s →
    Inv (pre ++ post ++ [⟨e.prov ++ [.R j], m⟩]) (rpre ++ rpost) (m.id :: mg) s'

theorem pass_inv {f : MergeFn} {Inv : List Elem → List (Nat × INode) → List Nat → MSt → Prop}
    (hS : SweepInv f Inv)
    (done todo : List Elem) (right : List (Nat × INode)) (merged : List Nat) (st : MSt)
    (found : Bool) (h : Inv (done ++ todo) right merged st) :
    Inv (pass f done todo right merged st found).slice (pass f done todo right merged st found).right
      (pass f done todo right merged st found).merged (pass f done todo right merged st found).st := by
  fun_induction pass f done todo right merged st found with
  | case1 done right merged st found => rwa [List.append_nil] at h
  | case2 done right merged st found e rest hc ih => exact ih (by rwa [List.append_assoc])
  | case3 done right merged st found e rest hc st' hfm ih =>
    have := (firstMerge_none (hS.declined _ right merged e List.mem_append_cons_self
      ((Bool.not_eq_true _).mp hc)) h hfm).1
    exact ih (by rwa [List.append_assoc])
  | case4 done right merged st found e hc m j right' st' hfm =>
    obtain ⟨rpre, r, rpost, s1, rfl, rfl, hI, h4⟩ := firstMerge_some
      (hS.declined _ right merged e List.mem_append_cons_self ((Bool.not_eq_true _).mp hc)) h hfm
    have := hS.merged done e [] rpre j r rpost merged s1 m st' ((Bool.not_eq_true _).mp hc) h4 hI
    rwa [List.append_nil] at this
  | case5 done right merged st found e hc m j right' st' hfm me x xs ih =>
    have hc' : merged.contains e.node.id = false := (Bool.not_eq_true _).mp hc
    obtain ⟨rpre, r, rpost, s1, rfl, rfl, hI, h4⟩ := firstMerge_some
      (hS.declined _ right merged e List.mem_append_cons_self hc') h hfm
    have := hS.merged done e (x :: xs) rpre j r rpost merged s1 m st' hc' h4 hI
    exact ih (by rw [List.append_assoc] at this ⊢; exact this)

theorem firstMerge_length {f : MergeFn} {node : INode} {right : List (Nat × INode)} {st st' : MSt}
    {m : INode} {j : Nat} {right' : List (Nat × INode)}
    (h : firstMerge f node right st = (some (m, j, right'), st')) :
    right'.length + 1 = right.length := by
  obtain ⟨rpre, r, rpost, _, rfl, rfl, _, _⟩ :=
    firstMerge_some (P := fun _ => True) (fun _ _ _ _ _ _ _ => trivial) trivial h
  simp only [List.length_append, List.length_cons]; omega

theorem pass_found_iff (f : MergeFn) (done todo : List Elem) (right : List (Nat × INode))
    (merged : List Nat) (st : MSt) (found : Bool) :
    (pass f done todo right merged st found).right.length ≤ right.length ∧
    ((pass f done todo right merged st found).found = true ↔
      found = true ∨ (pass f done todo right merged st found).right.length < right.length) := by
  fun_induction pass f done todo right merged st found with
  | case1 done right merged st found =>
    exact ⟨Nat.le_refl _, Or.inl, fun h => h.elim id (fun h => absurd h (Nat.lt_irrefl _))⟩
  | case2 done right merged st found e rest hc ih => exact ih
  | case3 done right merged st found e rest hc st' hfm ih => exact ih
  | case4 done right merged st found e hc m j right' st' hfm =>
    have := firstMerge_length hfm
    exact ⟨by simp only; omega, by simp only [true_iff]; right; omega⟩
  | case5 done right merged st found e hc m j right' st' hfm me x xs ih =>
    have := firstMerge_length hfm
    exact ⟨by omega, ⟨fun _ => Or.inr (by omega), fun _ => ih.2.mpr (Or.inl rfl)⟩⟩

/-- TERMINATION of `for len(right) > 0`: a sweep that reports a merge has shortened `right` -/
theorem pass_found_lt (f : MergeFn) (slice : List Elem) (right : List (Nat × INode))
    (merged : List Nat) (st : MSt) (h : (pass f [] slice right merged st false).found = true) :
    (pass f [] slice right merged st false).right.length < right.length :=
  ((pass_found_iff f [] slice right merged st false).2.mp h).resolve_left (by simp)

theorem pass_notfound (f : MergeFn) (done todo : List Elem) (right : List (Nat × INode))
    (merged : List Nat) (st : MSt) (found : Bool) :
    (pass f done todo right merged st found).found = false →
    (pass f done todo right merged st found).slice = done ++ todo ∧
    (pass f done todo right merged st found).right = right ∧
    (pass f done todo right merged st found).merged = merged ∧
    ∀ e ∈ todo, merged.contains e.node.id = false →
      ∀ y ∈ right, ∃ s1 s2, f e.node y.2 s1 = (none, s2) := by
  fun_induction pass f done todo right merged st found with
  | case1 done right merged st found =>
    exact fun _ => ⟨(List.append_nil _).symm, rfl, rfl, fun e he => nomatch he⟩
  | case2 done right merged st found e rest hc ih =>
    intro h
    obtain ⟨h1, h2, h3, h4⟩ := ih h
    refine ⟨by rw [h1, List.append_assoc]; rfl, h2, h3, ?_⟩
    intro e' he' hc'
    rcases List.mem_cons.mp he' with rfl | he'
    · rw [hc] at hc'; cases hc'
    · exact h4 e' he' hc'
  | case3 done right merged st found e rest hc st' hfm ih =>
    intro h
    obtain ⟨h1, h2, h3, h4⟩ := ih h
    refine ⟨by rw [h1, List.append_assoc]; rfl, h2, h3, ?_⟩
    intro e' he' hc'
    rcases List.mem_cons.mp he' with rfl | he'
    · exact (firstMerge_none (P := fun _ => True) (fun _ _ _ _ _ _ _ => trivial) trivial hfm).2
    · exact h4 e' he' hc'
  | case4 done right merged st found e hc m j right' st' hfm => intro h; cases h
  | case5 done right merged st found e hc m j right' st' hfm me x xs ih =>
    intro h
    rw [(pass_found_iff f _ _ _ _ _ true).2.mpr (Or.inl rfl)] at h
    cases h

/-! ## the outer loop: `for len(right) > 0` -/

/-- Invariant rule for the whole loop: besides the two steps of a sweep, the invariant must survive
    appending (a copy of) the first right node when a sweep merged nothing — in which case every
    element not yet merged has been declined against every right node (`pass_notfound`).  The dead
    `else` branch of `mergeLoop` is discharged by `pass_found_lt`. -/
theorem mergeLoop_inv (fl : MergeFlags) {f : MergeFn}
    {Inv : List Elem → List (Nat × INode) → List Nat → MSt → Prop} (hS : SweepInv f Inv)
    (hadd : ∀ sl j0 r0 rtail mg s,
      (∀ e ∈ sl, mg.contains e.node.id = false →
        ∀ y ∈ (j0, r0) :: rtail, ∃ s1 s2, f e.node y.2 s1 = (none, s2)) →
      Inv sl ((j0, r0) :: rtail) mg s →
      Inv (sl ++ [⟨[.R j0], (copyIf fl.sliceCopyRight r0 s).1⟩]) rtail
        ((copyIf fl.sliceCopyRight r0 s).1.id :: mg) (copyIf fl.sliceCopyRight r0 s).2)
    (slice : List Elem) (right : List (Nat × INode)) (merged : List Nat) (st : MSt)
    (h : Inv slice right merged st) :
    ∃ mg, Inv (mergeLoop fl f slice right merged st).1 [] mg (mergeLoop fl f slice right merged st).2 := by
  fun_induction mergeLoop fl f slice right merged st with
  | case1 slice merged st => exact ⟨merged, h⟩
  | case2 slice merged st j0 r0 rtail p hfound hlt ih =>
    exact ih (pass_inv hS [] slice _ merged st false h)
  | case3 slice merged st j0 r0 rtail p hfound hnlt =>
    exact absurd (pass_found_lt f slice _ merged st hfound) hnlt
  | case4 slice merged st j0 r0 rtail p hnf c ih =>
    have hp := pass_inv hS [] slice _ merged st false h
    obtain ⟨h1, h2, h3, h4⟩ := pass_notfound f [] slice ((j0, r0) :: rtail) merged st false
      ((Bool.not_eq_true _).mp hnf)
    rw [h1, h2, h3] at hp
    apply ih
    show Inv (p.slice ++ _) rtail (_ :: p.merged) _
    rw [show p.slice = slice from h1, show p.merged = merged from h3]
    exact hadd _ _ _ _ _ _ h4 hp

/-! ## what MergeNodeSlices returns -/

theorem indexed_eq {α : Type} (l : List α) (k : Nat) :
    indexed l k = (List.range' k l.length).zip l := by
  induction l generalizing k with
  | nil => rfl
  | cons x xs ih => simp [indexed, ih, List.range'_succ]

theorem indexed_length {α : Type} (l : List α) (k : Nat) : (indexed l k).length = l.length := by
  rw [indexed_eq]; simp

theorem indexed_map_fst {α : Type} (l : List α) (k : Nat) :
    (indexed l k).map (·.1) = List.range' k l.length := by
  rw [indexed_eq]; exact List.map_fst_zip (by simp)

theorem indexed_map_snd {α : Type} (l : List α) (k : Nat) : (indexed l k).map (·.2) = l := by
  rw [indexed_eq]; exact List.map_snd_zip (by simp)

theorem indexed_get {α : Type} {l : List α} : ∀ x ∈ indexed l, l[x.1]? = some x.2 := by
  intro x hx
  rw [indexed_eq] at hx
  obtain ⟨i, hi, rfl⟩ := List.getElem_of_mem hx
  simp at hi ⊢

theorem copyLeft_length (fl : MergeFlags) (l : List (Nat × INode)) (st : MSt) :
    (copyLeft fl l st).1.length = l.length := by
  induction l generalizing st with
  | nil => rfl
  | cons x xs ih => obtain ⟨i, n⟩ := x; simp [copyLeft, ih]

theorem copyIf_erase (b : Bool) (n : INode) (st : MSt) : (copyIf b n st).1.erase = n.erase := by
  unfold copyIf
  split
  · simp [copyM, copyTree_erase]
  · rfl

theorem copyLeft_erase (fl : MergeFlags) (l : List (Nat × INode)) (st : MSt) :
    (copyLeft fl l st).1.map (·.node.erase) = l.map (·.2.erase) := by
  induction l generalizing st with
  | nil => rfl
  | cons x xs ih => obtain ⟨i, n⟩ := x; simp [copyLeft, ih, copyIf_erase]

theorem indexed_map_erase (l : List INode) (k : Nat) :
    (indexed l k).map (·.2.erase) = l.map INode.erase :=
  calc (indexed l k).map (·.2.erase)
      = ((indexed l k).map (·.2)).map INode.erase := (List.map_map ..).symm
    _ = l.map INode.erase := by rw [indexed_map_snd]

def Src.get (l r : List INode) : Src → Option INode
  | .L i => l[i]?
  | .R j => r[j]?

def Src.flag (fl : MergeFlags) : Src → Bool
  | .L _ => fl.sliceCopyLeft
  | .R _ => fl.sliceCopyRight

theorem Src.mem_iff {l r : List INode} {x : INode} : x ∈ l ++ r ↔ ∃ p : Src, p.get l r = some x := by
  constructor
  · intro hx
    rcases List.mem_append.mp hx with hx | hx
    · obtain ⟨i, hi, rfl⟩ := List.getElem_of_mem hx
      exact ⟨.L i, List.getElem?_eq_getElem hi⟩
    · obtain ⟨j, hj, rfl⟩ := List.getElem_of_mem hx
      exact ⟨.R j, List.getElem?_eq_getElem hj⟩
  · rintro ⟨p, h⟩
    cases p with
    | L i => exact List.mem_append_left _ (List.mem_of_getElem? h)
    | R j => exact List.mem_append_right _ (List.mem_of_getElem? h)

/-- `R` is an order on states along which a call of MergeNodeSlices on `l`, `r` moves: it is
    respected by every copy and by the merge function on (a copy of) a left node and a right node
    — the loop applies it to nothing else.  The reader chooses `R`:
    `fun _ _ => True` when only values matter, `Ext` for object identity, equality of `oof` for the
    nesting budget. -/
structure Follows (R : MSt → MSt → Prop) (fl : MergeFlags) (f : MergeFn) (l r : List INode) :
    Prop where
  refl : ∀ s, R s s
  trans : ∀ a b c, R a b → R b c → R a c
  copy : ∀ (p : Src) a s, R s (copyIf (p.flag fl) a s).2
  call : ∀ y a b s, a ∈ l → b ∈ r → y.erase = a.erase → R s (f y b s).2

theorem Follows.any (fl : MergeFlags) (f : MergeFn) (l r : List INode) :
    Follows (fun _ _ => True) fl f l r :=
  ⟨fun _ => trivial, fun _ _ _ _ _ => trivial, fun _ _ _ => trivial,
    fun _ _ _ _ _ _ _ => trivial⟩

/-- what an element of the merged slice is: a copy of the node at the one position of its
    provenance, or what the merge function returned for a copy of the left node and the right node
    at its two positions; made at a state between `st` and `fin` -/
inductive Made (R : MSt → MSt → Prop) (fl : MergeFlags) (f : MergeFn) (l r : List INode)
    (st fin : MSt) : Elem → Prop
  | copy {p : Src} {a : INode} {s : MSt} : p.get l r = some a → R st s →
      R (copyIf (p.flag fl) a s).2 fin → Made R fl f l r st fin ⟨[p], (copyIf (p.flag fl) a s).1⟩
  | merged {i j : Nat} {a b y n : INode} {s s' : MSt} : l[i]? = some a → r[j]? = some b →
      y.erase = a.erase → R st s → f y b s = (some n, s') → R s' fin →
      Made R fl f l r st fin ⟨[.L i, .R j], n⟩

theorem Made.later {R : MSt → MSt → Prop} {fl : MergeFlags} {f : MergeFn} {l r : List INode}
    {st fin fin' : MSt} {e : Elem} (htrans : ∀ a b c, R a b → R b c → R a c)
    (h : Made R fl f l r st fin e) (hfin : R fin fin') : Made R fl f l r st fin' e := by
  cases h with
  | copy hp h1 h2 => exact .copy hp h1 (htrans _ _ _ h2 hfin)
  | merged ha hb hy h1 hf h2 => exact .merged ha hb hy h1 hf (htrans _ _ _ h2 hfin)

section
variable {R : MSt → MSt → Prop} {fl : MergeFlags} {f : MergeFn} {l0 r0 : List INode} {st0 : MSt}
  (hR : Follows R fl f l0 r0)
include hR

theorem copyLeft_made :
    ∀ (l : List (Nat × INode)) (st : MSt), (∀ x ∈ l, l0[x.1]? = some x.2) → R st0 st →
      R st (copyLeft fl l st).2 ∧
      (copyLeft fl l st).1.flatMap (·.prov) = (l.map (·.1)).map Src.L ∧
      ∀ e ∈ (copyLeft fl l st).1,
        (∃ i, e.prov = [.L i]) ∧ Made R fl f l0 r0 st0 (copyLeft fl l st).2 e := by
  intro l
  induction l with
  | nil => intro st _ _; exact ⟨hR.refl _, rfl, fun e he => nomatch he⟩
  | cons x xs ih =>
    intro st hl hst
    obtain ⟨i, n⟩ := x
    have hn : l0[i]? = some n := hl (i, n) List.mem_cons_self
    have hcs : R st (copyIf fl.sliceCopyLeft n st).2 := hR.copy (.L i) n st
    have := ih (copyIf fl.sliceCopyLeft n st).2 (fun y hy => hl y (List.mem_cons_of_mem _ hy))
      (hR.trans _ _ _ hst hcs)
    simp only [copyLeft, List.flatMap_cons, List.map_cons, List.mem_cons]
    refine ⟨hR.trans _ _ _ hcs this.1, by rw [this.2.1]; rfl, fun e he => ?_⟩
    rcases he with rfl | he
    · exact ⟨⟨i, rfl⟩, .copy (p := .L i) hn hst this.1⟩
    · exact this.2.2 e he

theorem mergeLoop_made (slice : List Elem) (right : List (Nat × INode)) (st : MSt)
    (hst : R st0 st) (hs : ∀ e ∈ slice, (∃ i, e.prov = [.L i]) ∧ Made R fl f l0 r0 st0 st e)
    (hr : ∀ x ∈ right, r0[x.1]? = some x.2) :
    R st0 (mergeLoop fl f slice right [] st).2 ∧
    ((mergeLoop fl f slice right [] st).1.flatMap (·.prov)).Perm
      (slice.flatMap (·.prov) ++ (right.map (·.1)).map Src.R) ∧
    ∀ e ∈ (mergeLoop fl f slice right [] st).1,
      Made R fl f l0 r0 st0 (mergeLoop fl f slice right [] st).2 e := by
  -- an element that is not in `alreadyMerged` is a copy of a left node: the merge function is
  -- applied to nothing else
  let OK : List Nat → MSt → Elem → Prop := fun mg s e =>
    (mg.contains e.node.id = false → ∃ i, e.prov = [.L i]) ∧ Made R fl f l0 r0 st0 s e
  let Inv : List Elem → List (Nat × INode) → List Nat → MSt → Prop := fun sl rt mg s =>
    R st0 s ∧
    (sl.flatMap (·.prov) ++ (rt.map (·.1)).map Src.R).Perm
      (slice.flatMap (·.prov) ++ (right.map (·.1)).map Src.R) ∧
    (∀ e ∈ sl, OK mg s e) ∧ (∀ x ∈ rt, r0[x.1]? = some x.2)
  have later : ∀ (mg : List Nat) (s s' : MSt) (e : Elem), R s s' → OK mg s e → OK mg s' e :=
    fun mg s s' e hss h => ⟨h.1, h.2.later hR.trans hss⟩
  have marked : ∀ (mg : List Nat) (x : Nat) (s : MSt) (e : Elem), OK mg s e → OK (x :: mg) s e :=
    fun mg x s e h => ⟨fun hc => h.1 (by
      rw [List.contains_cons, Bool.or_eq_false_iff] at hc; exact hc.2), h.2⟩
  have unmerged : ∀ (mg : List Nat) (s : MSt) (e : Elem), OK mg s e →
      mg.contains e.node.id = false →
      ∃ i a, e.prov = [.L i] ∧ l0[i]? = some a ∧ e.node.erase = a.erase := by
    intro mg s e ⟨hmk, hm⟩ hcn
    obtain ⟨i, hi⟩ := hmk hcn
    cases hm with
    | @copy p a s1 hp _ _ =>
      cases List.singleton_inj.mp hi
      exact ⟨i, a, rfl, hp, copyIf_erase _ _ _⟩
    | merged => simp at hi
  have h := mergeLoop_inv fl (f := f) (Inv := Inv)
    ⟨by
      intro sl rt mg e he hcn j b s s' hb hfe ⟨h0, h1, h2, h3⟩
      obtain ⟨i, a, _, ha, hea⟩ := unmerged mg s e (h2 e he) hcn
      have hss := hR.call e.node a b s (List.mem_of_getElem? ha)
        (List.mem_of_getElem? (h3 (j, b) hb)) hea
      rw [hfe] at hss
      exact ⟨hR.trans _ _ _ h0 hss, h1, fun e' he' => later mg s s' e' hss (h2 e' he'), h3⟩,
     by
      intro pre e post rpre j b rpost mg s m s' hcn hfe ⟨h0, h1, h2, h3⟩
      obtain ⟨i, a, hi, ha, hea⟩ := unmerged mg s e (h2 e List.mem_append_cons_self) hcn
      have hb := h3 (j, b) List.mem_append_cons_self
      have hss := hR.call e.node a b s (List.mem_of_getElem? ha) (List.mem_of_getElem? hb) hea
      rw [hfe] at hss
      refine ⟨hR.trans _ _ _ h0 hss, ?_, fun e' he' => ?_, fun x hx => h3 x (mem_removed hx)⟩
      · -- `e.prov` and `R j` move into the new last element, nothing else changes
        refine List.Perm.trans ?_ h1
        rw [List.perm_iff_count]
        intro a
        simp only [List.flatMap_append, List.flatMap_cons, List.flatMap_nil, List.map_append,
          List.map_cons, List.count_append, List.count_cons, List.count_nil, List.append_nil]
        omega
      · rcases mem_merged (e := e) he' with he' | rfl
        · exact marked mg m.id s' e' (later mg s s' e' hss (h2 e' he'))
        · exact ⟨fun h => by simp at h, by rw [hi]; exact .merged ha hb hea h0 hfe (hR.refl s')⟩⟩
    (by
      intro sl j0 b rtail mg s _ ⟨h0, h1, h2, h3⟩
      have hb := h3 (j0, b) List.mem_cons_self
      have hss : R s (copyIf fl.sliceCopyRight b s).2 := hR.copy (.R j0) b s
      refine ⟨hR.trans _ _ _ h0 hss, ?_, fun e' he' => ?_,
        fun x hx => h3 x (List.mem_cons_of_mem _ hx)⟩
      · simpa [List.flatMap_append] using h1
      · rcases mem_added he' with he' | rfl
        · exact marked mg _ _ e' (later mg s _ e' hss (h2 e' he'))
        · exact ⟨fun h => by simp at h, .copy (p := .R j0) hb h0 (hR.refl _)⟩)
    slice right [] st
    ⟨hst, List.Perm.refl _, fun e he => ⟨fun _ => (hs e he).1, (hs e he).2⟩, hr⟩
  obtain ⟨mg, h0, h1, h2, _⟩ := h
  exact ⟨h0, by simpa using h1, fun e he => (h2 e he).2⟩

end

/-- What MergeNodeSlices returns: the last state comes after the first, every input position goes
    into exactly one element of the result, and every element is made of the nodes at the positions
    of its provenance, at states in between. -/
theorem mergeNodeSlicesP_made {R : MSt → MSt → Prop} {fl : MergeFlags} {f : MergeFn}
    {l r : List INode} (hR : Follows R fl f l r) (st : MSt) :
    R st (mergeNodeSlicesP fl f l r st).2 ∧
    ((mergeNodeSlicesP fl f l r st).1.flatMap (·.prov)).Perm
      ((List.range l.length).map .L ++ (List.range r.length).map .R) ∧
    ∀ e ∈ (mergeNodeSlicesP fl f l r st).1, Made R fl f l r st (mergeNodeSlicesP fl f l r st).2 e := by
  obtain ⟨hc0, hc1, hc2⟩ := copyLeft_made hR (indexed l) st indexed_get (hR.refl st)
  obtain ⟨hm0, hm1, hm2⟩ := mergeLoop_made hR (copyLeft fl (indexed l) st).1 (indexed r)
    (copyLeft fl (indexed l) st).2 hc0 hc2 indexed_get
  refine ⟨hm0, hm1.trans ?_, hm2⟩
  rw [hc1]
  rw [indexed_map_fst, indexed_map_fst, List.range_eq_range', List.range_eq_range']

/-! ## guarantees 4 and 5: each element is merged at most once, and only left × right -/

/-- shapes a provenance can have: a left node, a right node, or one left node merged with one
    right node -/
def ProvOK (p : List Src) : Prop :=
  (∃ i, p = [.L i]) ∨ (∃ i j, p = [.L i, .R j]) ∨ (∃ j, p = [.R j])

/-- the ghost provenance is truthful: an element with provenance `[L i]` is (a copy of) the
    `i`-th left node, `[R j]` of the `j`-th right node, and `[L i, R j]` is what the merge function
    returned for a copy of the `i`-th left node and the `j`-th right node itself -/
def Faithful (f : MergeFn) (l r : List INode) (e : Elem) : Prop :=
  (∀ i, e.prov = [.L i] → ∃ a, l[i]? = some a ∧ e.node.erase = a.erase) ∧
  (∀ j, e.prov = [.R j] → ∃ b, r[j]? = some b ∧ e.node.erase = b.erase) ∧
  (∀ i j, e.prov = [.L i, .R j] → ∃ a b x s s', l[i]? = some a ∧ r[j]? = some b ∧
      x.erase = a.erase ∧ f x b s = (some e.node, s'))

section
variable {R : MSt → MSt → Prop} {fl : MergeFlags} {f : MergeFn} {l r : List INode}
  {st fin : MSt} {e : Elem}

theorem Made.provOK (h : Made R fl f l r st fin e) : ProvOK e.prov := by
  cases h with
  | @copy p _ _ _ _ _ =>
    cases p with
    | L i => exact Or.inl ⟨i, rfl⟩
    | R j => exact Or.inr (Or.inr ⟨j, rfl⟩)
  | @merged i j _ _ _ _ _ _ _ _ _ _ _ _ => exact Or.inr (Or.inl ⟨i, j, rfl⟩)

theorem Made.faithful (h : Made R fl f l r st fin e) : Faithful f l r e := by
  cases h with
  | @copy p a s hp _ _ =>
    refine ⟨fun i h => ?_, fun j h => ?_, fun i j h => by simp at h⟩
    · rw [List.singleton_inj.mp h] at hp; exact ⟨a, hp, copyIf_erase _ _ _⟩
    · rw [List.singleton_inj.mp h] at hp; exact ⟨a, hp, copyIf_erase _ _ _⟩
  | @merged i j a b y n s s' ha hb hy _ hf _ =>
    refine ⟨fun i h => by simp at h, fun j h => by simp at h, fun i' j' h => ?_⟩
    simp only [List.cons.injEq, Src.L.injEq, Src.R.injEq, and_true] at h
    obtain ⟨rfl, rfl⟩ := h
    exact ⟨a, b, y, s, s', ha, hb, hy, hf⟩

end

theorem mergeNodeSlicesP_prov (fl : MergeFlags) (f : MergeFn) (l r : List INode) (st : MSt) :
    ((mergeNodeSlicesP fl f l r st).1.flatMap (·.prov)).Perm
      ((List.range l.length).map .L ++ (List.range r.length).map .R) ∧
    ∀ e ∈ (mergeNodeSlicesP fl f l r st).1, ProvOK e.prov ∧ Faithful f l r e := by
  obtain ⟨_, hperm, hmade⟩ := mergeNodeSlicesP_made (Follows.any fl f l r) st
  exact ⟨hperm, fun e he => ⟨(hmade e he).provOK, (hmade e he).faithful⟩⟩

theorem mergeNodeSlicesP_kept (fl : MergeFlags) (f : MergeFn) (l r : List INode) (st : MSt)
    {p : Src} {x : INode} (h : p.get l r = some x) :
    ∃ e ∈ (mergeNodeSlicesP fl f l r st).1, p ∈ e.prov := by
  have hp : p ∈ (List.range l.length).map .L ++ (List.range r.length).map .R := by
    cases p with
    | L i =>
      have hi := lt_of_getElem? h
      exact List.mem_append_left _ (List.mem_map.mpr ⟨i, List.mem_range.mpr hi, rfl⟩)
    | R j =>
      have hj := lt_of_getElem? h
      exact List.mem_append_right _ (List.mem_map.mpr ⟨j, List.mem_range.mpr hj, rfl⟩)
  obtain ⟨e, he, hpe⟩ := List.mem_flatMap.mp
    ((mergeNodeSlicesP_prov fl f l r st).1.mem_iff.mpr hp)
  exact ⟨e, he, hpe⟩

/-! ## guarantees 1 and 2: the length bounds -/

def Src.isL : Src → Bool
  | .L _ => true
  | .R _ => false

theorem ProvOK.counts {p : List Src} (h : ProvOK p) :
    p.countP Src.isL ≤ 1 ∧ p.countP (fun s => !s.isL) ≤ 1 ∧ 1 ≤ p.length := by
  rcases h with ⟨i, rfl⟩ | ⟨i, j, rfl⟩ | ⟨j, rfl⟩
  · simp [Src.isL]
  · simp [List.countP_cons, Src.isL]
  · simp [Src.isL]

theorem prov_counts (es : List Elem) (h : ∀ e ∈ es, ProvOK e.prov) :
    (es.flatMap (·.prov)).countP Src.isL ≤ es.length ∧
    (es.flatMap (·.prov)).countP (fun s => !s.isL) ≤ es.length ∧
    es.length ≤ (es.flatMap (·.prov)).length := by
  induction es with
  | nil => simp
  | cons e es ih =>
    have he := (h e List.mem_cons_self).counts
    have := ih (fun x hx => h x (List.mem_cons_of_mem _ hx))
    simp only [List.flatMap_cons, List.countP_append, List.length_append, List.length_cons]
    omega

/-- the positions of both inputs are spread over the elements, at most one of each side per
    element -/
theorem mergeNodeSlicesP_length (fl : MergeFlags) (f : MergeFn) (l r : List INode) (st : MSt) :
    max l.length r.length ≤ (mergeNodeSlicesP fl f l r st).1.length ∧
    (mergeNodeSlicesP fl f l r st).1.length ≤ l.length + r.length := by
  obtain ⟨hp, he⟩ := mergeNodeSlicesP_prov fl f l r st
  obtain ⟨h1, h2, h3⟩ := prov_counts _ (fun e h => (he e h).1)
  rw [hp.countP_eq] at h1 h2
  rw [hp.length_eq] at h3
  simp [List.countP_append, List.countP_map, Function.comp_def, Src.isL] at h1 h2 h3
  omega

/-! ## MergeNodes: the loop over the right children -/

/-- the node with its children replaced (`n.SetNodes(ks)`) -/
def INode.setKids (n : INode) (ks : List INode) : INode := .mk n.id n.tag n.value n.ptr ks

theorem setKidsOfFirst_split (p : INode → Bool) (ks : List INode) :
    ∀ (pre : List INode) (n : INode) (post : List INode), (∀ x ∈ pre, p x = false) → p n = true →
      setKidsOfFirst p ks (pre ++ n :: post) = pre ++ n.setKids ks :: post := by
  intro pre
  induction pre with
  | nil =>
    intro n post _ hn
    obtain ⟨i, t, v, q, k⟩ := n
    simp [setKidsOfFirst, hn, INode.setKids, INode.id, INode.tag, INode.value, INode.ptr]
  | cons x xs ih =>
    intro n post hpre hn
    obtain ⟨i, t, v, q, k⟩ := x
    have hx : p (.mk i t v q k) = false := hpre _ (by simp)
    simp only [List.cons_append, setKidsOfFirst, hx, Bool.false_eq_true, if_false]
    rw [ih n post (fun y hy => hpre y (by simp [hy])) hn]

/-- what the loop appends when no child of the result is Equal to `child` (`copyChildFor`) -/
def addedChild (fl : MergeFlags) (rootTag : Str) (child : INode) (s : MSt) : INode × MSt :=
  if fl.nodesCopyRight then copyChildM rootTag child s else (child, s)

/-- Invariant rule for the loop `for _, child := range right.Nodes()` of MergeNodes: a predicate
    over (children of the result so far, right children still to do, state) that survives both
    branches — the first Equal child gets the merged grandchildren / no child is Equal and a copy
    is appended — holds at the end. -/
theorem foldRight_inv (fl : MergeFlags) (eqf : MergeFn) (root : Nat) (rootTag : Str)
    (Inv : List INode → List INode → MSt → Prop)
    (hmatch : ∀ pre n post child rest s,
      (∀ x ∈ pre, equalsShallow x.erase child.erase = false) →
      equalsShallow n.erase child.erase = true →
      Inv (pre ++ n :: post) (child :: rest) s →
      Inv (pre ++ n.setKids (mergeNodeSlices fl eqf child.kids n.kids s).1 :: post) rest
        { (mergeNodeSlices fl eqf child.kids n.kids s).2 with
          writes := (mergeNodeSlices fl eqf child.kids n.kids s).2.writes ++ [n.id] })
    (hadd : ∀ cur child rest s,
      (∀ x ∈ cur, equalsShallow x.erase child.erase = false) →
      Inv cur (child :: rest) s →
      Inv (cur ++ [(addedChild fl rootTag child s).1]) rest
        { (addedChild fl rootTag child s).2 with
          writes := (addedChild fl rootTag child s).2.writes ++ [root] }) :
    ∀ (kids cur : List INode) (st : MSt), Inv cur kids st →
      Inv (foldRight fl eqf root rootTag cur kids st).1 [] (foldRight fl eqf root rootTag cur kids st).2 := by
  intro kids
  induction kids with
  | nil => intro cur st h; simpa [foldRight] using h
  | cons child rest ih =>
    intro cur st h
    rw [foldRight]
    split
    · rename_i n hfind
      obtain ⟨hn, pre, post, hcur, hpre⟩ := List.find?_eq_some_iff_append.mp hfind
      subst hcur
      have hpre' : ∀ x ∈ pre, equalsShallow x.erase child.erase = false := fun x hx => by
        simpa using hpre x hx
      simp only
      rw [setKidsOfFirst_split _ _ pre n post hpre' hn]
      exact ih _ _ (hmatch pre n post child rest st hpre' hn h)
    · rename_i hfind
      have hnone : ∀ x ∈ cur, equalsShallow x.erase child.erase = false := fun x hx => by
        simpa using List.find?_eq_none.mp hfind x hx
      exact ih _ _ (hadd cur child rest st hnone h)

theorem foldRight_forall (fl : MergeFlags) (eqf : MergeFn) (root : Nat) (rootTag : Str)
    (P : INode → Prop) (S : MSt → Prop)
    (hS : ∀ s w, S s → S { s with writes := s.writes ++ [w] })
    (hmatch : ∀ n child s, P n → P child → equalsShallow n.erase child.erase = true → S s →
      P (n.setKids (mergeNodeSlices fl eqf child.kids n.kids s).1) ∧
      S (mergeNodeSlices fl eqf child.kids n.kids s).2)
    (hadd : ∀ child s, P child → S s →
      P (addedChild fl rootTag child s).1 ∧ S (addedChild fl rootTag child s).2)
    (kids cur : List INode) (st : MSt) (hcur : ∀ n ∈ cur, P n) (hkids : ∀ c ∈ kids, P c)
    (h0 : S st) :
    (∀ n ∈ (foldRight fl eqf root rootTag cur kids st).1, P n) ∧
    S (foldRight fl eqf root rootTag cur kids st).2 := by
  have h := foldRight_inv fl eqf root rootTag
    (fun c rest s => (∀ n ∈ c, P n) ∧ S s ∧ ∀ x ∈ rest, P x)
    (by
      intro pre n post child rest s _ hE h
      have hx := hmatch n child s (h.1 n List.mem_append_cons_self)
        (h.2.2 child List.mem_cons_self) hE h.2.1
      refine ⟨fun n' hn' => ?_, hS _ _ hx.2, fun x hx => h.2.2 x (List.mem_cons_of_mem _ hx)⟩
      rcases mem_replaced (n' := n) hn' with rfl | hn'
      · exact hx.1
      · exact h.1 n' hn')
    (by
      intro c child rest s _ h
      have hx := hadd child s (h.2.2 child List.mem_cons_self) h.2.1
      refine ⟨fun n' hn' => ?_, hS _ _ hx.2, fun x hx => h.2.2 x (List.mem_cons_of_mem _ hx)⟩
      rcases mem_added hn' with hn' | rfl
      · exact h.1 n' hn'
      · exact hx.1)
    kids cur st ⟨hcur, h0, hkids⟩
  exact ⟨h.1, h.2.1⟩

theorem INode.setKids_erase (n : INode) (ks : List INode) :
    (n.setKids ks).erase = .mk n.tag n.value n.ptr (ks.map INode.erase) := by
  simp [INode.setKids, INode.erase, eraseList_eq_map]

theorem copyTree_root (next : Nat) (n : INode) :
    (copyTree next n).1.id = next ∧ (copyTree next n).1.tag = n.tag ∧
    (copyTree next n).1.value = n.value ∧ (copyTree next n).1.ptr = n.ptr := by
  obtain ⟨i, t, v, p, ks⟩ := n
  simp [copyTree, INode.id, INode.tag, INode.value, INode.ptr]

theorem copyM_erase (n : INode) (s : MSt) : (copyM n s).1.erase = n.erase := copyTree_erase _ _

theorem copyM_id (n : INode) (s : MSt) : (copyM n s).1.id = s.next := (copyTree_root s.next n).1

theorem copyM_kids_erase (n : INode) (s : MSt) :
    (copyM n s).1.kids.map INode.erase = n.kids.map INode.erase := by
  rw [← INode.erase_kids, ← INode.erase_kids, copyM_erase]

theorem copyM_setKids_erase (n : INode) (s : MSt) (ks : List INode) :
    ((copyM n s).1.setKids ks).erase = .mk n.tag n.value n.ptr (ks.map INode.erase) := by
  have h := copyTree_root s.next n
  rw [INode.setKids_erase]
  show Node.mk (copyTree s.next n).1.tag (copyTree s.next n).1.value (copyTree s.next n).1.ptr _ = _
  rw [h.2.1, h.2.2.1, h.2.2.2]

theorem copyChildM_erase (t : Str) (n : INode) (s : MSt) : (copyChildM t n s).1.erase = n.erase := by
  simp [copyChildM, copyTree_erase]

theorem addedChild_erase (fl : MergeFlags) (t : Str) (c : INode) (s : MSt) :
    (addedChild fl t c s).1.erase = c.erase := by
  unfold addedChild
  split
  · exact copyChildM_erase t c s
  · rfl

theorem mergeNodesF_succ (fl : MergeFlags) (fuel : Nat) (l r : INode) (st : MSt) :
    mergeNodesF fl (fuel + 1) l r st =
      if l.tag != r.tag then .error
      else .ok
        ((copyM l st).1.setKids (foldRight fl (eqMergeWith (mergeNodesF fl fuel)) (copyM l st).1.id
          l.tag (copyM l st).1.kids r.kids (copyM l st).2).1)
        (foldRight fl (eqMergeWith (mergeNodesF fl fuel)) (copyM l st).1.id l.tag
          (copyM l st).1.kids r.kids (copyM l st).2).2 := by
  rw [mergeNodesF]; rfl

theorem mergeNodesF_rule {fl : MergeFlags} {Q : INode → INode → MSt → INode → MSt → Prop}
    (step : ∀ mn : INode → INode → MSt → MergeOutcome,
      (∀ l r st m st', mn l r st = .ok m st' → Q l r st m st') → ∀ l r st, l.tag = r.tag →
      Q l r st
        ((copyM l st).1.setKids (foldRight fl (eqMergeWith mn) (copyM l st).1.id l.tag
          (copyM l st).1.kids r.kids (copyM l st).2).1)
        (foldRight fl (eqMergeWith mn) (copyM l st).1.id l.tag (copyM l st).1.kids r.kids
          (copyM l st).2).2)
    (fuel : Nat) : ∀ l r st m st', mergeNodesF fl fuel l r st = .ok m st' → Q l r st m st' := by
  induction fuel with
  | zero => intro l r st m st' h; simp [mergeNodesF] at h
  | succ fuel ih =>
    intro l r st m st' h
    rw [mergeNodesF_succ] at h
    split at h
    · cases h
    · rename_i htag
      injection h with h1 h2
      subst h1 h2
      exact step _ ih l r st (by simpa using htag)

theorem eqMergeWith_some {mn : INode → INode → MSt → MergeOutcome} {a b m : INode} {s s' : MSt}
    (h : eqMergeWith mn a b s = (some m, s')) :
    equalsShallow a.erase b.erase = true ∧ mn a b s = .ok m s' := by
  unfold eqMergeWith at h
  split at h
  · rename_i hE
    split at h
    · rename_i m0 s0 hmn
      cases h
      exact ⟨hE, hmn⟩
    · cases h
    · cases h
    · cases h
  · cases h

end Gedcom

/-
  `Sort` (C08).  `sliceStable` (Go's insertion sort) is `insSort` (Lemmas/InsSort.lean) read from the
  other end, so whenever the comparator is a strict weak order on the elements it returns *the* stable
  sorted permutation: any permutation of the indexed input that is sorted and keeps tied elements in
  their original order equals it.  Hence for more than 20 elements, where `sort.SliceStable` merges
  insertion-sorted blocks, Go's result is still `sliceStable`'s.  `Diff.sort` only reorders: the entries
  of the sorted diff at depth `d` are the sorted entries of the diff at depth `d`.
-/
import Gedcom.Lemmas.Diff
import Gedcom.Lemmas.InsSort
namespace Gedcom
open Diff

theorem swoB_sound {α : Type} (lt : α → α → Bool) (l : List α) (h : swoB lt l = true) : SWOOn lt l := by
  unfold swoB at h
  simp only [List.all_eq_true, Bool.and_eq_true, Bool.or_eq_true, Bool.not_eq_true'] at h
  refine ⟨fun a ha => (h a ha).1, ?_, ?_⟩
  · intro a ha b hb c hc hab hbc
    have := ((h a ha).2 b hb c hc).1
    rcases this with h1 | h1
    · rw [hab, hbc] at h1; simp at h1
    · exact h1
  · intro a ha b hb c hc hac
    have := ((h a ha).2 b hb c hc).2
    rcases this with (h1 | h1) | h1
    · rw [hac] at h1; cases h1
    · exact Or.inl h1
    · exact Or.inr h1

theorem swoB_false_of_cycle {α : Type} {lt : α → α → Bool} {l : List α} {a b c : α}
    (ha : a ∈ l) (hb : b ∈ l) (hc : c ∈ l) (h : (lt a b && lt b c && lt c a) = true) :
    swoB lt l = false := by
  simp only [Bool.and_eq_true] at h
  apply Bool.eq_false_iff.mpr
  intro hswo
  obtain ⟨irrefl, trans, _⟩ := swoB_sound lt l hswo
  have haa := trans a ha c hc a ha (trans a ha b hb c hc h.1.1 h.1.2) h.2
  rw [irrefl a ha] at haa
  cases haa

section
variable {α : Type} (lt : α → α → Bool)

theorem sliceStableIns_eq (x : α) : ∀ (acc : List α), sliceStableIns lt x acc = insBy lt x acc
  | [] => rfl
  | e :: es => by rw [sliceStableIns, insBy, sliceStableIns_eq x es]

theorem sliceStable_eq (l : List α) : sliceStable lt l = (insSort lt l.reverse).reverse := by
  unfold sliceStable insSort
  simp only [sliceStableIns_eq]
  rw [List.foldr_reverse]

theorem sliceStable_perm (l : List α) : (sliceStable lt l).Perm l := by
  rw [sliceStable_eq]
  exact (List.reverse_perm _).trans ((insSort_perm lt _).trans (List.reverse_perm l))

theorem sliceStable_unique_idx {l : List α} (h : SWOOn lt l) (r : List (α × Nat))
    (hperm : r.Perm l.zipIdx)
    (hsorted : r.Pairwise (fun p q => lt q.1 p.1 = false))
    (hstable : r.Pairwise (fun p q => lt p.1 q.1 = false → p.2 < q.2)) :
    r.map (·.1) = sliceStable lt l := by
  -- read from the end, `r` is descending with ties in the order of decreasing position, as is
  -- `insSort` of the reversed indexed input
  have hr : r.reverse.Pairwise (DescBy (fun p q => lt p.1 q.1) (fun p q => q.2 < p.2)) := by
    refine List.pairwise_reverse.mpr ((hsorted.and hstable).imp ?_)
    intro p q hpq
    cases hlt : lt p.1 q.1 with
    | true => exact Or.inl hlt
    | false => exact Or.inr ⟨hpq.1, hpq.2 hlt⟩
  have heq := insSort_unique (h.of_mem Prod.fst (fun _ he => List.fst_mem_of_mem_zipIdx he))
    (fun _ _ h1 h2 => Nat.lt_asymm h1 h2) (fun _ he => List.mem_reverse.mp he)
    (List.pairwise_reverse.mpr (zipIdx_increasing l 0))
    ((List.reverse_perm r).trans (hperm.trans (List.reverse_perm _).symm)) hr
  rw [sliceStable_eq, ← List.reverse_reverse r, heq, List.map_reverse, insSort_comap lt Prod.fst,
    List.map_reverse, List.zipIdx_map_fst]
end

theorem sortKeyed_eq : ∀ (cs : List Diff),
    Diff.sortKeyed cs = cs.map (fun c => (sortKeyOf (c.flatten true), c.sort))
  | [] => by rw [Diff.sortKeyed]; rfl
  | c :: cs => by rw [Diff.sortKeyed, sortKeyed_eq cs]; rfl

theorem flatKeys_eq : ∀ (cs : List Diff), Diff.flatKeys cs = (Diff.sortKeyed cs).map (·.1)
  | [] => by rw [Diff.flatKeys, Diff.sortKeyed]; rfl
  | c :: cs => by rw [Diff.flatKeys, Diff.sortKeyed, flatKeys_eq cs]; rfl

theorem sort_kids (L R : Option INode) (cs : List Diff) : ((Diff.mk L R cs).sort).kids =
    (sliceStable (fun a b => lessKey a.1 b.1) (Diff.sortKeyed cs)).map (·.2) := by
  rw [Diff.sort]; rfl

theorem sort_kids_perm (L R : Option INode) (cs : List Diff) :
    ((Diff.mk L R cs).sort).kids.Perm (cs.map Diff.sort) := by
  rw [sort_kids]
  have h := (sliceStable_perm (fun a b : SortKey × Diff => lessKey a.1 b.1) (Diff.sortKeyed cs)).map (·.2)
  rw [sortKeyed_eq] at h ⊢
  simpa [List.map_map, Function.comp_def] using h

theorem sort_left (D : Diff) : D.sort.left = D.left := by cases D; rw [Diff.sort]; rfl
theorem sort_right (D : Diff) : D.sort.right = D.right := by cases D; rw [Diff.sort]; rfl

theorem mem_sort_kids {D c' : Diff} : c' ∈ D.sort.kids ↔ ∃ c ∈ D.kids, c.sort = c' := by
  cases D with | mk L R cs =>
  rw [(sort_kids_perm L R cs).mem_iff, List.mem_map]
  rfl

theorem entryAt_sort : ∀ (d : Nat) (D e' : Diff), EntryAt D.sort d e' ↔ ∃ e, EntryAt D d e ∧ e.sort = e'
  | 0, D, e' => by
    rw [EntryAt.zero_iff]
    constructor
    · rintro rfl; exact ⟨D, EntryAt.root D, rfl⟩
    · rintro ⟨e, he, rfl⟩; rw [EntryAt.zero_iff.mp he]
  | d + 1, D, e' => by
    rw [EntryAt.succ_iff]
    constructor
    · rintro ⟨c', hc', he'⟩
      obtain ⟨c, hc, rfl⟩ := mem_sort_kids.mp hc'
      obtain ⟨e, he, rfl⟩ := (entryAt_sort d c e').mp he'
      exact ⟨e, EntryAt.succ_iff.mpr ⟨c, hc, he⟩, rfl⟩
    · rintro ⟨e, he, rfl⟩
      obtain ⟨c, hc, he⟩ := EntryAt.succ_iff.mp he
      exact ⟨c.sort, mem_sort_kids.mpr ⟨c, hc, rfl⟩, (entryAt_sort d c _).mpr ⟨e, he, rfl⟩⟩

end Gedcom

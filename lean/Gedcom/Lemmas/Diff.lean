/-
  The node-diff model (`Gedcom/Model/Diff.lean`): entries and depths, one routing step, and three
  inductions over a traversal: an invariant of every entry is kept, an entry persists and only gains
  a side, every traversed node is represented; then what the invariant gives for the two passes of a
  comparison (`compare_all`: where the nodes of an entry come from, which are paired).  Core Lean only.
-/
import Gedcom.Model.Diff
namespace Gedcom
open Diff

theorem Diff.induct {motive : Diff → Prop}
    (mk : ∀ L R cs, (∀ c ∈ cs, motive c) → motive (.mk L R cs)) (D : Diff) : motive D :=
  Diff.rec (motive_1 := motive) (motive_2 := fun cs => ∀ c ∈ cs, motive c) mk
    (fun _ h => nomatch h)
    (fun _ _ hc hcs _ h => (List.mem_cons.mp h).elim (· ▸ hc) (hcs _)) D

theorem Diff.EntryAt.zero_iff {D e : Diff} : EntryAt D 0 e ↔ e = D :=
  ⟨fun h => by cases h; rfl, fun h => h ▸ EntryAt.root D⟩

theorem Diff.EntryAt.succ_iff {D e : Diff} {d : Nat} :
    EntryAt D (d + 1) e ↔ ∃ c ∈ D.kids, EntryAt c d e := by
  constructor
  · intro h
    cases h with
    | kid hc he => exact ⟨_, hc, he⟩
  · rintro ⟨c, hc, he⟩
    cases D with | mk L R cs => exact EntryAt.kid hc he

theorem INode.At.zero {s a : INode} (h : INode.At s 0 a) : a = s := by cases h; rfl

theorem INode.At.succ_iff {s a : INode} {d : Nat} :
    INode.At s (d + 1) a ↔ ∃ k ∈ s.kids, INode.At k d a := by
  constructor
  · intro h
    cases h with
    | kid hk hat => exact ⟨_, hk, hat⟩
  · rintro ⟨k, hk, hat⟩
    cases s with | mk i t v p ks => exact INode.At.kid hk hat

theorem INode.At.child {root n k : INode} {d : Nat} (h : INode.At root d n) (hk : k ∈ n.kids) :
    INode.At root (d + 1) k := by
  induction h with
  | root n => exact INode.At.succ_iff.mpr ⟨k, hk, INode.At.root k⟩
  | kid hc _ ih => exact INode.At.kid hc (ih hk)

/-- `P depth left right` holds for every entry, depths counted from `d` at the root -/
inductive Diff.All (P : Nat → Option INode → Option INode → Prop) : Nat → Diff → Prop
  | mk {d : Nat} {L R : Option INode} {cs : List Diff} :
      P d L R → (∀ c ∈ cs, Diff.All P (d + 1) c) → Diff.All P d (.mk L R cs)

/-- some entry at depth `d` (root = 0) satisfies `P left right` -/
inductive Diff.Ex (P : Option INode → Option INode → Prop) : Nat → Diff → Prop
  | here {L R : Option INode} {cs : List Diff} : P L R → Diff.Ex P 0 (.mk L R cs)
  | there {L R : Option INode} {cs : List Diff} {c : Diff} {d : Nat} :
      c ∈ cs → Diff.Ex P d c → Diff.Ex P (d + 1) (.mk L R cs)

theorem Diff.All.root {P d D} (h : Diff.All P d D) : P d D.left D.right := by
  cases h with | mk hp _ => exact hp

theorem Diff.All.kids {P d D} (h : Diff.All P d D) : ∀ c ∈ D.kids, Diff.All P (d + 1) c := by
  cases h with | mk _ hk => exact hk

theorem Diff.All.entry {P : Nat → Option INode → Option INode → Prop} {D : Diff} {k : Nat} {e : Diff}
    (he : EntryAt D k e) : ∀ {d : Nat}, Diff.All P d D → P (d + k) e.left e.right := by
  induction he with
  | root D => intro d h; exact h.root
  | kid hc _ ih => intro d h; exact Nat.add_right_comm d 1 _ ▸ ih (h.kids _ hc)

theorem Diff.All.of_entries {P : Nat → Option INode → Option INode → Prop} (D : Diff) :
    ∀ (d : Nat), (∀ k e, EntryAt D k e → P (d + k) e.left e.right) → Diff.All P d D := by
  induction D using Diff.induct with
  | mk L R cs ih =>
    intro d h
    refine Diff.All.mk (h 0 _ (EntryAt.root _)) (fun c hc => ih c hc (d + 1) ?_)
    intro k e he
    exact Nat.add_right_comm d 1 k ▸ h (k + 1) e (EntryAt.kid hc he)

theorem Diff.All.mono {P P' : Nat → Option INode → Option INode → Prop}
    (hpp : ∀ d L R, P d L R → P' d L R) {d : Nat} {D : Diff} (h : Diff.All P d D) : Diff.All P' d D := by
  induction h with
  | mk hp _ ih => exact Diff.All.mk (hpp _ _ _ hp) ih

theorem Diff.Ex.entry {P : Option INode → Option INode → Prop} {D : Diff} {d : Nat}
    (h : Diff.Ex P d D) : ∃ e, EntryAt D d e ∧ P e.left e.right := by
  induction h with
  | here hp => exact ⟨_, EntryAt.root _, hp⟩
  | there hc _ ih =>
    obtain ⟨e, he, hp⟩ := ih
    exact ⟨e, EntryAt.kid hc he, hp⟩

theorem Diff.Ex.of_entry {P : Option INode → Option INode → Prop} {D : Diff} {d : Nat} {e : Diff}
    (he : EntryAt D d e) (hp : P e.left e.right) : Diff.Ex P d D := by
  induction he with
  | root D => cases D with | mk L R cs => exact Diff.Ex.here hp
  | kid hc _ ih => exact Diff.Ex.there hc (ih hp)

theorem Diff.Ex.mono {P P' : Option INode → Option INode → Prop} (hpp : ∀ L R, P L R → P' L R)
    {d : Nat} {D : Diff} (h : Diff.Ex P d D) : Diff.Ex P' d D := by
  obtain ⟨e, he, hp⟩ := h.entry
  exact Diff.Ex.of_entry he (hpp _ _ hp)

theorem Diff.isDeepEqual_eq (D : Diff) :
    D.isDeepEqual = (D.left.isSome && D.right.isSome && Diff.isDeepEqualL D.kids) := by
  cases D; rw [Diff.isDeepEqual]; rfl

theorem Diff.isDeepEqualL_iff : ∀ {cs : List Diff},
    Diff.isDeepEqualL cs = true ↔ ∀ c ∈ cs, c.isDeepEqual = true
  | [] => by rw [Diff.isDeepEqualL]; exact ⟨fun _ _ h => (nomatch h), fun _ => rfl⟩
  | c :: cs => by
    rw [Diff.isDeepEqualL, Bool.and_eq_true, Diff.isDeepEqualL_iff, List.forall_mem_cons]

theorem isDeepEqual_iff_all (D : Diff) : ∀ (d : Nat), D.isDeepEqual = true ↔
    Diff.All (fun _ L R => L.isSome = true ∧ R.isSome = true) d D := by
  induction D using Diff.induct with
  | mk L R cs ih =>
    intro d
    rw [Diff.isDeepEqual, Bool.and_eq_true, Bool.and_eq_true, Diff.isDeepEqualL_iff]
    constructor
    · rintro ⟨h, hk⟩
      exact Diff.All.mk h (fun c hc => (ih c hc (d + 1)).mp (hk c hc))
    · intro h
      exact ⟨h.root, fun c hc => (ih c hc (d + 1)).mpr (h.kids c hc)⟩

theorem fillL_some (b : Bool) (n h : INode) : fillL b n (some h) = some h := by
  cases b <;> rfl
theorem fillR_some (b : Bool) (n h : INode) : fillR b n (some h) = some h := by
  cases b <;> rfl
theorem fillL_fillL (b : Bool) (m n : INode) (L : Option INode) : fillL b m (fillL b n L) = fillL b n L := by
  cases b <;> cases L <;> rfl
theorem fillR_fillR (b : Bool) (m n : INode) (R : Option INode) : fillR b m (fillR b n R) = fillR b n R := by
  cases b <;> cases R <;> rfl
theorem fillL_false (n : INode) (L : Option INode) : fillL false n L = L := rfl
theorem fillR_true (n : INode) (R : Option INode) : fillR true n R = R := rfl

section proj
variable (eq : INode → INode → Bool) (b : Bool)

theorem traverse_left (n : INode) (e : Diff) : (traverse eq b n e).left = fillL b n e.left := by
  cases n; rw [traverse]; rfl
theorem traverse_right (n : INode) (e : Diff) : (traverse eq b n e).right = fillR b n e.right := by
  cases n; rw [traverse]; rfl
theorem traverse_kids (n : INode) (e : Diff) :
    (traverse eq b n e).kids = traverseKids eq b n.kids e.kids := by
  cases n; rw [traverse]; rfl
end proj

theorem matchesNode_iff {eq : INode → INode → Bool} {k : INode} {c : Diff} :
    Diff.matchesNode eq k c = true ↔ ∃ h, (c.left = some h ∨ c.right = some h) ∧ eq h k = true := by
  unfold Diff.matchesNode
  cases c.left <;> cases c.right <;> simp

theorem mem_placeWith {m : Diff → Bool} {f : Diff → Diff} {e : Diff} {cs : List Diff}
    (he : e ∈ placeWith m f cs) :
    e ∈ cs ∨ (∃ c ∈ cs, m c = true ∧ e = f c) ∨ ((∀ c ∈ cs, m c = false) ∧ e = f Diff.empty) := by
  induction cs with
  | nil => exact Or.inr (Or.inr ⟨nofun, List.mem_singleton.mp he⟩)
  | cons c0 cs ih =>
    rw [placeWith] at he
    by_cases hm : m c0 = true
    · rw [if_pos hm] at he
      rcases List.mem_cons.mp he with rfl | h
      · exact Or.inr (Or.inl ⟨c0, List.mem_cons_self, hm, rfl⟩)
      · exact Or.inl (List.mem_cons_of_mem _ h)
    · rw [if_neg hm] at he
      rcases List.mem_cons.mp he with rfl | h
      · exact Or.inl List.mem_cons_self
      · rcases ih h with h | ⟨c, hc, hmc, rfl⟩ | ⟨hall, rfl⟩
        · exact Or.inl (List.mem_cons_of_mem _ h)
        · exact Or.inr (Or.inl ⟨c, List.mem_cons_of_mem _ hc, hmc, rfl⟩)
        · exact Or.inr (Or.inr ⟨List.forall_mem_cons.mpr ⟨Bool.eq_false_iff.mpr hm, hall⟩, rfl⟩)

theorem placeWith_mem {m : Diff → Bool} {f : Diff → Diff} {c : Diff} {cs : List Diff}
    (hc : c ∈ cs) : c ∈ placeWith m f cs ∨ f c ∈ placeWith m f cs := by
  induction cs with
  | nil => cases hc
  | cons c0 cs ih =>
    rw [placeWith]
    by_cases hm : m c0 = true
    · rw [if_pos hm]
      rcases List.mem_cons.mp hc with rfl | h
      · exact Or.inr List.mem_cons_self
      · exact Or.inl (List.mem_cons_of_mem _ h)
    · rw [if_neg hm]
      rcases List.mem_cons.mp hc with rfl | h
      · exact Or.inl List.mem_cons_self
      · exact (ih h).imp (List.mem_cons_of_mem _) (List.mem_cons_of_mem _)

theorem placeWith_routed {m : Diff → Bool} {f : Diff → Diff} (cs : List Diff) :
    (∃ c ∈ cs, m c = true ∧ f c ∈ placeWith m f cs) ∨ f Diff.empty ∈ placeWith m f cs := by
  induction cs with
  | nil => exact Or.inr List.mem_cons_self
  | cons c0 cs ih =>
    rw [placeWith]
    by_cases hm : m c0 = true
    · rw [if_pos hm]
      exact Or.inl ⟨c0, List.mem_cons_self, hm, List.mem_cons_self⟩
    · rw [if_neg hm]
      rcases ih with ⟨c, hc, hm, h⟩ | h
      · exact Or.inl ⟨c, List.mem_cons_of_mem _ hc, hm, List.mem_cons_of_mem _ h⟩
      · exact Or.inr (List.mem_cons_of_mem _ h)

/-- what `traverse` may assume about the diff it is applied to: it is new, or it is the root of the
    comparison, or one of its nodes `Equals` the traversed node -/
def Adm (eq : INode → INode → Bool) (d : Nat) (n : INode) (D : Diff) : Prop :=
  (D.left = none ∧ D.right = none) ∨ d = 0 ∨ Diff.matchesNode eq n D = true

section invariant
variable (eq : INode → INode → Bool) (b : Bool)
  (P : Nat → Option INode → Option INode → Prop) (Q : Nat → INode → Prop)

mutual
/-- `Q d n`: what is known of a node traversed at depth `d`.  A new entry has no nodes and need not
    satisfy `P` before its side is set, hence `P … ∨ (both none)`. -/
theorem traverse_all
    (hQ : ∀ d n k, Q d n → k ∈ n.kids → Q (d + 1) k)
    (hfill : ∀ d n D, Q d n → Adm eq d n D → (P d D.left D.right ∨ (D.left = none ∧ D.right = none)) →
      P d (fillL b n D.left) (fillR b n D.right)) :
    ∀ (n : INode) (d : Nat) (D : Diff), Q d n → Adm eq d n D →
      (P d D.left D.right ∨ (D.left = none ∧ D.right = none)) →
      (∀ c ∈ D.kids, Diff.All P (d + 1) c) → Diff.All P d (traverse eq b n D)
  | .mk i t v p ks, d, D, hq, hadm, hp, hk => by
    rw [traverse]
    refine Diff.All.mk (hfill d _ D hq hadm hp) ?_
    exact traverseKids_all hQ hfill ks (d + 1) D.kids
      (fun k hkm => hQ d _ k hq hkm) hk
theorem traverseKids_all
    (hQ : ∀ d n k, Q d n → k ∈ n.kids → Q (d + 1) k)
    (hfill : ∀ d n D, Q d n → Adm eq d n D → (P d D.left D.right ∨ (D.left = none ∧ D.right = none)) →
      P d (fillL b n D.left) (fillR b n D.right)) :
    ∀ (ks : List INode) (d : Nat) (cs : List Diff), (∀ k ∈ ks, Q d k) →
      (∀ c ∈ cs, Diff.All P d c) → ∀ c ∈ traverseKids eq b ks cs, Diff.All P d c
  | [], _, _, _, hcs => by rw [traverseKids]; exact hcs
  | k :: ks, d, cs, hq, hcs => by
    rw [traverseKids]
    apply traverseKids_all hQ hfill ks d _ (fun k' h => hq k' (List.mem_cons_of_mem _ h))
    intro c hc
    rcases mem_placeWith hc with h | ⟨c0, h0, hm, rfl⟩ | ⟨_, rfl⟩
    · exact hcs c h
    · exact traverse_all hQ hfill k d c0 (hq k List.mem_cons_self) (Or.inr (Or.inr hm))
        (Or.inl (hcs c0 h0).root) (hcs c0 h0).kids
    · exact traverse_all hQ hfill k d Diff.empty (hq k List.mem_cons_self) (Or.inl ⟨rfl, rfl⟩)
        (Or.inr ⟨rfl, rfl⟩) (by intro c hc; cases hc)
end
end invariant

section persist
variable (eq : INode → INode → Bool) (b : Bool) (P : Option INode → Option INode → Prop)

mutual
theorem traverse_ex (hfill : ∀ n L R, P L R → P (fillL b n L) (fillR b n R)) :
    ∀ (n : INode) (d : Nat) (D : Diff), Diff.Ex P d D → Diff.Ex P d (traverse eq b n D)
  | .mk i t v p ks, d, D, h => by
    rw [traverse]
    cases h with
    | here hp => exact Diff.Ex.here (hfill _ _ _ hp)
    | there hc hex =>
      obtain ⟨c', hc', hex'⟩ := traverseKids_ex hfill ks _ _ _ hc hex
      exact Diff.Ex.there hc' hex'
theorem traverseKids_ex (hfill : ∀ n L R, P L R → P (fillL b n L) (fillR b n R)) :
    ∀ (ks : List INode) (d : Nat) (cs : List Diff) (c : Diff), c ∈ cs → Diff.Ex P d c →
      ∃ c' ∈ traverseKids eq b ks cs, Diff.Ex P d c'
  | [], _, _, c, hc, hex => by rw [traverseKids]; exact ⟨c, hc, hex⟩
  | k :: ks, d, cs, c, hc, hex => by
    rw [traverseKids]
    rcases placeWith_mem (m := Diff.matchesNode eq k) (f := traverse eq b k) hc with h | h
    · exact traverseKids_ex hfill ks d _ c h hex
    · exact traverseKids_ex hfill ks d _ _ h (traverse_ex hfill k d c hex)
end
end persist

/-- one side of the entry holds `x` or a node that `eq` relates to `x` -/
def HoldsEq (eq : INode → INode → Bool) (x : INode) (L R : Option INode) : Prop :=
  ∃ h, (L = some h ∨ R = some h) ∧ (h = x ∨ eq h x = true)

theorem HoldsEq.fill {eq : INode → INode → Bool} {x : INode} (b : Bool) (n : INode) {L R : Option INode}
    (h : HoldsEq eq x L R) : HoldsEq eq x (fillL b n L) (fillR b n R) := by
  obtain ⟨h0, hs, he⟩ := h
  refine ⟨h0, ?_, he⟩
  rcases hs with rfl | rfl
  · left; exact fillL_some b n h0
  · right; exact fillR_some b n h0

section cover
variable (eq : INode → INode → Bool) (b : Bool)

mutual
/-- the hypothesis on the root holds when the own side of `D` is free or a node of `D` `Equals` `n` -/
theorem traverse_cover :
    ∀ (n : INode) (k : Nat) (D : Diff) (x : INode), INode.At n k x →
      HoldsEq eq n (fillL b n D.left) (fillR b n D.right) → Diff.Ex (HoldsEq eq x) k (traverse eq b n D)
  | .mk i t v p ks, k, D, x, hat, hroot => by
    rw [traverse]
    cases hat with
    | root _ => exact Diff.Ex.here hroot
    | kid hc hat' =>
      obtain ⟨c', hc', hex⟩ := traverseKids_cover ks D.kids _ _ x hc hat'
      exact Diff.Ex.there hc' hex
theorem traverseKids_cover :
    ∀ (ks : List INode) (cs : List Diff) (kk : INode) (d : Nat) (x : INode), kk ∈ ks → INode.At kk d x →
      ∃ c' ∈ traverseKids eq b ks cs, Diff.Ex (HoldsEq eq x) d c'
  | [], _, _, _, _, hmem, _ => by cases hmem
  | k :: ks, cs, kk, d, x, hmem, hat => by
    rw [traverseKids]
    rcases List.mem_cons.mp hmem with heq | hmem'
    · -- the node is routed now; what it creates persists through the remaining children
      have hat' : INode.At k d x := heq ▸ hat
      have hplaced : ∃ c1 ∈ placeWith (Diff.matchesNode eq k) (traverse eq b k) cs,
          Diff.Ex (HoldsEq eq x) d c1 := by
        rcases placeWith_routed (m := Diff.matchesNode eq k) (f := traverse eq b k) cs with
          ⟨c, _, hm, hfc⟩ | hnew
        · obtain ⟨h, hs, he⟩ := matchesNode_iff.mp hm
          exact ⟨_, hfc, traverse_cover k d c x hat' (HoldsEq.fill b k ⟨h, hs, Or.inr he⟩)⟩
        · refine ⟨_, hnew, traverse_cover k d Diff.empty x hat' ?_⟩
          cases b
          · exact ⟨k, Or.inr rfl, Or.inl rfl⟩
          · exact ⟨k, Or.inl rfl, Or.inl rfl⟩
      obtain ⟨c1, hc1, hex1⟩ := hplaced
      exact traverseKids_ex eq b (HoldsEq eq x) (fun n L R h => h.fill b n) ks d _ c1 hc1 hex1
    · exact traverseKids_cover ks _ kk d x hmem' hat
end
end cover

def twoPass (eq : INode → INode → Bool) (KL KR : List INode) : List Diff :=
  traverseKids eq false KR (traverseKids eq true KL [])

theorem compareWith_eq (eq : INode → INode → Bool) (l r : INode) :
    compareWith eq l r = .mk (some l) (some r) (twoPass eq l.kids r.kids) := by
  cases l; cases r; rfl

namespace Diff
structure Prov (l r : INode) (d : Nat) (L R : Option INode) : Prop where
  left : ∀ x, L = some x → INode.At l d x
  right : ∀ y, R = some y → INode.At r d y
  nonempty : L.isSome ∨ R.isSome

def Paired (eq : INode → INode → Bool) (d : Nat) (L R : Option INode) : Prop :=
  1 ≤ d → ∀ x y, L = some x → R = some y → eq x y = true
end Diff

theorem leftPass_all (eq : INode → INode → Bool) (l : INode) :
    Diff.All (fun d L R => (∀ x, L = some x → INode.At l d x) ∧ L.isSome = true ∧ R = none) 0
      (traverse eq true l Diff.empty) := by
  apply traverse_all eq true _ (fun d n => INode.At l d n) (fun d n k h hk => h.child hk) ?_
    l 0 Diff.empty (INode.At.root l) (Or.inl ⟨rfl, rfl⟩) (Or.inr ⟨rfl, rfl⟩) nofun
  intro d n D hq _ hp
  have hR : D.right = none := hp.elim (·.2.2) (·.2)
  rw [hR, fillR_true]
  cases hl : D.left with
  | some x0 =>
    rw [fillL_some]
    rcases hp with hp | hp
    · rw [hl] at hp
      exact ⟨hp.1, rfl, rfl⟩
    · rw [hp.1] at hl; cases hl
  | none => exact ⟨fun x hx => by cases hx; exact hq, rfl, rfl⟩

theorem compare_all (eq : INode → INode → Bool) (l r : INode) :
    Diff.All (fun d L R => Prov l r d L R ∧ Paired eq d L R) 0 (compareWith eq l r) := by
  have hleft := leftPass_all eq l
  have unpaired : ∀ d L R, (∀ x, L = some x → INode.At l d x) ∧ L.isSome = true ∧ R = none →
      Prov l r d L R ∧ Paired eq d L R := by
    intro d L R h
    rw [h.2.2]
    exact ⟨⟨h.1, nofun, Or.inl h.2.1⟩, fun _ _ _ _ hy => nomatch hy⟩
  apply traverse_all eq false _ (fun d n => INode.At r d n) (fun d n k h hk => h.child hk) ?_
    r 0 _ (INode.At.root r) (Or.inr (Or.inl rfl)) (Or.inl (unpaired _ _ _ hleft.root))
    (fun c hc => (hleft.kids c hc).mono unpaired)
  intro d n D hq hadm hp
  -- what holds of the entry before: an entry without nodes satisfies the universal parts as well
  have hD : (∀ x, D.left = some x → INode.At l d x) ∧ (∀ y, D.right = some y → INode.At r d y) ∧
      Paired eq d D.left D.right := by
    rcases hp with hp | hp
    · exact ⟨hp.1.left, hp.1.right, hp.2⟩
    · rw [hp.1, hp.2]; exact ⟨nofun, nofun, fun _ _ _ h => nomatch h⟩
  rw [fillL_false]
  cases hr : D.right with
  | some y0 =>
    rw [fillR_some]
    exact ⟨⟨hD.1, hr ▸ hD.2.1, Or.inr rfl⟩, hr ▸ hD.2.2⟩
  | none =>
    refine ⟨⟨hD.1, fun y hy => by cases hy; exact hq, Or.inr rfl⟩, ?_⟩
    -- the right node is new here: it was routed to this entry because the left node `Equals` it
    intro hd x y hx hy
    cases hy
    rcases hadm with h | h | h
    · rw [h.1] at hx; cases hx
    · omega
    · obtain ⟨z, hz, he⟩ := matchesNode_iff.mp h
      rcases hz with hz | hz
      · rw [hx] at hz; cases hz; exact he
      · rw [hr] at hz; cases hz

theorem compare_entry (eq : INode → INode → Bool) (l r : INode) {d : Nat} {e : Diff}
    (he : EntryAt (compareWith eq l r) d e) : Prov l r d e.left e.right ∧ Paired eq d e.left e.right :=
  Nat.zero_add d ▸ (compare_all eq l r).entry he

end Gedcom

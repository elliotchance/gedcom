/-
  C13 — the heap a fresh decode builds from the text of a long-lived document is that document,
  renumbered.  `toForest (abs s)` is the forest the encoder writes, `flatForest` lays a forest out
  in preorder (the decoder's allocation order); `pre a` lists the live document's nodes in the same
  order, so "position ↦ live node" (`psi`) embeds the fresh heap into the live one.  Needs the
  live heap to be ranked (no cycles), which `TInv` gives for every state reachable from a decoded document.
-/
import Gedcom.Lemmas.CacheIso
import Gedcom.Lemmas.Node
namespace Gedcom.Cache

theorem flatForest_length (b : Nat) (fam : Nat) (ts : List Node) :
    (flatForest b fam ts).1.length = Forest.size ts := by
  induction ts using Forest.induct generalizing b fam with
  | nil => rfl
  | cons t v p ks ns ihk ihn =>
    rw [flatForest, Forest.size, List.length_append, ihn, flatNode, Node.size, List.length_cons, ihk]
    omega

theorem flatNode_length (b : Nat) (fam : Nat) (t : Node) : (flatNode b fam t).1.length = t.size := by
  have := flatForest_length b fam [t]
  rwa [flatForest, flatForest, List.append_nil, Forest.size, Forest.size, Nat.add_zero] at this

theorem rootsAt_bound : ∀ (ts : List Node) (b k : Nat), k ∈ rootsAt b ts → b ≤ k ∧ k < b + Forest.size ts
  | [], _, _, h => by simp [rootsAt] at h
  | n :: ns, b, k, h => by
    rw [rootsAt] at h
    rw [Forest.size]
    have hp := n.size_pos
    rcases List.mem_cons.mp h with h | h
    · subst h
      exact ⟨Nat.le_refl _, Nat.lt_add_of_pos_right (Nat.add_pos_left hp _)⟩
    · have := rootsAt_bound ns (b + n.size) k h
      exact ⟨Nat.le_trans (Nat.le_add_right _ _) this.1, Nat.add_assoc b _ _ ▸ this.2⟩

/-- record `j` of the block that starts at id `b` only has children with ids in `(b + j, hi)` -/
def KidsIn (b : Nat) (l : List NodeRec) (hi : Nat) : Prop :=
  ∀ (j : Nat) (r : NodeRec), l[j]? = some r → ∀ k : Nat, k ∈ r.kids → b + j < k ∧ k < hi

theorem KidsIn.append {b hi : Nat} {l1 l2 : List NodeRec} (h1 : KidsIn b l1 hi)
    (h2 : KidsIn (b + l1.length) l2 hi) : KidsIn b (l1 ++ l2) hi := by
  intro j r hj k hk
  by_cases hlt : j < l1.length
  · rw [List.getElem?_append_left hlt] at hj
    exact h1 j r hj k hk
  · have hge : l1.length ≤ j := Nat.le_of_not_lt hlt
    rw [List.getElem?_append_right hge] at hj
    have := h2 (j - l1.length) r hj k hk
    rwa [Nat.add_assoc, Nat.add_sub_cancel' hge] at this

theorem KidsIn.mono {b hi hi' : Nat} {l : List NodeRec} (h : KidsIn b l hi) (hle : hi ≤ hi') :
    KidsIn b l hi' := fun j r hj k hk => ⟨(h j r hj k hk).1, Nat.lt_of_lt_of_le (h j r hj k hk).2 hle⟩

theorem flatForest_kidsIn (b : Nat) (fam : Nat) (ts : List Node) :
    KidsIn b (flatForest b fam ts).1 (b + Forest.size ts) := by
  induction ts using Forest.induct generalizing b fam with
  | nil => intro j r hj; simp [flatForest] at hj
  | cons tg v p ks ns ihk ihn =>
    rw [flatForest, Forest.size]
    refine KidsIn.append (KidsIn.mono ?_ (Nat.add_le_add_left (Nat.le_add_right _ _) b)) ?_
    · rw [flatNode, Node.size]
      intro j r hj k hk
      cases j with
      | zero =>
        cases hj
        have := rootsAt_bound ks (b + 1) k hk
        omega
      | succ j =>
        have := ihk (b + 1) (if tg == tFAM then b else fam) j r hj k hk
        omega
    · rw [flatNode_length]
      exact (ihn _ _).mono (Nat.le_of_eq (Nat.add_assoc _ _ _))

theorem flatNode_kidsIn (b : Nat) (fam : Nat) (t : Node) :
    KidsIn b (flatNode b fam t).1 (b + t.size) := by
  have := flatForest_kidsIn b fam [t]
  rwa [flatForest, flatForest, List.append_nil, Forest.size, Forest.size, Nat.add_zero] at this

/-- the nodes below `n` in preorder, cut at depth `fuel` -/
def sub (a : Abs) : Nat → Id → List Id
  | 0, n => [n]
  | fuel + 1, n => n :: (a.kids n).flatMap (sub a fuel)

/-- `fuel` reaches the leaves below `n`: what is cut off has no children -/
def Suf (a : Abs) : Nat → Id → Prop
  | 0, n => a.kids n = []
  | fuel + 1, n => ∀ c ∈ a.kids n, Suf a fuel c

/-- `ψ` sends the ids `b, b+1, …` to the elements of `l` -/
def Block (ψ : Id → Id) (b : Nat) (l : List Id) : Prop := ∀ (j : Nat) (m : Id), l[j]? = some m → ψ (b + j) = m

theorem Block.left {ψ : Id → Id} {b : Nat} {l1 l2 : List Id} (h : Block ψ b (l1 ++ l2)) : Block ψ b l1 := by
  intro j m hj
  have hlt : j < l1.length := lt_of_getElem? hj
  exact h j m (by rw [List.getElem?_append_left hlt]; exact hj)

theorem Block.right {ψ : Id → Id} {b : Nat} {l1 l2 : List Id} (h : Block ψ b (l1 ++ l2)) :
    Block ψ (b + l1.length) l2 := by
  intro j m hj
  have := h (l1.length + j) m (by
    rw [List.getElem?_append_right (Nat.le_add_right _ _)]
    simpa using hj)
  rw [Nat.add_assoc]; exact this

/-- a record of the fresh heap mirrors live node `m`: same tag, value, pointer; its children are
    the positions of `m`'s children -/
def MirrorRec (a : Abs) (ψ : Id → Id) (r : NodeRec) (m : Id) : Prop :=
  r.tag = a.tag m ∧ r.value = a.value m ∧ r.ptr = a.ptr m ∧ r.kids.map ψ = a.kids m

def Mirror (a : Abs) (ψ : Id → Id) (l : List NodeRec) (ids : List Id) : Prop :=
  l.length = ids.length ∧ ∀ (j : Nat) (r : NodeRec) (m : Id), l[j]? = some r → ids[j]? = some m → MirrorRec a ψ r m

theorem Mirror.append {a : Abs} {ψ : Id → Id} {l1 l2 : List NodeRec} {i1 i2 : List Id}
    (h1 : Mirror a ψ l1 i1) (h2 : Mirror a ψ l2 i2) : Mirror a ψ (l1 ++ l2) (i1 ++ i2) := by
  refine ⟨by simp [h1.1, h2.1], ?_⟩
  intro j r m hr hm
  by_cases hlt : j < l1.length
  · rw [List.getElem?_append_left hlt] at hr
    rw [List.getElem?_append_left (h1.1 ▸ hlt)] at hm
    exact h1.2 j r m hr hm
  · have hge : l1.length ≤ j := Nat.le_of_not_lt hlt
    rw [List.getElem?_append_right hge] at hr
    rw [List.getElem?_append_right (h1.1 ▸ hge), ← h1.1] at hm
    exact h2.2 _ r m hr hm

theorem sub_head (a : Abs) (fuel : Nat) (n : Id) : (sub a fuel n)[0]? = some n := by
  cases fuel <;> rfl

/-- the forest step, given the node step at the same fuel -/
theorem flatForest_mirror (a : Abs) (ψ : Id → Id) (fuel : Nat)
    (hN : ∀ (n : Id) (b fam : Nat), Suf a fuel n → Block ψ b (sub a fuel n) →
      Mirror a ψ (flatNode b fam (toNode a fuel n)).1 (sub a fuel n)) :
    ∀ (ks : List Id) (b fam : Nat), (∀ c ∈ ks, Suf a fuel c) → Block ψ b (ks.flatMap (sub a fuel)) →
      Mirror a ψ (flatForest b fam (ks.map (toNode a fuel))).1 (ks.flatMap (sub a fuel)) ∧
      (rootsAt b (ks.map (toNode a fuel))).map ψ = ks
  | [], b, fam, _, _ =>
    ⟨⟨by simp [flatForest], fun j r m hr => by simp [flatForest] at hr⟩, by simp [rootsAt]⟩
  | c :: cs, b, fam, hs, hb => by
    simp only [List.map_cons, List.flatMap_cons] at hb ⊢
    rw [flatForest, rootsAt]
    have h1 := hN c b fam (hs c List.mem_cons_self) hb.left
    have hb2 := hb.right
    -- the block of `c` is as long as its preorder listing: both lengths are in the mirror just built
    rw [← (flatNode_length b fam (toNode a fuel c)).symm.trans h1.1] at hb2
    have h2 := flatForest_mirror a ψ fuel hN cs (b + (toNode a fuel c).size) (flatNode b fam (toNode a fuel c)).2
      (fun d hd => hs d (List.mem_cons_of_mem _ hd)) hb2
    refine ⟨h1.append h2.1, ?_⟩
    simp only [List.map_cons]
    rw [show ψ b = c from hb.left 0 c (sub_head a fuel c), h2.2]

theorem Mirror.single {a : Abs} {ψ : Id → Id} {r : NodeRec} {m : Id} (h : MirrorRec a ψ r m) : Mirror a ψ [r] [m] := by
  refine ⟨rfl, fun j r' m' hr hm => ?_⟩
  cases j with
  | zero => cases hr; cases hm; exact h
  | succ j => cases hr

/-- **the fresh heap mirrors the live one** below one node -/
theorem flatNode_mirror (a : Abs) (ψ : Id → Id) : ∀ (fuel : Nat) (n : Id) (b fam : Nat),
    Suf a fuel n → Block ψ b (sub a fuel n) →
    Mirror a ψ (flatNode b fam (toNode a fuel n)).1 (sub a fuel n)
  | 0, n, b, fam, hs, _ => by
    rw [toNode, flatNode, sub]
    rw [Suf] at hs
    exact Mirror.single ⟨rfl, rfl, rfl, hs.symm ▸ rfl⟩
  | fuel + 1, n, b, fam, hs, hb => by
    rw [toNode, flatNode, sub]
    rw [sub] at hb
    rw [Suf] at hs
    have hF := flatForest_mirror a ψ fuel (flatNode_mirror a ψ fuel) (a.kids n) (b + 1)
      (if a.tag n == tFAM then b else fam) hs (Block.right (l1 := [n]) hb)
    exact (Mirror.single ⟨rfl, rfl, rfl, hF.2⟩).append hF.1

/-- a rank that grows strictly from parent to child and stays below the heap size -/
def Ranked (a : Abs) : Prop :=
  ∃ rk : Nat → Nat, (∀ n : Nat, n < a.heap.length → rk n < a.heap.length) ∧
    ∀ (n c : Nat), c ∈ a.kids n → rk n < rk c

theorem suf_of_rank {a : Abs} (w : AWF a) (rk : Nat → Nat)
    (h1 : ∀ n : Nat, n < a.heap.length → rk n < a.heap.length)
    (h2 : ∀ (n c : Nat), c ∈ a.kids n → rk n < rk c) :
    ∀ (fuel n : Nat), a.heap.length ≤ rk n + fuel → Suf a fuel n
  | 0, n, h => by
    rw [Suf]
    apply List.eq_nil_iff_forall_not_mem.mpr
    intro c hc
    have e1 := h2 n c hc
    have e2 := h1 c (w.kids n c hc)
    omega
  | fuel + 1, n, h => by
    rw [Suf]
    intro c hc
    apply suf_of_rank w rk h1 h2 fuel c
    have := h2 n c hc
    omega

theorem Mono.ranked {a : Abs} (h : Mono a) : Ranked a :=
  ⟨fun n => n, fun _ hn => hn, h⟩

theorem suf_root {a : Abs} (w : AWF a) (hr : Ranked a) (n : Nat) : Suf a a.heap.length n := by
  obtain ⟨rk, h1, h2⟩ := hr
  exact suf_of_rank w rk h1 h2 _ n (Nat.le_add_left _ _)

/-- the live document's attached nodes in preorder -/
def pre (a : Abs) : List Id := a.roots.flatMap (sub a a.heap.length)

/-- position in the fresh heap ↦ live node -/
def psi (a : Abs) (k : Id) : Id := ((pre a)[k]?).getD 0

theorem block_psi (a : Abs) : Block (psi a) 0 (pre a) := by
  intro j m hj
  simp [psi, hj]

theorem abs_ofForest (f : Forest) : abs (ofForest f) = ⟨(flatForest 0 0 f).1, rootsAt 0 f⟩ := rfl

theorem fresh_mirror {a : Abs} (w : AWF a) (hr : Ranked a) :
    Mirror a (psi a) (flatForest 0 0 (toForest a)).1 (pre a) ∧
    (rootsAt 0 (toForest a)).map (psi a) = a.roots := by
  unfold toForest
  exact flatForest_mirror a (psi a) a.heap.length (flatNode_mirror a (psi a) a.heap.length) a.roots 0 0
    (fun c _ => suf_root w hr c) (block_psi a)

theorem ofForest_kids (f : Forest) (n c : Nat) (hc : c ∈ (abs (ofForest f)).kids n) :
    n < c ∧ c < (abs (ofForest f)).heap.length := by
  rw [abs_ofForest] at hc ⊢
  simp only [Abs.kids] at hc
  cases hn : (flatForest 0 0 f).1[n]? with
  | none => rw [hn] at hc; simp at hc
  | some r =>
    rw [hn] at hc
    have := flatForest_kidsIn 0 0 f n r hn c hc
    show n < c ∧ c < (flatForest 0 0 f).1.length
    rw [flatForest_length]
    simpa using this

theorem ofForest_awf (f : Forest) : AWF (abs (ofForest f)) := by
  refine ⟨fun r hr => ?_, fun n c hc => (ofForest_kids f n c hc).2⟩
  have := (rootsAt_bound f 0 r hr).2
  show r < (flatForest 0 0 f).1.length
  rw [flatForest_length]; simpa using this

theorem mem_sub_lt {a : Abs} (w : AWF a) : ∀ (fuel : Nat) (n x : Id), n < a.heap.length →
    x ∈ sub a fuel n → x < a.heap.length
  | 0, n, x, hn, hx => by
    rw [sub] at hx
    have : x = n := by simpa using hx
    exact this ▸ hn
  | fuel + 1, n, x, hn, hx => by
    rw [sub] at hx
    rcases List.mem_cons.mp hx with h | h
    · exact h ▸ hn
    · obtain ⟨c, hc, hxc⟩ := List.mem_flatMap.mp h
      exact mem_sub_lt w fuel c x (w.kids n c hc) hxc

theorem mem_pre_lt {a : Abs} (w : AWF a) {x : Id} (hx : x ∈ pre a) : x < a.heap.length := by
  obtain ⟨r, hr, hxr⟩ := List.mem_flatMap.mp hx
  exact mem_sub_lt w _ r x (w.roots r hr) hxr

/-- `Mirror` through the accessors -/
theorem Mirror.get {a : Abs} {ψ : Id → Id} {l : List NodeRec} {ids : List Id} (hm : Mirror a ψ l ids)
    (hψ : Block ψ 0 ids) (r : List Id) {k : Nat} (hk : k < l.length) :
    ψ k ∈ ids ∧ a.tag (ψ k) = (Abs.mk l r).tag k ∧ a.value (ψ k) = (Abs.mk l r).value k ∧
    a.ptr (ψ k) = (Abs.mk l r).ptr k ∧ a.kids (ψ k) = ((Abs.mk l r).kids k).map ψ := by
  have hk' : k < ids.length := hm.1 ▸ hk
  have e1 : l[k]? = some l[k] := List.getElem?_eq_getElem hk
  have e2 : ids[k]? = some ids[k] := List.getElem?_eq_getElem hk'
  have e3 : ψ k = ids[k] := by
    have := hψ k _ e2
    rwa [Nat.zero_add] at this
  obtain ⟨h1, h2, h3, h4⟩ := hm.2 k _ _ e1 e2
  rw [e3]
  simp only [Abs.tag, Abs.value, Abs.ptr, Abs.kids, e1]
  exact ⟨List.getElem_mem hk', h1.symm, h2.symm, h3.symm, h4.symm⟩

/-- **the fresh heap embeds into the live one**: position ↦ live node preserves roots, tags,
    values, pointers and child lists -/
theorem fresh_iso {a : Abs} (w : AWF a) (hr : Ranked a) :
    Iso (fun k => k < (abs (ofForest (toForest a))).heap.length) (psi a) (abs (ofForest (toForest a))) a := by
  have wf := ofForest_awf (toForest a)
  rw [abs_ofForest] at wf ⊢
  have node := fun k hk => (fresh_mirror w hr).1.get (block_psi a) (rootsAt 0 (toForest a)) (k := k) hk
  exact ⟨fun r h => wf.roots r h, fun n c _ hc => wf.kids n c hc, (fresh_mirror w hr).2.symm,
    fun k hk => mem_pre_lt w (node k hk).1, fun k hk => (node k hk).2.1, fun k hk => (node k hk).2.2.1,
    fun k hk => (node k hk).2.2.2.1, fun k hk => (node k hk).2.2.2.2⟩

/-- … so every attached record of the live document is the image of a fresh node -/
theorem att_psi {a : Abs} (w : AWF a) (hr : Ranked a) {n : Id} (h : Att a n) :
    ∃ k, k < (abs (ofForest (toForest a))).heap.length ∧ psi a k = n :=
  (fresh_iso w hr).att h

/-- the invariant of reachable states: caches coherent, and the document a forest -/
def TInv (s : St) : Prop := Inv s ∧ Mono (abs s)

end Gedcom.Cache

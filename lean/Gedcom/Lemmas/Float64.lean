/-
  Integer-level facts about the binary64 model (`Model/Float64.lean`): the rounded quotient is
  within half a unit of the exact one, and the scale search finds the least scale that gives 53
  significant bits.  Core Lean only.
-/
import Gedcom.Model.Float64
namespace Gedcom.F64

/-- the rounded quotient `q'` of `N = n·2^k` by `d` is nearest, `|N − q'·d| ≤ d/2`, and even at a tie -/
theorem roundDiv_spec (n d k : Nat) (hd : 0 < d) :
    (2 * (n * 2 ^ k) ≤ 2 * (roundDiv n d k * d) + d ∧
      2 * (roundDiv n d k * d) ≤ 2 * (n * 2 ^ k) + d) ∧
    (2 * (roundDiv n d k * d) = 2 * (n * 2 ^ k) + d → roundDiv n d k % 2 = 0) ∧
    (2 * (n * 2 ^ k) = 2 * (roundDiv n d k * d) + d → roundDiv n d k % 2 = 0) := by
  unfold roundDiv
  simp only []
  generalize n * 2 ^ k = N
  have h := Nat.div_add_mod N d
  have hr := Nat.mod_lt N hd
  rw [Nat.mul_comm] at h
  have hs : (N / d + 1) * d = N / d * d + d := Nat.succ_mul _ _
  split
  · generalize N / d * d = Q at *; omega
  · split
    · rw [hs]; generalize N / d * d = Q at *; omega
    · split
      · generalize N / d * d = Q at *; omega
      · rw [hs]; generalize N / d * d = Q at *; omega

theorem roundDiv_floor (n d k : Nat) :
    n * 2 ^ k / d ≤ roundDiv n d k ∧ roundDiv n d k ≤ n * 2 ^ k / d + 1 := by
  unfold roundDiv
  simp only []
  split
  · omega
  · split
    · omega
    · split <;> omega

theorem roundDiv_exact (n d k q : Nat) (hd : 0 < d) (h : n * 2 ^ k = q * d) : roundDiv n d k = q := by
  unfold roundDiv
  simp only []
  rw [h]
  have h1 : q * d / d = q := Nat.mul_div_cancel _ hd
  have h2 : q * d % d = 0 := Nat.mul_mod_left _ _
  rw [h1, h2]
  simp [hd]

/-- The scale search from `k` with `fuel` steps returns a scale in `k .. k + fuel` that is
    sufficient unless the fuel ran out, and passes over insufficient scales only. -/
theorem fracBitsAux_spec (n d : Nat) : ∀ fuel k,
    k ≤ fracBitsAux n d fuel k ∧ fracBitsAux n d fuel k ≤ k + fuel ∧
    (2 ^ 52 * d ≤ n * 2 ^ fracBitsAux n d fuel k ∨ fracBitsAux n d fuel k = k + fuel) ∧
    ∀ j, k ≤ j → j < fracBitsAux n d fuel k → ¬ 2 ^ 52 * d ≤ n * 2 ^ j := by
  intro fuel
  induction fuel with
  | zero =>
    intro k
    refine ⟨Nat.le_refl _, Nat.le_refl _, .inr rfl, ?_⟩
    intro j hk hj
    exact absurd hj (Nat.not_lt.mpr hk)
  | succ f ih =>
    intro k
    unfold fracBitsAux
    split
    · next h =>
      refine ⟨Nat.le_refl _, by omega, .inl h, ?_⟩
      intro j hk hj
      exact absurd hj (Nat.not_lt.mpr hk)
    · next hnot =>
      obtain ⟨h1, h2, h3, h4⟩ := ih (k + 1)
      refine ⟨by omega, by omega, h3.imp id (by omega), ?_⟩
      intro j hk hj
      by_cases e : j = k
      · subst e; exact hnot
      · exact h4 j (by omega) hj

theorem fracBits_bound (n d : Nat) : fracBits n d ≤ 1100 := by
  have := (fracBitsAux_spec n d 1100 0).2.1
  unfold fracBits
  omega

theorem fracBits_ok_or (n d : Nat) : 2 ^ 52 * d ≤ n * 2 ^ fracBits n d ∨ fracBits n d = 1100 :=
  (fracBitsAux_spec n d 1100 0).2.2.1.imp id (by unfold fracBits; omega)

theorem fracBits_min (n d j : Nat) (hj : j < fracBits n d) : ¬ 2 ^ 52 * d ≤ n * 2 ^ j :=
  (fracBitsAux_spec n d 1100 0).2.2.2 j (Nat.zero_le _) hj

theorem fracBits_le (n d j : Nat) (hj : 2 ^ 52 * d ≤ n * 2 ^ j) : fracBits n d ≤ j :=
  Nat.not_lt.mp (fun h => fracBits_min n d j h hj)

/-- for a positive numerator and a denominator below 2^1000 the scale found is sufficient -/
theorem fracBits_ok (n d : Nat) (hn : 0 < n) (hd : d ≤ 2 ^ 1000) :
    2 ^ 52 * d ≤ n * 2 ^ fracBits n d := by
  rcases fracBits_ok_or n d with h | h
  · exact h
  · rw [h]
    calc 2 ^ 52 * d ≤ 2 ^ 52 * 2 ^ 1000 := Nat.mul_le_mul_left _ hd
      _ = 2 ^ 1052 := by rw [← Nat.pow_add]
      _ ≤ 2 ^ 1100 := Nat.pow_le_pow_right (by omega) (by omega)
      _ ≤ n * 2 ^ 1100 := Nat.le_mul_of_pos_left _ hn

/-- a value below `2^e` is scaled by at least `53 - e` bits, whether or not the search ended: where
    it ran out, 1100 bits are more than 53 -/
theorem scale_lower_total (n d e : Nat) (h : n < 2 ^ e * d) : 53 ≤ e + fracBits n d := by
  rcases fracBits_ok_or n d with hP | h1100
  · generalize fracBits n d = k at hP ⊢
    have h1 : n * 2 ^ k < 2 ^ e * d * 2 ^ k := Nat.mul_lt_mul_of_pos_right h (Nat.two_pow_pos k)
    have h2 : 2 ^ 52 * d < 2 ^ (e + k) * d := by
      calc 2 ^ 52 * d ≤ n * 2 ^ k := hP
        _ < 2 ^ e * d * 2 ^ k := h1
        _ = 2 ^ (e + k) * d := by rw [Nat.pow_add, Nat.mul_assoc, Nat.mul_assoc, Nat.mul_comm d]
    have h3 : 2 ^ 52 < 2 ^ (e + k) := Nat.lt_of_mul_lt_mul_right h2
    have := (Nat.pow_lt_pow_iff_right (a := 2) (by omega)).mp h3
    omega
  · omega

end Gedcom.F64

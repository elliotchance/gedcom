/-
  The model's deterministic `Dec.parseLine` is the backtracking semantics (`Regex.find`) of the
  line pattern translated from decoder.go (`Generated.lineRegex`) followed by the field
  extraction `parseLine` performs on the submatches.  Helper lemmas; the property theorem is in
  Props/C02.lean.
-/
import Gedcom.Model.Regex
import Gedcom.Lemmas.Line

namespace Gedcom.Regex
open Gedcom Gedcom.Dec

/-- when the continuation cannot start with a byte of the class, only the longest run is tried
    with effect: the result is the continuation's at the longest run -/
theorem starG_max (t : UInt8 → Bool) (k : Str → Str → Option Caps)
    (hk : ∀ acc b r, t b = true → k acc (b :: r) = none) :
    ∀ (s acc : Str), starG t acc s k = k ((s.takeWhile t).reverse ++ acc) (s.dropWhile t) := by
  intro s
  induction s with
  | nil => intro acc; simp [starG]
  | cons b r ih =>
    intro acc
    by_cases hb : t b = true
    · simp only [starG, hb, ↓reduceIte, List.takeWhile_cons, List.dropWhile_cons]
      rw [ih (b :: acc), hk acc b r hb]
      simp only [List.reverse_cons, List.append_assoc, List.singleton_append]
      cases k ((List.takeWhile t r).reverse ++ b :: acc) (List.dropWhile t r) <;> rfl
    · simp [starG, hb]

/-- the longest run is tried first: if the continuation succeeds there, that is the result -/
theorem starG_first (t : UInt8 → Bool) (k : Str → Str → Option Caps) :
    ∀ (s acc : Str) (x : Caps),
      k ((s.takeWhile t).reverse ++ acc) (s.dropWhile t) = some x → starG t acc s k = some x := by
  intro s
  induction s with
  | nil => intro acc x h; simpa [starG] using h
  | cons b r ih =>
    intro acc x h
    by_cases hb : t b = true
    · simp only [List.takeWhile_cons, hb, ↓reduceIte, List.dropWhile_cons, List.reverse_cons,
        List.append_assoc, List.singleton_append] at h
      simp only [starG, hb, ↓reduceIte]
      rw [ih (b :: acc) x h]
    · simp only [List.takeWhile_cons, hb, List.dropWhile_cons] at h
      simp only [starG, hb]
      simpa using h

/-- `cl+` before something that cannot start inside the class takes the longest run -/
theorem run_plus_max (cl : Cls) (k : Str → Str → Caps → Option Caps) (c : Caps)
    (hk : ∀ acc b r, cl.test b = true → k acc (b :: r) c = none) (acc s : Str) :
    run (.plus cl) acc s c k =
      if s.takeWhile cl.test = [] then none
      else k ((s.takeWhile cl.test).reverse ++ acc) (s.dropWhile cl.test) c := by
  cases s with
  | nil => rfl
  | cons b r =>
    by_cases hb : cl.test b = true
    · simp only [run, hb, ↓reduceIte, List.takeWhile_cons, List.dropWhile_cons]
      rw [starG_max cl.test _ hk r (b :: acc), if_neg (List.cons_ne_nil _ _), List.reverse_cons,
        List.append_assoc, List.singleton_append]
    · simp only [run, hb, List.takeWhile_cons, Bool.false_eq_true, ↓reduceIte]

def digitCls : Cls := .ranges [(48, 57)]
def spaceCls : Cls := .ranges [(32, 32)]
def notAtCls : Cls := .ranges [(0, 63), (65, 1114111)]
def wordCls : Cls := .ranges [(48, 57), (65, 90), (95, 95), (97, 122)]

-- on bytes, each class of the pattern is the model's test: sweeps over the 256 bytes

theorem digit_fun : digitCls.test = isDigit := test_eq_of_bytes (by decide +kernel)
theorem space_fun : spaceCls.test = (fun b => b == SP) := test_eq_of_bytes (by decide +kernel)
theorem notAt_fun : notAtCls.test = (fun b => b != AT) := test_eq_of_bytes (by decide +kernel)
theorem word_fun : wordCls.test = isWord := test_eq_of_bytes (by decide +kernel)

theorem anyNotNL_test (b : UInt8) : Cls.anyNotNL.test b = (b != LF) := rfl

/-- `(.*)?$` -/
def restRe : Re := .seq (.quest (.cap 4 (.star .anyNotNL))) .eol
/-- ` ?(.*)?$` -/
def tailRe : Re := .seq (.quest (.lit [32])) restRe
/-- `(\w+) ?(.*)?$` -/
def tagRe : Re := .seq (.cap 3 (.plus wordCls)) tailRe
/-- `(@[^@]+@ )` -/
def ptrGroup : Re := .cap 2 (.seq (.lit [64]) (.seq (.plus notAtCls) (.lit [64, 32])))
/-- `(@[^@]+@ )?(\w+) ?(.*)?$` -/
def afterSpaces : Re := .seq (.quest ptrGroup) tagRe
/-- ` +(@[^@]+@ )?(\w+) ?(.*)?$` -/
def spacesRe : Re := .seq (.plus spaceCls) afterSpaces
/-- `(\d+) +(@[^@]+@ )?(\w+) ?(.*)?$` — the pattern of decoder.go after its leading `^` -/
def expected : Re := .seq (.cap 1 (.plus digitCls)) spacesRe

/-- the final continuation of `find` -/
def kf : Str → Str → Caps → Option Caps := fun _ _ c => some c

theorem noLF_all (s : Str) (h : LF ∉ s) : ∀ b ∈ s, Cls.anyNotNL.test b = true := by
  intro b hb
  simp only [Cls.test, bne_iff_ne, ne_eq]
  intro e; subst e; exact h hb

theorem rest_run (acc s : Str) (c : Caps) (h : LF ∉ s) :
    run restRe acc s c kf = some (c.set 4 s) := by
  simp only [restRe, run]
  rw [starG_first Cls.anyNotNL.test _ s [] (c.set 4 s)]
  rw [(takeWhile_all _ s (noLF_all s h)).1, (takeWhile_all _ s (noLF_all s h)).2]
  simp [kf]

theorem tail_run (acc s : Str) (c : Caps) (h : LF ∉ s) :
    run tailRe acc s c kf = some (c.set 4 (afterTag s)) := by
  cases s with
  | nil =>
    simp only [tailRe, run, litG]
    rw [rest_run acc [] c h]; rfl
  | cons b r =>
    have hr : LF ∉ r := fun hm => h (by simp [hm])
    by_cases hb : b = SP
    · subst hb
      simp only [tailRe, run, litG, afterTag]
      have : SP.toNat = 32 := rfl
      simp only [this, ↓reduceIte]
      rw [rest_run _ r c hr]
      simp
    · have hne : ¬ b.toNat = 32 := toNat_ne hb
      simp only [tailRe, run, litG, hne, ↓reduceIte, afterTag]
      rw [rest_run acc (b :: r) c h]
      have : (b == SP) = false := by simpa using hb
      simp [this]

/-- what the tag stage yields -/
def tagRes (c : Caps) (r : Str) : Option Caps :=
  if r.takeWhile isWord = [] then none
  else some ((c.set 3 (r.takeWhile isWord)).set 4 (afterTag (r.dropWhile isWord)))

theorem noLF_dropWhile (p : UInt8 → Bool) (s : Str) (h : LF ∉ s) : LF ∉ s.dropWhile p :=
  fun hm => h ((List.dropWhile_sublist p).subset hm)

theorem tag_run (acc r : Str) (c : Caps) (h : LF ∉ r) :
    run tagRe acc r c kf = tagRes c r := by
  cases r with
  | nil => simp [tagRe, run, tagRes]
  | cons b r' =>
    have hr : LF ∉ r' := fun hm => h (by simp [hm])
    simp only [tagRe, run, word_fun, tagRes, List.takeWhile_cons, List.dropWhile_cons]
    by_cases hb : isWord b = true
    · simp only [hb, ↓reduceIte]
      rw [starG_first isWord _ r' [b]
        ((c.set 3 (b :: r'.takeWhile isWord)).set 4 (afterTag (r'.dropWhile isWord)))]
      · simp
      · show run tailRe _ _ _ kf = _
        rw [tail_run _ _ _ (noLF_dropWhile isWord r' hr)]
        simp
    · simp [hb]

theorem tagRes_notWord (c : Caps) (b : UInt8) (r : Str) (hb : isWord b = false) :
    tagRes c (b :: r) = none := by
  simp [tagRes, hb]

/-- what the optional pointer group followed by the tag stage yields -/
def ptrRes (c : Caps) (r2 : Str) : Option Caps :=
  match parsePtr r2 with
  | none => none
  | some (ptr, r) => tagRes (if ptr = [] then c else c.set 2 (AT :: ptr ++ [AT, SP])) r

theorem litG_at_none (acc : Str) (b : UInt8) (r : Str) (hb : (b != AT) = true) :
    litG [64, 32] acc (b :: r) = none := by
  have : ¬ b.toNat = 64 := toNat_ne (bne_iff_ne.mp hb)
  simp [litG, this]

theorem ptr_run (acc r2 : Str) (c : Caps) (h : LF ∉ r2) :
    run afterSpaces acc r2 c kf = ptrRes c r2 := by
  by_cases h0 : r2.head? = some AT
  · obtain ⟨r3, rfl⟩ : ∃ r3, r2 = AT :: r3 := by
      cases r2 with
      | nil => cases h0
      | cons a b => exact ⟨b, by cases h0; rfl⟩
    have h3 : LF ∉ r3 := fun hm => h (by simp [hm])
    have hAT : AT.toNat = 64 := rfl
    have fallback : run tagRe acc (AT :: r3) c kf = none := by
      rw [tag_run acc _ c h, tagRes_notWord c AT r3 (by decide)]
    -- `\w+` cannot start at `@`: only the group can match
    rw [afterSpaces, run, run, fallback, ptrGroup, run, run, run]
    simp only [litG, hAT, ↓reduceIte]
    -- `[^@]+` runs to the next `@`; the literal `@ ` must follow
    rw [run, run_plus_max notAtCls _ c (fun acc' b r hb => by
        rw [notAt_fun] at hb; simp only [run, litG_at_none acc' b r hb]), notAt_fun]
    simp only [ptrRes, parsePtr, beq_self_eq_true, ↓reduceIte, run]
    match hm : r3.dropWhile (· != AT), noLF_dropWhile (· != AT) r3 h3 with
    | [], _ => simp [litG]
    | [a], _ => by_cases ha : a.toNat = 64 <;> simp [litG, ha]
    | a :: b :: r5, hdw =>
      have h5 : LF ∉ r5 := fun hm5 => hdw (by simp [hm5])
      by_cases ha : a = AT
      · subst ha
        by_cases hb : b = SP
        · subst hb
          have hSP : SP.toNat = 32 := rfl
          simp only [litG, hAT, hSP, ↓reduceIte]
          rw [tag_run _ r5 _ h5]
          by_cases hp : r3.takeWhile (· != AT) = []
          · simp [hp]
          · simp [hp]
            cases tagRes _ r5 <;> rfl
        · have hne : ¬ b.toNat = 32 := toNat_ne hb
          have : (b == SP) = false := by simpa using hb
          simp [litG, hAT, hne, this]
      · have hne : ¬ a.toNat = 64 := toNat_ne ha
        have : (a == AT) = false := by simpa using ha
        simp [litG, hne, this]
  · -- no `@` first: the group fails at its first byte
    have hl : litG [64] [] r2 = none := by
      cases r2 with
      | nil => rfl
      | cons c0 r3 =>
        have : ¬ c0.toNat = 64 := toNat_ne (fun e => h0 (congrArg some e))
        simp [litG, this]
    have hp : parsePtr r2 = some ([], r2) := parsePtr_iff.mpr ⟨rfl, nofun, fun _ => h0⟩
    rw [afterSpaces, run, run, ptrGroup, run, run, run, hl, tag_run acc r2 c h, ptrRes, hp]
    rfl

/-- after the spaces neither the pointer group (`@`) nor the tag (`\w`) can start with a space -/
theorem afterSpaces_space (acc r : Str) (c : Caps) : run afterSpaces acc (SP :: r) c kf = none := by
  have : ¬ SP.toNat = 64 := by decide
  simp [afterSpaces, ptrGroup, run, litG, tagRe, word_fun, isWord_SP, this]

/-- what ` +` followed by the rest yields -/
def spacesRes (c : Caps) (r1 : Str) : Option Caps :=
  if r1.takeWhile (· == SP) = [] then none else ptrRes c (r1.dropWhile (· == SP))

theorem spaces_run (acc r1 : Str) (c : Caps) (h : LF ∉ r1) :
    run spacesRe acc r1 c kf = spacesRes c r1 := by
  rw [spacesRe, run, run_plus_max spaceCls _ c (fun acc' b r hb => by
    rw [space_fun, beq_iff_eq] at hb
    rw [hb]; exact afterSpaces_space acc' r c), space_fun, ptr_run _ _ c (noLF_dropWhile _ r1 h)]
  rfl

/-- what the whole pattern yields -/
def lineRes (s : Str) : Option Caps :=
  if s.takeWhile isDigit = [] then none
  else spacesRes (Caps.set (fun _ => []) 1 (s.takeWhile isDigit)) (s.dropWhile isDigit)

theorem spacesRes_digit (c : Caps) (b : UInt8) (r : Str) (hb : isDigit b = true) :
    spacesRes c (b :: r) = none := by
  obtain ⟨_, _, hsp, _⟩ := isDigit_not_break hb
  have : (b == SP) = false := beq_eq_false_iff_ne.mpr hsp
  simp [spacesRes, this]

theorem spaces_digit_none (acc : Str) (c : Caps) (b : UInt8) (r : Str) (hb : isDigit b = true) :
    run spacesRe acc (b :: r) c kf = none := by
  obtain ⟨_, _, hsp, _⟩ := isDigit_not_break hb
  have : (b == SP) = false := beq_eq_false_iff_ne.mpr hsp
  simp [spacesRe, run, space_fun, this]

theorem find_expected (s : Str) (h : LF ∉ s) : find expected s = lineRes s := by
  show run expected [] s (fun _ => []) kf = lineRes s
  rw [expected, run, run, run_plus_max digitCls _ _ (fun acc' b r hb => by
    rw [digit_fun] at hb
    exact spaces_digit_none _ _ b r hb), digit_fun, List.append_nil, List.append_nil, List.reverse_reverse,
    spaces_run _ _ _ (noLF_dropWhile _ s h)]
  rfl

/-- what `parseLine` (decoder.go) does with the submatches: `indent, _ := strconv.Atoi(parts[1])`,
    `pointer = parts[2][1 : len(parts[2])-2]` when `parts[2] != ""`, `TagFromString(parts[3])`,
    `value := parts[4]`.  (`Atoi` saturates at the largest `int`; the model keeps the exact
    number — see the trusted base of C01–C03.) -/
def fields (c : Caps) : Line :=
  ⟨decToNat (c 1), if c 2 = [] then [] else ((c 2).take ((c 2).length - 2)).drop 1, c 3, c 4⟩

theorem ptr_slice (ptr : Str) :
    ((AT :: ptr ++ [AT, SP]).take ((AT :: ptr ++ [AT, SP]).length - 2)).drop 1 = ptr := by
  have : (AT :: ptr ++ [AT, SP]).length - 2 = (AT :: ptr).length := by simp
  rw [this]
  have : AT :: ptr ++ [AT, SP] = (AT :: ptr) ++ [AT, SP] := rfl
  rw [this, List.take_left' rfl]
  rfl

theorem fields_lineRes (s : Str) : (lineRes s).map fields = parseLine s := by
  unfold lineRes parseLine spacesRes ptrRes tagRes
  simp only
  by_cases h1 : s.takeWhile isDigit = []
  · simp [h1]
  · simp only [h1, ↓reduceIte]
    by_cases h2 : (s.dropWhile isDigit).takeWhile (· == SP) = []
    · simp [h2]
    · simp only [h2, ↓reduceIte]
      cases hp : parsePtr ((s.dropWhile isDigit).dropWhile (· == SP)) with
      | none => simp
      | some pr =>
        obtain ⟨ptr, r⟩ := pr
        simp only
        by_cases h3 : r.takeWhile isWord = []
        · simp [h3]
        · simp only [h3, ↓reduceIte, Option.map_some]
          by_cases hptr : ptr = []
          · subst hptr
            simp [fields, Caps.set]
          · simp only [hptr, ↓reduceIte, fields, Caps.set]
            simp

end Gedcom.Regex

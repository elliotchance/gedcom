/-
  Insertion sort by a comparator `lt : α → α → Bool`; the models of Go's `sort.SliceStable` are
  `insBy` / `insSort` for their own `lt` (stated next to each).  `insSort lt l` inserts from the
  right, an element going behind everything it is `lt`-below: the result is descending and keeps the
  order of `l` among elements that `lt` does not separate.  Core Lean only.
-/
import Gedcom.Lemmas.Basics
namespace Gedcom
variable {α : Type}

def insBy (lt : α → α → Bool) (x : α) : List α → List α
  | [] => [x]
  | e :: es => if lt x e then e :: insBy lt x es else x :: e :: es

def insSort (lt : α → α → Bool) (l : List α) : List α := l.foldr (insBy lt) []

/-- `lt` is a strict weak order on the elements of `l` -/
structure SWOOn (lt : α → α → Bool) (l : List α) : Prop where
  irrefl : ∀ a ∈ l, lt a a = false
  trans : ∀ a ∈ l, ∀ b ∈ l, ∀ c ∈ l, lt a b = true → lt b c = true → lt a c = true
  negTrans : ∀ a ∈ l, ∀ b ∈ l, ∀ c ∈ l, lt a c = true → lt a b = true ∨ lt b c = true

theorem SWOOn.of_mem {β : Type} {lt : α → α → Bool} {l : List α} (h : SWOOn lt l) (f : β → α) {l' : List β}
    (hm : ∀ b ∈ l', f b ∈ l) : SWOOn (fun a b => lt (f a) (f b)) l' :=
  ⟨fun a ha => h.irrefl _ (hm a ha), fun a ha b hb c hc => h.trans _ (hm a ha) _ (hm b hb) _ (hm c hc),
    fun a ha b hb c hc => h.negTrans _ (hm a ha) _ (hm b hb) _ (hm c hc)⟩

theorem swoOn_score (key : α → Rat) (l : List α) : SWOOn (fun a b => decide (key a < key b)) l := by
  refine ⟨fun a _ => decide_eq_false Rat.lt_irrefl, fun a _ b _ c _ h1 h2 => ?_, fun a _ b _ c _ h => ?_⟩
  · exact decide_eq_true (Std.lt_trans (of_decide_eq_true h1) (of_decide_eq_true h2))
  · by_cases hab : key a < key b
    · exact Or.inl (decide_eq_true hab)
    · exact Or.inr (decide_eq_true (Std.lt_of_le_of_lt (Rat.not_lt.mp hab) (of_decide_eq_true h)))

section
variable (lt : α → α → Bool)

theorem insBy_perm (x : α) : ∀ (l : List α), (insBy lt x l).Perm (x :: l)
  | [] => List.Perm.refl _
  | e :: es => by
    rw [insBy]
    by_cases h : lt x e = true
    · rw [if_pos h]
      exact (List.Perm.cons e (insBy_perm x es)).trans (List.Perm.swap x e es)
    · rw [if_neg h]

theorem insSort_perm : ∀ (l : List α), (insSort lt l).Perm l
  | [] => List.Perm.refl _
  | x :: xs => (insBy_perm lt x _).trans ((insSort_perm xs).cons x)

theorem mem_insSort {l : List α} {x : α} : x ∈ insSort lt l ↔ x ∈ l := (insSort_perm lt l).mem_iff

theorem insBy_comap {β : Type} (f : β → α) (x : β) : ∀ (acc : List β),
    (insBy (fun a b => lt (f a) (f b)) x acc).map f = insBy lt (f x) (acc.map f)
  | [] => rfl
  | e :: es => by
    rw [insBy, List.map_cons, insBy]
    by_cases hlt : lt (f x) (f e) = true
    · rw [if_pos hlt, if_pos hlt, List.map_cons, insBy_comap f x es]
    · rw [if_neg hlt, if_neg hlt]; rfl

theorem insSort_comap {β : Type} (f : β → α) : ∀ (l : List β),
    (insSort (fun a b => lt (f a) (f b)) l).map f = insSort lt (l.map f)
  | [] => rfl
  | x :: l => (insBy_comap lt f x _).trans (congrArg _ (insSort_comap f l))

/-- descending by `lt`; elements that `lt` does not separate stand in the order `tie` -/
def DescBy (tie : α → α → Prop) (p q : α) : Prop := lt q p = true ∨ (lt p q = false ∧ tie p q)
end

section
variable {lt : α → α → Bool} {l : List α} {tie : α → α → Prop}

theorem DescBy.not_lt (h : SWOOn lt l) {p q : α} (hp : p ∈ l) (hq : q ∈ l) (hd : DescBy lt tie p q) :
    lt p q = false := by
  rcases hd with hd | hd
  · cases hpq : lt p q with
    | false => rfl
    | true => exact (h.trans p hp q hq p hp hpq hd).symm.trans (h.irrefl p hp)
  · exact hd.1

theorem DescBy.asymm (h : SWOOn lt l) (ht : ∀ p q, tie p q → tie q p → False) {p q : α} (hp : p ∈ l)
    (hq : q ∈ l) (h1 : DescBy lt tie p q) (h2 : DescBy lt tie q p) : False := by
  have n1 := DescBy.not_lt h hp hq h1
  have n2 := DescBy.not_lt h hq hp h2
  rcases h1 with h1 | h1
  · rw [n2] at h1; cases h1
  · rcases h2 with h2 | h2
    · rw [n1] at h2; cases h2
    · exact ht p q h1.2 h2.2

/-- inserting `x`, which `tie` puts before all of `acc`, keeps a descending list descending -/
theorem insBy_desc (h : SWOOn lt l) (x : α) (hx : x ∈ l) : ∀ (acc : List α),
    (∀ e ∈ acc, e ∈ l ∧ tie x e) → acc.Pairwise (DescBy lt tie) → (insBy lt x acc).Pairwise (DescBy lt tie)
  | [], _, _ => List.pairwise_singleton _ _
  | e :: es, hacc, hp => by
    rw [insBy]
    rw [List.pairwise_cons] at hp
    have hes : ∀ z ∈ es, z ∈ l ∧ tie x z := fun z hz => hacc z (List.mem_cons_of_mem _ hz)
    by_cases hlt : lt x e = true
    · rw [if_pos hlt, List.pairwise_cons]
      refine ⟨?_, insBy_desc h x hx es hes hp.2⟩
      intro z hz
      rcases List.mem_cons.mp ((insBy_perm lt x es).mem_iff.mp hz) with rfl | hz
      · exact Or.inl hlt
      · exact hp.1 z hz
    · rw [if_neg hlt, List.pairwise_cons]
      have he := hacc e List.mem_cons_self
      refine ⟨?_, List.pairwise_cons.mpr hp⟩
      intro z hz
      refine Or.inr ⟨?_, (hacc z hz).2⟩
      rcases List.mem_cons.mp hz with rfl | hz
      · exact Bool.eq_false_iff.mpr hlt
      · cases hxz : lt x z with
        | false => rfl
        | true =>
          -- `x` is above `z` but not above `e`, so `e` is above `z`: but `e :: es` is descending
          rcases h.negTrans x hx e he.1 z (hes z hz).1 hxz with h1 | h1
          · exact absurd h1 hlt
          · exact h1.symm.trans (DescBy.not_lt h he.1 (hes z hz).1 (hp.1 z hz))

theorem insSort_desc (h : SWOOn lt l) : ∀ (il : List α), (∀ e ∈ il, e ∈ l) → il.Pairwise tie →
    (insSort lt il).Pairwise (DescBy lt tie)
  | [], _, _ => List.Pairwise.nil
  | x :: il, hl, ht => by
    rw [List.pairwise_cons] at ht
    exact insBy_desc h x (hl x List.mem_cons_self) _
      (fun e he => ⟨hl e (List.mem_cons_of_mem _ ((mem_insSort lt).mp he)), ht.1 e ((mem_insSort lt).mp he)⟩)
      (insSort_desc h il (fun e he => hl e (List.mem_cons_of_mem _ he)) ht.2)

theorem insSort_score_desc (key : α → Rat) (l : List α) :
    (insSort (fun a b => decide (key a < key b)) l).Pairwise (fun a b => key b ≤ key a) := by
  refine (insSort_desc (tie := fun _ _ => True) (swoOn_score key l) l (fun _ h => h)
    (List.pairwise_of_forall (fun _ _ => trivial))).imp_of_mem ?_
  intro a b ha hb hab
  exact Rat.not_lt.mp (of_decide_eq_false (DescBy.not_lt (swoOn_score key l)
    ((mem_insSort _).mp ha) ((mem_insSort _).mp hb) hab))

theorem insSort_unique (h : SWOOn lt l) (ht : ∀ p q, tie p q → tie q p → False) {il r : List α}
    (hl : ∀ e ∈ il, e ∈ l) (hil : il.Pairwise tie) (hperm : r.Perm il) (hr : r.Pairwise (DescBy lt tie)) :
    r = insSort lt il := by
  apply List.Perm.eq_of_pairwise _ hr (insSort_desc h il hl hil) (hperm.trans (insSort_perm lt il).symm)
  intro a b ha hb hab hba
  exact (DescBy.asymm h ht (hl a (hperm.mem_iff.mp ha)) (hl b ((mem_insSort lt).mp hb)) hab hba).elim
end

end Gedcom

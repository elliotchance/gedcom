/-
  C13 — views do not depend on how nodes are numbered: if `φ` maps the attached nodes of one
  document onto the nodes of another, preserving roots, tag, value, pointer and child lists,
  every view of the second is the `φ`-image of the view of the first.  This is what connects the
  heap of a long-lived document with the heap a fresh decode of its text allocates.
-/
import Gedcom.Lemmas.Cache
namespace Gedcom.Cache

/-- attached = reachable from a root record -/
inductive Att (a : Abs) : Id → Prop
  | root {r : Id} : r ∈ a.roots → Att a r
  | kid {n c : Id} : Att a n → c ∈ a.kids n → Att a c

/-- `φ` embeds the part `D` of `a` (a set of nodes containing the roots and closed under children,
    e.g. the attached nodes) into `a'` -/
structure Iso (D : Id → Prop) (φ : Id → Id) (a a' : Abs) : Prop where
  droot : ∀ r, r ∈ a.roots → D r
  dkid : ∀ n c, D n → c ∈ a.kids n → D c
  roots : a'.roots = a.roots.map φ
  lt : ∀ n, D n → φ n < a'.heap.length
  tag : ∀ n, D n → a'.tag (φ n) = a.tag n
  value : ∀ n, D n → a'.value (φ n) = a.value n
  ptr : ∀ n, D n → a'.ptr (φ n) = a.ptr n
  kids : ∀ n, D n → a'.kids (φ n) = (a.kids n).map φ

theorem Att.lt {a : Abs} (w : AWF a) {n : Id} (h : Att a n) : n < a.heap.length := by
  induction h with
  | root hr => exact w.roots _ hr
  | kid _ hc _ => exact w.kids _ _ hc

theorem Iso.refl {a : Abs} (w : AWF a) : Iso (Att a) id a a :=
  ⟨fun _ h => Att.root h, fun _ _ h hc => Att.kid h hc, by simp, fun _ h => h.lt w, fun _ _ => rfl,
   fun _ _ => rfl, fun _ _ => rfl, fun _ _ => by simp⟩

variable {D : Id → Prop} {φ : Id → Id} {a a' : Abs}

theorem Iso.sameRoots (iso : Iso D φ a a') : SameRoots φ a a' :=
  ⟨iso.roots, fun r hr => iso.tag r (iso.droot r hr), fun r hr => iso.ptr r (iso.droot r hr)⟩

theorem Iso.nwt (iso : Iso D φ a a') {n : Id} (t : Str) (hn : D n) :
    specNWT a' (φ n) t = (specNWT a n t).map φ :=
  specNWT_map t (iso.kids n hn) fun c hc => iso.tag c (iso.dkid n c hn hc)

theorem Iso.famSim (iso : Iso D φ a a') : FamSim φ D a a' := by
  have R := iso.sameRoots
  have dfam : ∀ f ∈ specFamilies a, D f := fun f hf => iso.droot f (List.mem_filter.mp hf).1
  exact ⟨⟨[], by rw [specFamilies_map R, List.append_nil], fun _ h => absurd h List.not_mem_nil⟩,
    fun f hf t => iso.nwt t (dfam f hf),
    fun f hf c hc _ => iso.value c (iso.dkid f c (dfam f hf) hc),
    fun f hf c hc _ => specIndividualOf_map R (iso.value c (iso.dkid f c (dfam f hf) hc)),
    iso.droot, iso.ptr⟩

theorem Iso.att (iso : Iso D φ a a') {n : Id} (h : Att a' n) : ∃ k, D k ∧ φ k = n := by
  induction h with
  | root hr =>
    rw [iso.roots] at hr
    obtain ⟨k, hk, e⟩ := List.mem_map.mp hr
    exact ⟨k, iso.droot k hk, e⟩
  | kid _ hc ih =>
    obtain ⟨k, hk, rfl⟩ := ih
    rw [iso.kids k hk] at hc
    obtain ⟨c, hc', e⟩ := List.mem_map.mp hc
    exact ⟨c, iso.dkid k c hk hc', e⟩

theorem specView_iso (iso : Iso D φ a a') (v : View) (hs : ∀ n, v.subject = some n → D n) :
    specView a' (v.map φ) = (specView a v).map φ := by
  have R := iso.sameRoots
  cases v with
  | nodesWithTag n t | famChildren n | names n | eventsOf n t =>
    simp only [View.map, specView, Obs.map, specFamChildren, iso.nwt _ (hs n rfl), List.map_map]; rfl
  | individuals => simp only [View.map, specView, Obs.map, specIndividuals_map R, List.map_map]; rfl
  | families => simp only [View.map, specView, Obs.map, specFamilies_map R, List.map_map]; rfl
  | byPointer p => simp only [View.map, specView, Obs.map, specByPtr_map R, List.map_cons, List.map_nil]
  | indFamilies i =>
    simp only [View.map, specView, Obs.map, specIndFamilies_sim iso.famSim (hs i rfl), List.map_map]; rfl
  | spouses i => simp only [View.map, specView, Obs.map, specSpouses_sim iso.famSim (hs i rfl)]
  | parents i =>
    simp only [View.map, specView, Obs.map, specParents_sim iso.famSim (hs i rfl), List.map_map]; rfl
  | children i =>
    simp only [View.map, specView, Obs.map, specChildren_sim iso.famSim (hs i rfl), List.map_map]; rfl
  | husband f | wife f =>
    simp only [View.map, specView, Obs.map, specHusband, specWife, iso.nwt _ (hs f rfl), List.head?_map,
      List.map_cons, List.map_nil]
  | allEvents i =>
    simp only [View.map, specView, Obs.map, List.map_map,
      specAllEvents_map (iso.kids i (hs i rfl)) fun c hc => iso.tag c (iso.dkid i c (hs i rfl) hc)]; rfl

theorem ok_iso (iso : Iso D φ a a') (v : View) (hs : ∀ n, v.subject = some n → D n)
    (hok : v.ok a = true) : (v.map φ).ok a' = true := by
  have indi : ∀ i, D i → isIndi a i = true → isIndi a' (φ i) = true := by
    intro i hi h
    have ⟨h1, h2⟩ := isIndi_iff.mp h
    exact isIndi_iff.mpr ⟨iso.roots ▸ List.mem_map_of_mem h1, (iso.tag i hi).trans h2⟩
  have fam : ∀ f, D f → isFam a f = true → isFam a' (φ f) = true := by
    intro f hf h
    exact isFam_iff.mpr ((iso.tag f hf).trans (isFam_iff.mp h))
  cases v with
  | nodesWithTag n t => simpa [View.map, View.ok] using iso.lt n (hs n rfl)
  | individuals | families | byPointer p => rfl
  | indFamilies i | spouses i | parents i | children i | names i | allEvents i => exact indi i (hs i rfl) hok
  | husband f | wife f | famChildren f => exact fam f (hs f rfl) hok
  | eventsOf i t =>
    simp only [View.ok, View.map, Bool.and_eq_true] at hok ⊢
    exact ⟨indi i (hs i rfl) hok.1, hok.2⟩

end Gedcom.Cache

/-
  The relations `Reorder` (children re-ordered at any depth) and `Edit` (one edit somewhere in the
  tree) in which permutation invariance and edit sensitivity of `deepEqual` are stated (Props/C07,
  `Reorder` also in Props/C09), and `ReorderL` as a pointwise relation.
-/
import Gedcom.Lemmas.Equal
namespace Gedcom
open G

mutual
/-- `Reorder a b`: `b` is `a` with the children re-ordered at any number of levels -/
inductive Reorder : Node → Node → Prop
  | mk {t v p : Str} {ks ks'' ks' : List Node} :
    ReorderL ks ks'' → ks''.Perm ks' → Reorder (.mk t v p ks) (.mk t v p ks')
inductive ReorderL : List Node → List Node → Prop
  | nil : ReorderL [] []
  | cons {a b : Node} {as bs : List Node} :
    Reorder a b → ReorderL as bs → ReorderL (a :: as) (b :: bs)
end

/-- `Edit a b`: `b` is `a` after one edit somewhere in the tree — the value of a plain node
    (one that uses the default `SimpleNode.Equals`) changed, a node inserted, or a node deleted -/
inductive Edit : Node → Node → Prop
  | change {t v v' p : Str} {ks : List Node} :
    Node.rule (.mk t v p ks) = .simple → v ≠ v' → Edit (.mk t v p ks) (.mk t v' p ks)
  | insert {t v p : Str} {pre post : List Node} {n : Node} :
    Edit (.mk t v p (pre ++ post)) (.mk t v p (pre ++ n :: post))
  | delete {t v p : Str} {pre post : List Node} {n : Node} :
    Edit (.mk t v p (pre ++ n :: post)) (.mk t v p (pre ++ post))
  | child {t v p : Str} {pre post : List Node} {c c' : Node} :
    Edit c c' → Edit (.mk t v p (pre ++ c :: post)) (.mk t v p (pre ++ c' :: post))

theorem Reorder.head {a b : Node} (h : Reorder a b) :
    a.tag = b.tag ∧ a.value = b.value ∧ a.ptr = b.ptr := by
  cases h; exact ⟨rfl, rfl, rfl⟩

theorem ReorderL.all2_on {P : Node → Node → Prop} {l r : List Node} (h : ReorderL l r)
    (hp : ∀ a ∈ l, ∀ b ∈ r, Reorder a b → P a b) : All2 P l r := by
  induction l generalizing r with
  | nil => cases h; exact .nil
  | cons x xs ih =>
    cases h with
    | cons hab hrest =>
      exact .cons (hp x (by simp) _ (by simp) hab)
        (ih hrest (fun a ha b hb => hp a (by simp [ha]) b (by simp [hb])))

theorem ReorderL.all2 {P : Node → Node → Prop} {l r : List Node} (h : ReorderL l r)
    (hp : ∀ a ∈ l, ∀ b, Reorder a b → P a b) : All2 P l r :=
  h.all2_on fun a ha b _ => hp a ha b

theorem ReorderL.mem_left {l r : List Node} (h : ReorderL l r) {x : Node} (hx : x ∈ l) :
    ∃ y ∈ r, Reorder x y :=
  (h.all2_on fun _ _ _ _ hab => hab).mem_left hx

theorem ReorderL.mem_right {l r : List Node} (h : ReorderL l r) {y : Node} (hy : y ∈ r) :
    ∃ x ∈ l, Reorder x y := by
  induction l generalizing r with
  | nil => cases h; cases hy
  | cons a as ih =>
    cases h with
    | @cons _ b _ bs hab hrest =>
      rcases List.mem_cons.mp hy with rfl | hy
      · exact ⟨a, by simp, hab⟩
      · obtain ⟨x, hx, hxy⟩ := ih hrest hy
        exact ⟨x, by simp [hx], hxy⟩

theorem ReorderL.of_all2 {l r : List Node} (h : All2 Reorder l r) : ReorderL l r := by
  induction h with
  | nil => exact .nil
  | cons hab _ ih => exact .cons hab ih

theorem Reorder.refl (n : Node) : Reorder n n := by
  induction n using Node.induct with
  | h t v p ks ih => exact .mk (.of_all2 (.refl ih)) (List.Perm.refl _)

theorem ReorderL.refl (l : List Node) : ReorderL l l :=
  .of_all2 (.refl fun k _ => Reorder.refl k)

theorem ReorderL.filter {l r : List Node} (h : ReorderL l r) (f : Node → Bool)
    (hf : ∀ a b, Reorder a b → f a = f b) : ReorderL (l.filter f) (r.filter f) := by
  induction l generalizing r with
  | nil => cases h; exact .nil
  | cons a as ih =>
    cases h with
    | @cons _ b _ bs hab hrest =>
      have e := hf a b hab
      cases hfa : f a
      · rw [List.filter_cons_of_neg (by simp [hfa]), List.filter_cons_of_neg (by simp [← e, hfa])]
        exact ih hrest
      · rw [List.filter_cons_of_pos hfa, List.filter_cons_of_pos (by rw [← e]; exact hfa)]
        exact .cons hab (ih hrest)

theorem isDate_reorder {a b : Node} (h : Reorder a b) : isDate a = isDate b := by
  simp [isDate, h.head.1]

end Gedcom

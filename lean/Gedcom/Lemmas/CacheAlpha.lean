/-
  C13 — `DeleteNodesWithTag`: its result is "every child with the tag gone, the others in order", and
  the single operation of the model is the loop of `DeleteNode`s of the source.  The event views.
-/
import Gedcom.Lemmas.CacheEdits
namespace Gedcom.Cache

variable {b1 b2 b3 : Bool}

/-- the loop of nodes.go: `for _, c := range copyOfChildren { if c.Tag().Is(t) { n.DeleteNode(c) } }` -/
def deleteLoop (fl : Flags) (n : Id) (t : Str) (s : St) : St :=
  ((abs s).kids n).foldl (fun u c => if (abs u).tag c == t then deleteKid fl n c u else u) s

theorem editedTo_roots (n : Id) (ks : List Id) (s : St) : (editedTo n ks s).roots = s.roots :=
  congrArg Abs.roots (abs_editedTo n ks s)

theorem editedTo_editedTo (n : Id) (a b : List Id) (s : St) :
    editedTo n b (editedTo n a s) = editedTo n b s := by
  rw [editedTo_cases n b (editedTo n a s), tag_editedTo, editedTo_cases n b s, editedTo_cases n a s]
  by_cases hF : ((abs s).tag n == tFAM) = true
  · simp only [hF, if_true, bumpFamilyLinks, resetFamily, resetNodeCache, setKids_setKids, dropKey_dropKey]
  · simp only [hF, Bool.false_eq_true, if_false, resetNodeCache, setKids_setKids]

theorem deleteLoop_closed (t : Str) {n : Nat} : ∀ (xs : List Id) (s : St), n < s.heap.length →
      xs.foldl (fun u c => if (abs u).tag c == t then deleteKid (Flags.goodWith b1 b2 b3) n c u else u) s =
        if (xs.any fun c => (abs s).tag c == t) = true then
          editedTo n ((xs.filter fun c => (abs s).tag c == t).foldl List.erase ((abs s).kids n)) s
        else s
  | [], _, _ => rfl
  | x :: xs, s, hn => by
    simp only [List.foldl_cons, List.any_cons, List.filter_cons]
    cases hp : (abs s).tag x == t with
    | false =>
      simp only [Bool.false_eq_true, if_false, Bool.false_or]
      exact deleteLoop_closed t xs s hn
    | true =>
      -- from here on the state is an edited one, and editing twice is editing once
      simp only [if_true, Bool.true_or, List.foldl_cons]
      rw [deleteKid_eq, deleteLoop_closed t xs _ ((length_editedTo _ _ _).symm ▸ hn)]
      simp only [tag_editedTo, kids_editedTo_self _ s hn, editedTo_editedTo]
      split
      · rfl
      · rename_i hnone
        rw [List.filter_eq_nil_iff.mpr fun c hc hpc => hnone (List.any_eq_true.mpr ⟨c, hc, hpc⟩)]
        rfl

/-- **`DeleteNodesWithTag(n, t)` of the model is the loop of the source**: one `n.DeleteNode(c)` — the
    model's own `deleteNode` step, resets included — for every child `c` of a copy of the child list
    whose tag is `t`, in order. -/
theorem deleteKidsWithTag_is_loop (s : St) {n : Nat} (hn : n < s.heap.length) (t : Str) :
    deleteKidsWithTag (Flags.goodWith b1 b2 b3) n t s = deleteLoop (Flags.goodWith b1 b2 b3) n t s := by
  unfold deleteLoop
  rw [deleteLoop_closed t _ s hn, deleteKidsWithTag_eq]
  rfl

theorem step_deleteNodesWithTag (s : St) (n : Nat) (t : Str) (hn : n < s.heap.length) :
    (step flags s (.deleteNodesWithTag n t)).1 = deleteKidsWithTag flags n t s :=
  congrArg Prod.fst (step_ok (op := .deleteNodesWithTag n t) (decide_eq_true hn))

theorem specNWT_sublist_allEvents (a : Abs) (i : Id) {t : Str} (ht : isEventTag t = true) :
    (specNWT a i t).Sublist (specAllEvents a i) := by
  -- looking up an event tag is filtering the event listing once more
  have : specNWT a i t = (specAllEvents a i).filter (fun c => a.tag c == t) := by
    unfold specNWT specAllEvents
    rw [List.filter_filter]
    apply List.filter_congr
    intro c _
    cases h : a.tag c == t with
    | false => rfl
    | true => rw [eq_of_beq h, ht]; rfl
  rw [this]
  exact List.filter_sublist

end Gedcom.Cache

/- The tree type itself (Gedcom/Model/Node.lean): induction over a node with the hypothesis for
   every child, and sizes. -/
import Gedcom.Model.Node
namespace Gedcom

theorem Node.induct {P : Node → Prop}
    (h : ∀ t v p ks, (∀ k ∈ ks, P k) → P (.mk t v p ks)) (n : Node) : P n :=
  Node.rec (motive_1 := P) (motive_2 := fun ks => ∀ k ∈ ks, P k) h (fun _ hk => nomatch hk)
    (fun _ _ hk hks _ hx => (List.mem_cons.mp hx).elim (· ▸ hk) (hks _)) n

/-- preorder induction on a forest: the first tree's children, then its later siblings -/
theorem Forest.induct {P : List Node → Prop} (nil : P [])
    (cons : ∀ t v p ks ns, P ks → P ns → P (.mk t v p ks :: ns)) (f : List Node) : P f :=
  Node.rec_1 (motive_1 := fun n => ∀ ns, P ns → P (n :: ns)) (motive_2 := P)
    (fun t v p ks hks ns => cons t v p ks ns hks) nil (fun _ ns hn => hn ns) f

theorem Forest.size_mem {k : Node} {ks : List Node} (h : k ∈ ks) : k.size ≤ Forest.size ks := by
  induction ks with
  | nil => cases h
  | cons x xs ih =>
    simp only [Forest.size]
    rcases List.mem_cons.mp h with rfl | h
    · omega
    · have := ih h; omega

theorem Node.size_kid {n k : Node} (h : k ∈ n.kids) : k.size < n.size := by
  cases n
  have := Forest.size_mem h
  simp only [Node.kids] at this
  simp only [Node.size]; omega

theorem Node.size_pos (n : Node) : 0 < n.size := by
  cases n; simp only [Node.size]; omega

end Gedcom

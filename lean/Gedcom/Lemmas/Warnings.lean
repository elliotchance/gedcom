/- C20: the report as a list — what `oncePerPair` keeps (the family's sibling loops are an instance of
   it), the kind of warning each check makes and, from that, which check of which record a warning
   comes from (core Lean only). -/
import Gedcom.Model.Warnings
namespace Gedcom.Warn

inductive Kind | cbbp | sib | moor | old | ord | bad | sex | inv
deriving DecidableEq, Repr

def Warning.kind : Warning → Kind
  | .childBornBeforeParent .. => .cbbp
  | .siblingsBornTooClose .. => .sib
  | .marriedOutOfRange .. => .moor
  | .individualTooOld .. => .old
  | .incorrectEventOrder .. => .ord
  | .unparsableDate .. => .bad
  | .multipleSexes .. => .sex
  | .inverseSpouses .. => .inv

def isPair (w : Warning) : Bool := w.kind == .cbbp || w.kind == .sib

/-- two warnings are about the same pair of people: the same unordered pair of siblings, or the
    same (parent, child) -/
def samePair : Warning → Warning → Prop
  | .siblingsBornTooClose _ a b, .siblingsBornTooClose _ a' b' => (a = a' ∧ b = b') ∨ (a = b' ∧ b = a')
  | .childBornBeforeParent _ p c, .childBornBeforeParent _ p' c' => p = p' ∧ c = c'
  | _, _ => False

def symPair (p q : Nat × Nat) : Prop := (p.1 = q.1 ∧ p.2 = q.2) ∨ (p.1 = q.2 ∧ p.2 = q.1)

theorem pairsHas_iff {ps : List (Nat × Nat)} {a b : Nat} :
    pairsHas ps a b = true ↔ ∃ q ∈ ps, symPair q (a, b) := by
  simp [pairsHas, symPair, List.any_eq_true]

theorem pairsHas_append {sb : List (Nat × Nat)} {q : Nat × Nat} {a b : Nat} :
    pairsHas (sb ++ [q]) a b = true ↔ pairsHas sb a b = true ∨ symPair q (a, b) := by
  simp only [pairsHas_iff, List.mem_append, List.mem_singleton]
  constructor
  · rintro ⟨r, hr | rfl, hs⟩
    · exact Or.inl ⟨r, hr, hs⟩
    · exact Or.inr hs
  · rintro (⟨r, hr, hs⟩ | hs)
    · exact ⟨r, Or.inl hr, hs⟩
    · exact ⟨q, Or.inr rfl, hs⟩

theorem symPair_comm {p q : Nat × Nat} (h : symPair p q) : symPair q p := by
  rcases h with ⟨h1, h2⟩ | ⟨h1, h2⟩
  · exact Or.inl ⟨h1.symm, h2.symm⟩
  · exact Or.inr ⟨h2.symm, h1.symm⟩

def blocked (pc sb : List (Nat × Nat)) : Warning → Bool
  | .childBornBeforeParent _ p c => pc.contains (p, c)
  | .siblingsBornTooClose _ a b => pairsHas sb a b
  | _ => false

def notePc (pc : List (Nat × Nat)) : Warning → List (Nat × Nat)
  | .childBornBeforeParent _ p c => pc ++ [(p, c)]
  | _ => pc

def noteSb (sb : List (Nat × Nat)) : Warning → List (Nat × Nat)
  | .siblingsBornTooClose _ a b => sb ++ [(a, b)]
  | _ => sb

theorem oncePerPairGo_cons (x : Warning) (ws : List Warning) (pc sb : List (Nat × Nat)) :
    oncePerPairGo (x :: ws) pc sb =
      if blocked pc sb x then oncePerPairGo ws pc sb
      else x :: oncePerPairGo ws (notePc pc x) (noteSb sb x) := by
  cases x <;> rfl

theorem blocked_isPair {pc sb : List (Nat × Nat)} {w : Warning} (h : blocked pc sb w = true) :
    isPair w = true := by
  cases w with
  | childBornBeforeParent | siblingsBornTooClose => rfl
  | _ => cases h

/-- what the pair sets stand for: keeping `x` blocks, in addition, exactly the warnings about the
    pair of `x` -/
theorem blocked_note (pc sb : List (Nat × Nat)) (x w : Warning) :
    blocked (notePc pc x) (noteSb sb x) w = true ↔ blocked pc sb w = true ∨ samePair x w := by
  cases x with
  | childBornBeforeParent f0 p0 c0 =>
    cases w with
    | childBornBeforeParent f p c =>
      simp only [blocked, notePc, samePair, List.contains_iff_mem, List.mem_append,
        List.mem_singleton, Prod.mk.injEq]
      exact or_congr_right ⟨fun h => ⟨h.1.symm, h.2.symm⟩, fun h => ⟨h.1.symm, h.2.symm⟩⟩
    | _ => simp [blocked, noteSb, samePair]
  | siblingsBornTooClose f0 a0 b0 =>
    cases w with
    | siblingsBornTooClose f a b => exact pairsHas_append
    | _ => simp [blocked, notePc, samePair]
  | _ => simp [notePc, noteSb, samePair]

theorem opp_sublist : ∀ (ws : List Warning) (pc sb : List (Nat × Nat)),
    List.Sublist (oncePerPairGo ws pc sb) ws := by
  intro ws
  induction ws with
  | nil => intro pc sb; exact List.Sublist.slnil
  | cons x ws ih =>
    intro pc sb
    rw [oncePerPairGo_cons]
    split
    · exact (ih pc sb).cons _
    · exact (ih _ _).cons_cons _

theorem opp_filter_other : ∀ (ws : List Warning) (pc sb : List (Nat × Nat)),
    (oncePerPairGo ws pc sb).filter (fun w => !isPair w) = ws.filter (fun w => !isPair w) := by
  intro ws
  induction ws with
  | nil => intro pc sb; rfl
  | cons x ws ih =>
    intro pc sb
    rw [oncePerPairGo_cons]
    split
    · rename_i hx
      rw [ih, List.filter_cons, blocked_isPair hx]
      rfl
    · rw [List.filter_cons, List.filter_cons, ih]

/-- a warning about a pair that is not blocked is represented in the result by a warning about
    the same pair: the first one in the list -/
theorem opp_kept {w : Warning} (hw : samePair w w) :
    ∀ (ws : List Warning) (pc sb : List (Nat × Nat)), ¬ blocked pc sb w = true → w ∈ ws →
      ∃ w' ∈ oncePerPairGo ws pc sb, samePair w' w := by
  intro ws
  induction ws with
  | nil => intro _ _ _ h; exact absurd h List.not_mem_nil
  | cons x ws ih =>
    intro pc sb hb hm
    rw [oncePerPairGo_cons]
    split
    · rename_i hx
      have hne : w ≠ x := fun e => hb (e ▸ hx)
      exact ih pc sb hb ((List.mem_cons.mp hm).resolve_left hne)
    · by_cases hs : samePair x w
      · exact ⟨x, List.mem_cons_self, hs⟩
      · have hne : w ≠ x := fun e => hs (e ▸ hw)
        obtain ⟨w', h1, h2⟩ := ih (notePc pc x) (noteSb sb x)
          (fun h => ((blocked_note pc sb x w).mp h).elim hb hs)
          ((List.mem_cons.mp hm).resolve_left hne)
        exact ⟨w', List.mem_cons_of_mem _ h1, h2⟩

theorem opp_once : ∀ (ws : List Warning) (pc sb : List (Nat × Nat)),
    (oncePerPairGo ws pc sb).Pairwise (fun w w' => ¬ samePair w w') ∧
    ∀ w ∈ oncePerPairGo ws pc sb, ¬ blocked pc sb w = true := by
  intro ws
  induction ws with
  | nil => intro pc sb; exact ⟨List.Pairwise.nil, fun _ h => absurd h List.not_mem_nil⟩
  | cons x ws ih =>
    intro pc sb
    rw [oncePerPairGo_cons]
    split
    · exact ih pc sb
    · rename_i hx
      obtain ⟨i1, i2⟩ := ih (notePc pc x) (noteSb sb x)
      -- what follows `x` was not blocked before `x` was kept and is not about the pair of `x`
      have key : ∀ w ∈ oncePerPairGo ws (notePc pc x) (noteSb sb x),
          ¬ blocked pc sb w = true ∧ ¬ samePair x w := fun w hw =>
        ⟨fun h => i2 w hw ((blocked_note pc sb x w).mpr (Or.inl h)),
         fun h => i2 w hw ((blocked_note pc sb x w).mpr (Or.inr h))⟩
      refine ⟨List.pairwise_cons.mpr ⟨fun w hw => (key w hw).2, i1⟩, fun w hw => ?_⟩
      rcases List.mem_cons.mp hw with rfl | hw
      · exact hx
      · exact (key w hw).1

theorem oncePerPair_cbbp_kept {p c : Nat} {ws : List Warning}
    (h : ∃ f, Warning.childBornBeforeParent f p c ∈ ws) :
    ∃ f, Warning.childBornBeforeParent f p c ∈ oncePerPair ws := by
  obtain ⟨f, hf⟩ := h
  obtain ⟨w', h1, h2⟩ := opp_kept (w := .childBornBeforeParent f p c) ⟨rfl, rfl⟩ ws [] []
    Bool.noConfusion hf
  cases w' with
  | childBornBeforeParent f' p' c' =>
    obtain ⟨rfl, rfl⟩ := h2
    exact ⟨f', h1⟩
  | _ => exact False.elim h2

theorem oncePerPair_sib_kept {a b : Nat} {ws : List Warning}
    (h : ∃ f, Warning.siblingsBornTooClose f a b ∈ ws) :
    ∃ f, Warning.siblingsBornTooClose f a b ∈ oncePerPair ws ∨
         Warning.siblingsBornTooClose f b a ∈ oncePerPair ws := by
  obtain ⟨f, hf⟩ := h
  obtain ⟨w', h1, h2⟩ := opp_kept (w := .siblingsBornTooClose f a b) (Or.inl ⟨rfl, rfl⟩) ws [] []
    Bool.noConfusion hf
  cases w' with
  | siblingsBornTooClose f' a' b' =>
    rcases h2 with ⟨rfl, rfl⟩ | ⟨rfl, rfl⟩
    · exact ⟨f', Or.inl h1⟩
    · exact ⟨f', Or.inr h1⟩
  | _ => exact False.elim h2

theorem oncePerPair_sublist (ws : List Warning) : List.Sublist (oncePerPair ws) ws := opp_sublist ws [] []

theorem mem_oncePerPair_other {w : Warning} (h : isPair w = false) (ws : List Warning) :
    w ∈ oncePerPair ws ↔ w ∈ ws := by
  have hf : w ∈ (oncePerPair ws).filter (fun w => !isPair w) ↔ w ∈ ws.filter (fun w => !isPair w) := by
    rw [oncePerPair, opp_filter_other]
  simpa [List.mem_filter, h] using hf

theorem oncePerPair_kind {ws : List Warning} {k : Kind} (h : ∀ w ∈ ws, w.kind = k) :
    ∀ w ∈ oncePerPair ws, w.kind = k := fun w hw => h w ((oncePerPair_sublist ws).subset hw)

def chilPairs (f : Fam) : List (Nat × Nat) := f.chil.flatMap fun c1 => f.chil.map fun c2 => (c1, c2)

theorem mem_chilPairs {f : Fam} {a b : Nat} : (a, b) ∈ chilPairs f ↔ a ∈ f.chil ∧ b ∈ f.chil := by
  simp only [chilPairs, List.mem_flatMap, List.mem_map, Prod.mk.injEq]
  constructor
  · rintro ⟨c1, h1, c2, h2, rfl, rfl⟩; exact ⟨h1, h2⟩
  · rintro ⟨h1, h2⟩; exact ⟨a, h1, b, h2, rfl, rfl⟩

def pairStep (d : Doc) (fam : Nat) (st : SibState) (p : Nat × Nat) : SibState :=
  siblingStep d fam p.1 st p.2

theorem siblingsLoop_eq (d : Doc) (f : Fam) :
    siblingsLoop d f = (chilPairs f).foldl (pairStep d f.ptr) ([], []) := by
  simp only [siblingsLoop, chilPairs, pairStep, List.foldl_flatMap, List.foldl_map]

structure SibInv (d : Doc) (fam : Nat) (L : List (Nat × Nat)) (st : SibState) : Prop where
  map : st.2 = st.1.map fun p => Warning.siblingsBornTooClose fam p.1 p.2
  sound : ∀ p ∈ st.1, p ∈ L ∧ siblingHit d p.1 p.2 = true
  complete : ∀ p ∈ L, siblingHit d p.1 p.2 = true → pairsHas st.1 p.1 p.2 = true
  nodup : st.1.Pairwise fun p q => ¬ symPair p q

def sibHits (d : Doc) (f : Fam) : List Warning :=
  ((chilPairs f).filter fun p => siblingHit d p.1 p.2).map fun p =>
    Warning.siblingsBornTooClose f.ptr p.1 p.2

theorem mem_sibHits {d : Doc} {f : Fam} {fp a b : Nat} :
    Warning.siblingsBornTooClose fp a b ∈ sibHits d f ↔
      f.ptr = fp ∧ a ∈ f.chil ∧ b ∈ f.chil ∧ siblingHit d a b = true := by
  simp only [sibHits, List.mem_map, List.mem_filter, Warning.siblingsBornTooClose.injEq]
  constructor
  · rintro ⟨⟨x, y⟩, ⟨hm, hh⟩, rfl, rfl, rfl⟩
    exact ⟨rfl, (mem_chilPairs.mp hm).1, (mem_chilPairs.mp hm).2, hh⟩
  · rintro ⟨rfl, ha, hb, hh⟩
    exact ⟨(a, b), ⟨mem_chilPairs.mpr ⟨ha, hb⟩, hh⟩, rfl, rfl, rfl⟩

/-- the pair set of the loops is the sibling pair set of `oncePerPair` -/
theorem foldl_pairStep (d : Doc) (fam : Nat) (pc : List (Nat × Nat)) :
    ∀ (L : List (Nat × Nat)) (st : SibState), (L.foldl (pairStep d fam) st).2 =
      st.2 ++ oncePerPairGo ((L.filter fun p => siblingHit d p.1 p.2).map fun p =>
        Warning.siblingsBornTooClose fam p.1 p.2) pc st.1 := by
  intro L
  induction L with
  | nil => intro st; simp [oncePerPairGo]
  | cons p L ih =>
    intro st
    rw [List.foldl_cons, ih, pairStep, siblingStep, List.filter_cons]
    cases hh : siblingHit d p.1 p.2 with
    | false => simp
    | true =>
      simp only [Bool.true_and, if_true, List.map_cons, oncePerPairGo]
      cases hp : pairsHas st.1 p.1 p.2 <;> simp

theorem siblings_eq_oncePerPair (d : Doc) (f : Fam) :
    siblingsBornTooClose d f = oncePerPair (sibHits d f) := by
  rw [siblingsBornTooClose, siblingsLoop_eq, foldl_pairStep d f.ptr []]
  rfl

theorem sibInv (d : Doc) (f : Fam) : SibInv d f.ptr (chilPairs f) (siblingsLoop d f) := by
  have map : (siblingsLoop d f).2 =
      (siblingsLoop d f).1.map fun p => Warning.siblingsBornTooClose f.ptr p.1 p.2 := by
    rw [siblingsLoop_eq]
    refine List.foldlRecOn (motive := fun st : SibState => st.2 = st.1.map _) _ _ rfl
      fun st hst p _ => ?_
    unfold pairStep siblingStep
    split
    · simp [hst]
    · exact hst
  have eq : (siblingsLoop d f).1.map (fun p => Warning.siblingsBornTooClose f.ptr p.1 p.2) =
      oncePerPair (sibHits d f) := map.symm.trans (siblings_eq_oncePerPair d f)
  refine ⟨map, fun p hp => ?_, fun p hp hh => ?_, ?_⟩
  · obtain ⟨_, h1, h2, hh⟩ := mem_sibHits.mp
      ((oncePerPair_sublist _).subset (eq ▸ List.mem_map_of_mem hp))
    exact ⟨mem_chilPairs.mpr ⟨h1, h2⟩, hh⟩
  · obtain ⟨f', h⟩ := oncePerPair_sib_kept
      ⟨f.ptr, mem_sibHits.mpr ⟨rfl, (mem_chilPairs.mp hp).1, (mem_chilPairs.mp hp).2, hh⟩⟩
    rw [← eq] at h
    rcases h with h | h <;> obtain ⟨q, hq, e⟩ := List.mem_map.mp h <;>
      simp only [Warning.siblingsBornTooClose.injEq] at e
    · exact pairsHas_iff.mpr ⟨q, hq, Or.inl ⟨e.2.1, e.2.2⟩⟩
    · exact pairsHas_iff.mpr ⟨q, hq, Or.inr ⟨e.2.1, e.2.2⟩⟩
  · have h := (opp_once (sibHits d f) [] []).1
    rw [← oncePerPair, ← eq, List.pairwise_map] at h
    exact h

abbrev OfKind (k : Kind) (l : List Warning) : Prop := ∀ w ∈ l, w.kind = k

theorem OfKind.nil {k : Kind} : OfKind k [] := fun _ h => absurd h List.not_mem_nil

theorem OfKind.single {k : Kind} {w : Warning} (h : w.kind = k) : OfKind k [w] :=
  fun _ hv => by rw [List.mem_singleton.mp hv]; exact h

theorem OfKind.mem_iff {k : Kind} {l : List Warning} (h : OfKind k l) {w : Warning} :
    w ∈ l ↔ w.kind = k ∧ w ∈ l :=
  ⟨fun hw => ⟨h w hw, hw⟩, And.right⟩

theorem OfKind.append {k : Kind} {l₁ l₂ : List Warning} (h₁ : OfKind k l₁) (h₂ : OfKind k l₂) :
    OfKind k (l₁ ++ l₂) :=
  fun w hw => (List.mem_append.mp hw).elim (h₁ w) (h₂ w)

theorem OfKind.ite {k : Kind} {c : Prop} [Decidable c] {l₁ l₂ : List Warning} (h₁ : OfKind k l₁)
    (h₂ : OfKind k l₂) : OfKind k (if c then l₁ else l₂) := by
  split
  · exact h₁
  · exact h₂

theorem OfKind.flatMap {α : Type} {k : Kind} {l : List α} {g : α → List Warning}
    (h : ∀ a, OfKind k (g a)) : OfKind k (l.flatMap g) :=
  fun w hw => by
    obtain ⟨a, _, ha⟩ := List.mem_flatMap.mp hw
    exact h a w ha

theorem kind_cbbp {d : Doc} {f : Fam} : OfKind .cbbp (childrenBornBeforeParents d f) :=
  oncePerPair_kind (OfKind.flatMap fun _ =>
    .ite .nil (.append (.ite (.single rfl) .nil) (.ite (.single rfl) .nil)))

theorem kind_sib {d : Doc} {f : Fam} : OfKind .sib (siblingsBornTooClose d f) := by
  rw [siblings_eq_oncePerPair]
  refine oncePerPair_kind fun w hw => ?_
  obtain ⟨_, _, rfl⟩ := List.mem_map.mp hw
  rfl

theorem kind_marriedCheck {fam k sp : Nat} {a : Ages} : OfKind .moor (marriedCheck fam k a sp) :=
  .append (.ite (.single rfl) .nil) (.ite (.single rfl) .nil)

theorem kind_marriedAt {d : Doc} {f : Fam} {k : Nat} {e : Ev} : OfKind .moor (marriedAt d f k e) := by
  unfold marriedAt
  refine .ite .nil (.append ?_ ?_)
  · split
    · exact kind_marriedCheck
    · exact .nil
  · split
    · exact kind_marriedCheck
    · exact .nil

theorem marriedFrom_eq (d : Doc) (f : Fam) : ∀ (evs : List Ev) (k : Nat),
    marriedFrom d f k evs = (evs.zipIdx k).flatMap fun p => marriedAt d f p.2 p.1 := by
  intro evs
  induction evs with
  | nil => intro k; rfl
  | cons e rest ih =>
    intro k
    simp only [marriedFrom, List.zipIdx_cons, List.flatMap_cons, ih]

theorem kind_marriedFrom {d : Doc} {f : Fam} {k : Nat} {evs : List Ev} :
    OfKind .moor (marriedFrom d f k evs) := by
  rw [marriedFrom_eq]
  exact .flatMap fun _ => kind_marriedAt

theorem kind_inv {d : Doc} {f : Fam} : OfKind .inv (inverseSpouses d f) :=
  .ite (.single rfl) .nil

theorem kind_unparsable {b : Bool} {p : Nat} {evs : List Ev} : OfKind .bad (unparsable b p evs) :=
  .flatMap fun _ => .ite .nil (.single rfl)

theorem kind_orderPair {p : Nat} {ev fut : EvKind × DateV} : OfKind .ord (orderPair p ev fut) := by
  unfold orderPair
  split <;> exact .ite (.single rfl) .nil

theorem kind_orderFrom {p : Nat} :
    ∀ {gs : List (List (EvKind × DateV))}, OfKind .ord (orderFrom p gs) := by
  intro gs
  induction gs with
  | nil => exact .nil
  | cons g later ih =>
    exact .append (.flatMap fun _ => .flatMap fun _ => .flatMap fun _ => kind_orderPair) ih

theorem kind_tooOld {i : Indi} {now : Date} : OfKind .old (tooOld i now) :=
  .ite (.single rfl) .nil

theorem kind_sexes {i : Indi} : OfKind .sex (multipleSexes i) :=
  .ite (.single rfl) .nil

theorem mem_indis {d : Doc} {i : Indi} : i ∈ indis d ↔ Rec.indi i ∈ d := by
  simp only [indis, List.mem_filterMap]
  constructor
  · rintro ⟨r, hr, h⟩
    cases r <;> simp at h
    subst h; exact hr
  · intro h; exact ⟨_, h, rfl⟩

theorem mem_fams {d : Doc} {f : Fam} : f ∈ fams d ↔ Rec.fam f ∈ d := by
  simp only [fams, List.mem_filterMap]
  constructor
  · rintro ⟨r, hr, h⟩
    cases r <;> simp at h
    subst h; exact hr
  · intro h; exact ⟨_, h, rfl⟩

theorem indiOf_some {d : Doc} {p : Nat} {i : Indi} (h : indiOf d p = some i) :
    Rec.indi i ∈ d ∧ i.ptr = p := by
  unfold indiOf at h
  have h1 := List.mem_of_find?_eq_some h
  have h2 := List.find?_some h
  exact ⟨mem_indis.mp h1, by simpa using h2⟩

theorem validO_iff_some {b : Option DateV} : validO b = true ↔ ∃ x, b = some x ∧ x.valid = true := by
  cases b <;> simp [validO]

theorem validO_some {x : Option DateV} (h : validO x = true) : ∃ v, x = some v :=
  (validO_iff_some.mp h).imp fun _ h => h.1

/-- a birth date is a date of an individual of the document -/
theorem birthOf_all {d : Doc} {P : DateV → Prop}
    (h : ∀ i, Rec.indi i ∈ d → ∀ e ∈ i.events, ∀ x ∈ e.dates, P x) {p : Nat} {x : DateV}
    (hb : birthOf (indiOf d p) = some x) : P x := by
  cases hi : indiOf d p with
  | none => simp [hi, birthOf] at hb
  | some i =>
    simp only [hi, birthOf] at hb
    obtain ⟨e, he, hx⟩ := List.exists_of_findSome?_eq_some hb
    exact h i (indiOf_some hi).1 e (List.mem_filter.mp he).1 x (List.mem_of_head? hx)

def indiCheck (i : Indi) (now : Date) : Kind → List Warning
  | .ord => incorrectEventOrder i
  | .old => tooOld i now
  | .sex => multipleSexes i
  | .bad => unparsable false i.ptr i.events
  | _ => []

def famCheck (d : Doc) (f : Fam) : Kind → List Warning
  | .cbbp => childrenBornBeforeParents d f
  | .sib => siblingsBornTooClose d f
  | .moor => marriedOutOfRange d f
  | .inv => inverseSpouses d f
  | .bad => unparsable true f.ptr f.events
  | _ => []

theorem mem_indiWarnings {d : Doc} {now : Date} {i : Indi} {w : Warning} :
    w ∈ recWarnings d now (.indi i) ↔ w ∈ indiCheck i now w.kind := by
  simp only [recWarnings, indiOwn, incorrectEventOrder, List.mem_append]
  rw [kind_orderFrom.mem_iff, kind_tooOld.mem_iff, kind_sexes.mem_iff, kind_unparsable.mem_iff]
  cases w.kind <;> simp [indiCheck, incorrectEventOrder]

theorem mem_famWarnings {d : Doc} {now : Date} {f : Fam} {w : Warning} :
    w ∈ recWarnings d now (.fam f) ↔ w ∈ famCheck d f w.kind := by
  simp only [recWarnings, famOwn, marriedOutOfRange, List.mem_append]
  rw [kind_cbbp.mem_iff, kind_sib.mem_iff, kind_marriedFrom.mem_iff, kind_inv.mem_iff,
    kind_unparsable.mem_iff]
  cases w.kind <;> simp [famCheck, marriedOutOfRange]

/-- what the walk collects, kind by kind: a warning comes from the check of its own kind of some
    record -/
theorem mem_rawWarnings {d : Doc} {now : Date} {w : Warning} :
    w ∈ rawWarnings d now ↔
      (∃ i, Rec.indi i ∈ d ∧ w ∈ indiCheck i now w.kind) ∨
      (∃ f, Rec.fam f ∈ d ∧ w ∈ famCheck d f w.kind) := by
  simp only [rawWarnings, List.mem_flatMap]
  constructor
  · rintro ⟨r, hr, h⟩
    cases r with
    | indi i => exact Or.inl ⟨i, hr, mem_indiWarnings.mp h⟩
    | fam f => exact Or.inr ⟨f, hr, mem_famWarnings.mp h⟩
  · rintro (⟨i, hi, h⟩ | ⟨f, hf, h⟩)
    · exact ⟨_, hi, mem_indiWarnings.mpr h⟩
    · exact ⟨_, hf, mem_famWarnings.mpr h⟩

theorem mem_raw_of_indi {d : Doc} {now : Date} {w : Warning} (hf : ∀ f, famCheck d f w.kind = []) :
    w ∈ rawWarnings d now ↔ ∃ i, Rec.indi i ∈ d ∧ w ∈ indiCheck i now w.kind := by
  rw [mem_rawWarnings]
  constructor
  · rintro (h | ⟨f, _, h⟩)
    · exact h
    · rw [hf f] at h; exact absurd h List.not_mem_nil
  · exact Or.inl

theorem mem_raw_of_fam {d : Doc} {now : Date} {w : Warning} (hi : ∀ i, indiCheck i now w.kind = []) :
    w ∈ rawWarnings d now ↔ ∃ f, Rec.fam f ∈ d ∧ w ∈ famCheck d f w.kind := by
  rw [mem_rawWarnings]
  constructor
  · rintro (⟨i, _, h⟩ | h)
    · rw [hi i] at h; exact absurd h List.not_mem_nil
    · exact h
  · exact Or.inr

theorem mem_warnings_other {d : Doc} {now : Date} {w : Warning} (h : isPair w = false) :
    w ∈ warnings d now ↔ w ∈ rawWarnings d now := mem_oncePerPair_other h _

/-! At a concrete kind `indiCheck` and `famCheck` unfold to the check itself (or to `[]`), so the
    lemma for each warning is an instance of the ones above. -/

section
variable {d : Doc} {now : Date}

theorem mem_rawWarnings_cbbp {fp p c : Nat} :
    Warning.childBornBeforeParent fp p c ∈ rawWarnings d now ↔
      ∃ f, Rec.fam f ∈ d ∧ Warning.childBornBeforeParent fp p c ∈ childrenBornBeforeParents d f :=
  mem_raw_of_fam fun _ => rfl

theorem mem_rawWarnings_siblings {fp a b : Nat} :
    Warning.siblingsBornTooClose fp a b ∈ rawWarnings d now ↔
      ∃ f, Rec.fam f ∈ d ∧ Warning.siblingsBornTooClose fp a b ∈ siblingsBornTooClose d f :=
  mem_raw_of_fam fun _ => rfl

theorem mem_warnings_married {fp sp k : Nat} {old : Bool} :
    Warning.marriedOutOfRange fp sp old k ∈ warnings d now ↔
      ∃ f, Rec.fam f ∈ d ∧ Warning.marriedOutOfRange fp sp old k ∈ marriedOutOfRange d f :=
  (mem_warnings_other rfl).trans (mem_raw_of_fam fun _ => rfl)

theorem mem_warnings_inverseSpouses {fp hp wp : Nat} :
    Warning.inverseSpouses fp hp wp ∈ warnings d now ↔
      ∃ f, Rec.fam f ∈ d ∧ Warning.inverseSpouses fp hp wp ∈ inverseSpouses d f :=
  (mem_warnings_other rfl).trans (mem_raw_of_fam fun _ => rfl)

theorem mem_warnings_eventOrder {p : Nat} {k2 k1 : EvKind} {x2 x1 : DateV} :
    Warning.incorrectEventOrder p k2 x2 k1 x1 ∈ warnings d now ↔
      ∃ i, Rec.indi i ∈ d ∧ Warning.incorrectEventOrder p k2 x2 k1 x1 ∈ incorrectEventOrder i :=
  (mem_warnings_other rfl).trans (mem_raw_of_indi fun _ => rfl)

theorem mem_warnings_tooOld {p : Nat} :
    Warning.individualTooOld p ∈ warnings d now ↔
      ∃ i, Rec.indi i ∈ d ∧ Warning.individualTooOld p ∈ tooOld i now :=
  (mem_warnings_other rfl).trans (mem_raw_of_indi fun _ => rfl)

theorem mem_warnings_multipleSexes {p n : Nat} :
    Warning.multipleSexes p n ∈ warnings d now ↔
      ∃ i, Rec.indi i ∈ d ∧ Warning.multipleSexes p n ∈ multipleSexes i :=
  (mem_warnings_other rfl).trans (mem_raw_of_indi fun _ => rfl)

theorem mem_warnings_unparsable {inFam : Bool} {p l : Nat} :
    Warning.unparsableDate inFam p l ∈ warnings d now ↔
      (∃ i, Rec.indi i ∈ d ∧ Warning.unparsableDate inFam p l ∈ unparsable false i.ptr i.events) ∨
      (∃ f, Rec.fam f ∈ d ∧ Warning.unparsableDate inFam p l ∈ unparsable true f.ptr f.events) :=
  (mem_warnings_other rfl).trans mem_rawWarnings

end

end Gedcom.Warn

/-
  What the decoder returns satisfies `legalMLDocB`, unless a record line got a value (the known
  finding); without `AllowMultiLine` it is legal in the sense of C01.  The idea: `TrimSpace` only
  takes white-space bytes off the two ends of a value, and appending or removing such bytes does
  not turn a node line into a continuation line or the other way round.
-/
import Gedcom.Lemmas.MultiLine
import Gedcom.Lemmas.Legal
namespace Gedcom.Dec

/-- bytes that occur in the encodings of white space: never a digit, a word byte or `@` -/
def wsByte (x : UInt8) : Prop := isDigit x = false ∧ isWord x = false ∧ x ≠ AT

theorem parseLine_extend (b w : Str) (l : Line) (h : parseLine b = some l) (hw : ∀ x ∈ w, wsByte x) :
    ∃ l', parseLine (b ++ w) = some l' ∧ l'.tag = l.tag := by
  obtain ⟨ds, sps, rest, h⟩ := parseLine_iff.mp h
  refine ⟨⟨l.level, l.ptr, l.tag, afterTag (rest ++ w)⟩, parseLine_iff.mpr ⟨ds, sps, rest ++ w,
    by simp [h.text], ⟨h.legal.tag_ne, h.legal.tag_word, h.legal.ptr_noat⟩, h.ds_ne, h.ds_digit,
    h.sps_ne, h.sps_sp, ?_, h.level, rfl⟩, rfl⟩
  -- what follows the tag is what followed it before or, if nothing did, a white-space byte
  intro y hy
  cases hr : rest with
  | nil =>
    rw [hr] at hy
    exact (hw y (List.mem_of_mem_head? hy)).2.1
  | cons c cs =>
    rw [hr] at hy
    exact h.rest_stop y (hr ▸ hy)

theorem contOKB_prefix (sf : Bool) (b w : Str) (h : contOKB sf (b ++ w) = true)
    (hw : ∀ x ∈ w, wsByte x) : contOKB sf b = true := by
  unfold contOKB at h ⊢
  by_cases hb : b = []
  · simp [hb]
  · have hbw : (b ++ w) ≠ [] := by simp [hb]
    have e1 : (b ++ w).isEmpty = false := by simpa using hbw
    have e2 : b.isEmpty = false := by simpa using hb
    simp only [e1, e2, Bool.false_or] at h ⊢
    cases hp : parseLine b with
    | none => rfl
    | some l =>
      obtain ⟨l', hp', htag⟩ := parseLine_extend b w l hp hw
      rw [hp'] at h
      simp only at h ⊢
      rw [← htag]; exact h

theorem spaceSeqs_ws : ∀ q ∈ spaceSeqs, ∀ x ∈ q, wsByte x := by
  unfold wsByte
  decide +kernel
theorem spaceSeqsRev_ws : ∀ q ∈ spaceSeqsRev, ∀ x ∈ q, wsByte x := by
  intro q hq x hx
  obtain ⟨q', hq', rfl⟩ := List.mem_map.mp hq
  exact spaceSeqs_ws q' hq' x (List.mem_reverse.mp hx)

theorem trimSpace_decompose (w : Str) :
    ∃ pre suf, w = pre ++ trimSpace w ++ suf ∧ (∀ x ∈ suf, wsByte x) := by
  obtain ⟨pre, hpre, _⟩ := trimL_stripped spaceSeqs wsByte spaceSeqs_ws w
  obtain ⟨q, hq, hqP⟩ := trimL_stripped spaceSeqsRev wsByte spaceSeqsRev_ws (trimLeft w).reverse
  refine ⟨pre, q.reverse, ?_, fun x hx => hqP x (by simpa using hx)⟩
  have h2 : trimLeft w = trimSpace w ++ q.reverse := by
    have := congrArg List.reverse hq
    simp only [List.reverse_reverse, List.reverse_append] at this
    rw [this]; rfl
  have h1 : w = pre ++ trimLeft w := hpre
  rw [List.append_assoc, ← h2]; exact h1

/-- an entry whose value may still grow: what `LegalHdrML` asks of a value before it is trimmed; each
    part after a line feed is a line the loop took for a continuation while `family != nil` was `sf` -/
structure OpenML (sf : Bool) (e : Entry) : Prop where
  tag_ne : e.hdr.tag ≠ []
  tag_word : ∀ x ∈ e.hdr.tag, isWord x = true
  ptr_ok : ∀ x ∈ e.hdr.ptr, x ≠ AT ∧ x ≠ LF ∧ x ≠ CR
  val_ok : ∀ x ∈ e.hdr.value, x ≠ CR
  cont_ok : ∀ seg ∈ (splitLF e.hdr.value).2, contOKB sf seg = true

theorem OpenML.of_pre {e : Entry} (sf : Bool) (h : PreLegalE e) : OpenML sf e :=
  ⟨h.tag_ne, h.tag_word, h.ptr_ok, fun x hx => (h.val_ok x hx).2,
    by rw [splitLF_of_noLF _ fun x hx => (h.val_ok x hx).1]; nofun⟩

theorem OpenML.extend {sf : Bool} {e : Entry} (h : OpenML sf e) (line : Str)
    (hl : NoBreak line) (hc : contOKB sf line = true) :
    OpenML sf (e.extend (LF :: line)) := by
  refine ⟨h.tag_ne, h.tag_word, h.ptr_ok, ?_, ?_⟩
  · intro x hx
    rcases List.mem_append.mp hx with hx | hx
    · exact h.val_ok x hx
    · rcases List.mem_cons.mp hx with rfl | hx
      · decide
      · exact (hl x hx).2
  · intro seg hseg
    rw [Entry.extend, splitLF_snoc_line _ _ fun x hx => (hl x hx).1] at hseg
    rcases List.mem_append.mp hseg with hseg | hseg
    · exact h.cont_ok seg hseg
    · cases List.mem_singleton.mp hseg
      exact hc

theorem OpenML.trim {sf : Bool} {e : Entry} (h : OpenML sf e)
    (hrec : isRecordTag e.hdr.tag = true → trimSpace e.hdr.value = []) :
    LegalHdrML sf e.hdr.tag (trimSpace e.hdr.value) e.hdr.ptr := by
  obtain ⟨pre, suf, hdec, hsuf⟩ := trimSpace_decompose e.hdr.value
  have hidem := trimSpace_idem e.hdr.value
  refine ⟨h.tag_ne, h.tag_word, h.ptr_ok, fun x hx => h.val_ok x (trimSpace_subset _ x hx), hidem, hrec,
    ?_, ?_⟩
  · -- a trimmed value does not start with a line feed
    cases hV : trimSpace e.hdr.value with
    | nil => exact Or.inl rfl
    | cons c r =>
      have hc : ¬ (c == LF) = true := by simpa using trimmed_head_ne_LF _ hidem c r hV
      rw [splitLF_cons, if_neg hc]
      exact Or.inr (List.cons_ne_nil _ _)
  · -- the parts after each line feed are parts of the untrimmed value, the last one possibly
    -- shortened by white space
    intro b hb
    have hW : pre ++ (trimSpace e.hdr.value ++ suf) = e.hdr.value := by
      rw [← List.append_assoc, ← hdec]
    rcases splitLF_snd_drop_suffix (trimSpace e.hdr.value) suf b hb with h1 | h1
    · exact h.cont_ok b (hW ▸ splitLF_snd_drop_prefix pre _ b h1)
    · exact contOKB_prefix sf b _ (h.cont_ok _ (hW ▸ splitLF_snd_drop_prefix pre _ _ h1))
        (fun x hx => hsuf x (splitLF_fst_sub suf x hx))

def famAfterL (seen : Bool) : List Entry → Bool
  | [] => seen
  | e :: es => famAfterL (seen || e.hdr.tag == tFAM) es

theorem famAfterL_append (seen : Bool) (a b : List Entry) :
    famAfterL seen (a ++ b) = famAfterL (famAfterL seen a) b := by
  induction a generalizing seen with
  | nil => rfl
  | cons x xs ih => simp [famAfterL, ih]

theorem famAfter_listingF (seen : Bool) (lvl : Nat) (f : List Node) :
    famAfterF seen f = famAfterL seen (listingF lvl f) := by
  induction f using Forest.induct generalizing seen lvl with
  | nil => rfl
  | cons tg v p ks ns ihk ihn =>
    rw [famAfterF, famAfterT, ihk _ (lvl + 1), ihn _ lvl, listingF, listingT, List.cons_append, famAfterL,
      famAfterL_append]

/-- `legalMLF` on listings, threading `family != nil` -/
def legalMLL (sf : Bool) : List Entry → Bool
  | [] => true
  | e :: es =>
    legalHdrMLB (sf || e.hdr.tag == tFAM) e.hdr.tag e.hdr.value e.hdr.ptr &&
    (!isRoleTag e.hdr.tag || sf) && legalMLL (sf || e.hdr.tag == tFAM) es

theorem legalMLL_append (sf : Bool) (a b : List Entry) :
    legalMLL sf (a ++ b) = (legalMLL sf a && legalMLL (famAfterL sf a) b) := by
  induction a generalizing sf with
  | nil => simp [legalMLL, famAfterL]
  | cons x xs ih => simp [legalMLL, famAfterL, ih, Bool.and_assoc]

theorem legalMLF_listing (sf : Bool) (lvl : Nat) (f : List Node) :
    legalMLF sf f = legalMLL sf (listingF lvl f) := by
  induction f using Forest.induct generalizing sf lvl with
  | nil => rfl
  | cons tg v p ks ns ihk ihn =>
    rw [legalMLF, legalMLT, famAfterT, ihk _ (lvl + 1), ihn _ lvl, famAfter_listingF _ (lvl + 1) ks, listingF,
      listingT, List.cons_append, legalMLL, legalMLL_append, Bool.and_assoc]

theorem legalMLT_listing (sf : Bool) (lvl : Nat) (t : Node) :
    legalMLT sf t = legalMLL sf (listingT lvl t) := by
  rw [← listingF_single, ← legalMLF_listing, legalMLF, legalMLF, Bool.and_true]

/-- the completed entries are legal as long as no record line among them has a value; the open
    one may still grow -/
structure ScanInvML (sc : ScanSt) : Prop where
  done_legal : (∀ e ∈ sc.done, isRecordTag e.hdr.tag = true → e.hdr.value = []) →
    legalMLL false sc.done = true
  fam : famAfterL false sc.finish = sc.seenFam
  last_open : ∀ e, sc.last = some e →
    OpenML sc.seenFam e ∧ (!isRoleTag e.hdr.tag || famAfterL false sc.done) = true

theorem ScanInvML_init : ScanInvML ⟨[], none, false⟩ :=
  ⟨fun _ => rfl, rfl, fun _ he => nomatch he⟩

theorem finish_legalML (sc : ScanSt) (h : ScanInvML sc)
    (hrec : ∀ e ∈ sc.finish, isRecordTag e.hdr.tag = true → e.hdr.value = []) :
    legalMLL false sc.finish = true := by
  unfold ScanSt.finish at hrec ⊢
  cases hl : sc.last with
  | none => rw [hl] at hrec; exact h.done_legal hrec
  | some l =>
    rw [hl] at hrec
    simp only at hrec ⊢
    have hfam := h.fam
    rw [ScanSt.finish, hl] at hfam
    obtain ⟨hopen, hlrole⟩ := h.last_open l hl
    have hsf : (famAfterL false sc.done || l.hdr.tag == tFAM) = sc.seenFam := by
      simpa [famAfterL_append, famAfterL, Entry.trim] using hfam
    have hhdr := legalHdrMLB_iff.mpr (hopen.trim (hrec l.trim (by simp)))
    rw [legalMLL_append, h.done_legal (fun e he => hrec e (by simp [he]))]
    simp only [Bool.true_and, legalMLL, Bool.and_true, Entry.trim]
    rw [hsf, hhdr, hlrole]; rfl

theorem emit_invML (sc : ScanSt) (e : Entry) (h : ScanInvML sc) (hpre : PreLegalE e)
    (hrole : (!isRoleTag e.hdr.tag || sc.seenFam) = true) :
    ScanInvML (ScanSt.emit { sc with seenFam := sc.seenFam || e.hdr.tag == tFAM } e) := by
  rw [ScanSt.emit_eq]
  refine ⟨finish_legalML sc h, ?_, ?_⟩
  · show famAfterL false (sc.finish ++ [e.trim]) = (sc.seenFam || e.hdr.tag == tFAM)
    rw [famAfterL_append, h.fam]
    rfl
  · intro e' he'
    cases he'
    refine ⟨OpenML.of_pre _ hpre, ?_⟩
    show (!isRoleTag e.hdr.tag || famAfterL false sc.finish) = true
    rw [h.fam]
    exact hrole

theorem extend_invML (sc : ScanSt) (l : Entry) (line : Str) (h : ScanInvML sc) (hl : sc.last = some l)
    (hline : NoBreak line) (hc : contOKB sc.seenFam line = true) :
    ScanInvML { sc with last := some (l.extend (LF :: line)) } := by
  obtain ⟨hopen, hlrole⟩ := h.last_open l hl
  refine ⟨h.done_legal, ?_, ?_⟩
  · simpa [ScanSt.finish, hl, famAfterL_append, famAfterL, Entry.extend, Entry.trim] using h.fam
  · intro e he
    simp only [Option.some.injEq] at he
    subst he
    exact ⟨hopen.extend line hline hc, by simpa [Entry.extend] using hlrole⟩

theorem scanStep_invML (o : Opts) (sc : ScanSt) (line : Str) (a : Act) (hl : NoBreak line)
    (h : ScanInvML sc) (ha : ActReason o sc.seenFam sc.depth line a) (sc' : ScanSt)
    (hs : sc.act a = .next sc') : ScanInvML sc' := by
  cases ha with
  | keep => cases hs; exact h
  | extend hc _ h0 =>
    cases hs
    cases hlast : sc.last with
    | none => exact absurd (by rw [ScanSt.depth, hlast]) h0
    | some l => exact extend_invML sc l line h hlast hl hc
  | node pl _ hp hr =>
    cases hs
    exact emit_invML sc _ h (preLegal_of_parse line pl _ hl hp) hr
  | reject | orphan | panic => cases hs

end Gedcom.Dec

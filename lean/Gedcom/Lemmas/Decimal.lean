/-
  Decimal numerals as byte strings.  The models print a natural number in four places, each by a
  recursion of its own (well-founded, or structural on a fuel argument).  `DecOf n s`: `s` is the
  numeral of `n`.  That its bytes are digits, that it is not empty and that it reads back is proved of
  `DecOf` once; Lemmas/Bytes, DateParse and PublishNames show that their printer prints a numeral
  (`decOf_natToDec`); of Model/Html's only "no byte is `<`" is needed.  Core Lean only, no imports.
-/
namespace Gedcom

/-- the number a string of ASCII digits denotes (`Dec.decToNat` and DateParse's `decToNat` unfold to it) -/
def decVal (s : List UInt8) : Nat := s.foldl (fun a b => a * 10 + (b.toNat - 48)) 0

inductive DecOf : Nat → List UInt8 → Prop
  | digit {n : Nat} : n < 10 → DecOf n [UInt8.ofNat (48 + n)]
  | snoc {n : Nat} {s : List UInt8} :
    ¬ n < 10 → DecOf (n / 10) s → DecOf n (s ++ [UInt8.ofNat (48 + n % 10)])

theorem digit_toNat {d : Nat} (h : d < 10) : (UInt8.ofNat (48 + d)).toNat = 48 + d := by
  rw [UInt8.toNat_ofNat']
  omega

theorem decVal_snoc (s : List UInt8) (b : UInt8) : decVal (s ++ [b]) = decVal s * 10 + (b.toNat - 48) := by
  simp [decVal, List.foldl_append]

namespace DecOf
variable {n : Nat} {s : List UInt8}

theorem forall_mem {P : UInt8 → Prop} (hP : ∀ d, d < 10 → P (UInt8.ofNat (48 + d))) (h : DecOf n s) :
    ∀ b ∈ s, P b := by
  induction h with
  | digit h => exact List.forall_mem_singleton.mpr (hP _ h)
  | snoc _ _ ih =>
    exact List.forall_mem_append.mpr ⟨ih, List.forall_mem_singleton.mpr (hP _ (Nat.mod_lt _ (by omega)))⟩

theorem ne_nil (h : DecOf n s) : s ≠ [] := by
  cases h with
  | digit _ => exact List.cons_ne_nil _ _
  | snoc _ _ => exact List.append_ne_nil_of_right_ne_nil _ (List.cons_ne_nil _ _)

theorem val (h : DecOf n s) : decVal s = n := by
  induction h with
  | digit h =>
    simp only [decVal, List.foldl_cons, List.foldl_nil, digit_toNat h]
    omega
  | @snoc n _ _ _ ih =>
    rw [decVal_snoc, ih, digit_toNat (Nat.mod_lt _ (by omega))]
    omega

theorem inj {m : Nat} (h : DecOf n s) (h' : DecOf m s) : n = m := by rw [← h.val, ← h'.val]

end DecOf
end Gedcom

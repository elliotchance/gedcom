/-
  The backtracking matcher `Regex.run` decides the declarative matching relation of the fragment:
  it answers `some _` exactly when some prefix of the input matches (soundness and completeness).
  Which of several matches is reported (leftmost-first priority, the submatches) is not covered
  here; that part is validated against Go's engine by the `regex` stream of C02.
-/
import Gedcom.Model.Regex
namespace Gedcom.Regex

/-- `Matches re s r`: `re` matches a prefix of `s` and `r` is what is left (`$` needs `r = []`) -/
inductive Matches : Re → Str → Str → Prop
  | lit_nil (s : Str) : Matches (.lit []) s s
  | lit_cons (n : Nat) (ns : List Nat) (b : UInt8) (s r : Str) :
      b.toNat = n → Matches (.lit ns) s r → Matches (.lit (n :: ns)) (b :: s) r
  | one (c : Cls) (b : UInt8) (r : Str) : c.test b = true → Matches (.one c) (b :: r) r
  | star_nil (c : Cls) (s : Str) : Matches (.star c) s s
  | star_cons (c : Cls) (b : UInt8) (s r : Str) :
      c.test b = true → Matches (.star c) s r → Matches (.star c) (b :: s) r
  | plus (c : Cls) (b : UInt8) (s r : Str) :
      c.test b = true → Matches (.star c) s r → Matches (.plus c) (b :: s) r
  | quest_none (a : Re) (s : Str) : Matches (.quest a) s s
  | quest_some (a : Re) (s r : Str) : Matches a s r → Matches (.quest a) s r
  | seq (a b : Re) (s m r : Str) : Matches a s m → Matches b m r → Matches (.seq a b) s r
  | cap (i : Nat) (a : Re) (s r : Str) : Matches a s r → Matches (.cap i a) s r
  | eol : Matches .eol [] []

theorem starG_iff (cl : Cls) (P : Str → Prop) (k : Str → Str → Option Caps)
    (hk : ∀ acc r, (k acc r).isSome = true ↔ P r) :
    ∀ (s acc : Str), (starG cl.test acc s k).isSome = true ↔ ∃ r, Matches (.star cl) s r ∧ P r
  | [], acc => by
    rw [starG, hk]
    exact ⟨fun h => ⟨[], .star_nil cl [], h⟩, fun ⟨r, hm, h⟩ => by cases hm; exact h⟩
  | b :: s, acc => by
    have : (starG cl.test acc (b :: s) k).isSome =
        (cl.test b && (starG cl.test (b :: acc) s k).isSome || (k acc (b :: s)).isSome) := by
      rw [starG]
      cases cl.test b
      · rfl
      · cases starG cl.test (b :: acc) s k <;> rfl
    rw [this, Bool.or_eq_true, Bool.and_eq_true, starG_iff cl P k hk s (b :: acc), hk]
    constructor
    · rintro (⟨hb, r, hm, hp⟩ | hp)
      · exact ⟨r, .star_cons cl b s r hb hm, hp⟩
      · exact ⟨_, .star_nil cl _, hp⟩
    · rintro ⟨r, hm, hp⟩
      cases hm with
      | star_nil => exact .inr hp
      | star_cons _ _ _ _ hb hm => exact .inl ⟨hb, r, hm, hp⟩

/-- for a continuation whose success depends only on what is left (`P`), `run` reports a match
    exactly when some prefix matches and `P` accepts the rest -/
theorem run_iff (re : Re) (P : Str → Prop) (acc s : Str) (c : Caps) (k : Str → Str → Caps → Option Caps)
    (hk : ∀ acc' r c', (k acc' r c').isSome = true ↔ P r) :
    (run re acc s c k).isSome = true ↔ ∃ r, Matches re s r ∧ P r := by
  induction re generalizing P acc s c k with
  | lit bs =>
    induction bs generalizing acc s with
    | nil =>
      simp only [run, litG, hk]
      exact ⟨fun h => ⟨s, .lit_nil s, h⟩, fun ⟨r, hm, h⟩ => by cases hm; exact h⟩
    | cons n ns ih =>
      have step (b s) (hb : b.toNat = n) :
          run (.lit (n :: ns)) acc (b :: s) c k = run (.lit ns) (b :: acc) s c k := by
        simp only [run, litG, hb, if_true]
      constructor
      · intro h
        cases s with
        | nil => cases h
        | cons b s =>
          by_cases hb : b.toNat = n
          · rw [step b s hb, ih] at h
            obtain ⟨r, hm, hp⟩ := h
            exact ⟨r, .lit_cons n ns b s r hb hm, hp⟩
          · simp only [run, litG, hb, if_false] at h
            cases h
      · rintro ⟨r, hm, hp⟩
        cases hm with
        | lit_cons _ _ b s _ hb hm =>
          rw [step b s hb, ih]
          exact ⟨r, hm, hp⟩
  | one cl =>
    constructor
    · intro h
      simp only [run] at h
      split at h
      · split at h
        · rename_i b r hb
          exact ⟨r, .one cl b r hb, (hk _ _ _).mp h⟩
        · cases h
      · cases h
    · rintro ⟨r, hm, hp⟩
      cases hm with
      | one _ b _ hb => simpa only [run, hb, if_true, hk] using hp
  | star cl => exact starG_iff cl P _ (fun acc' r => hk acc' r c) s acc
  | plus cl =>
    have star := starG_iff cl P _ (fun acc' r => hk acc' r c)
    constructor
    · intro h
      simp only [run] at h
      split at h
      · split at h
        · rename_i b s hb
          obtain ⟨r, hm, hp⟩ := (star _ _).mp h
          exact ⟨r, .plus cl b s r hb hm, hp⟩
        · cases h
      · cases h
    · rintro ⟨r, hm, hp⟩
      cases hm with
      | plus _ b s _ hb hm =>
        simp only [run, hb, if_true]
        exact (star _ _).mpr ⟨r, hm, hp⟩
  | quest a ih =>
    have : (run (.quest a) acc s c k).isSome = ((run a acc s c k).isSome || (k acc s c).isSome) := by
      rw [run]
      cases run a acc s c k <;> rfl
    rw [this, Bool.or_eq_true, ih P acc s c k hk, hk]
    constructor
    · rintro (⟨r, hm, hp⟩ | hp)
      · exact ⟨r, .quest_some a s r hm, hp⟩
      · exact ⟨s, .quest_none a s, hp⟩
    · rintro ⟨r, hm, hp⟩
      cases hm with
      | quest_none => exact .inr hp
      | quest_some _ _ _ hm => exact .inl ⟨r, hm, hp⟩
  | seq a b iha ihb =>
    rw [run, iha _ acc s c _ (fun acc' m c' => ihb P acc' m c' k hk)]
    exact ⟨fun ⟨m, h1, r, h2, hp⟩ => ⟨r, .seq a b s m r h1 h2, hp⟩,
      fun ⟨r, hm, hp⟩ => by cases hm with | seq _ _ _ m _ h1 h2 => exact ⟨m, h1, r, h2, hp⟩⟩
  | cap i a ih =>
    rw [run, ih P [] s c _ (fun _ _ _ => hk _ _ _)]
    exact ⟨fun ⟨r, hm, hp⟩ => ⟨r, .cap i a s r hm, hp⟩,
      fun ⟨r, hm, hp⟩ => by cases hm with | cap _ _ _ _ hm => exact ⟨r, hm, hp⟩⟩
  | eol =>
    constructor
    · intro h
      rw [run] at h
      split at h
      · rename_i hs
        subst hs
        exact ⟨[], .eol, (hk _ _ _).mp h⟩
      · cases h
    · rintro ⟨r, hm, hp⟩
      cases hm
      simpa only [run, if_true, hk] using hp
  | unsupported =>
    rw [run]
    exact ⟨nofun, fun ⟨r, hm, _⟩ => nomatch hm⟩

/-- **The matcher decides the fragment.** `find` answers `some _` exactly when the pattern
    matches some prefix of the text (for a pattern that ends in `$`: the whole text). -/
theorem find_isSome_iff (re : Re) (s : Str) : (find re s).isSome = true ↔ ∃ r, Matches re s r := by
  rw [find, run_iff re (fun _ => True) [] s _ _ (fun _ _ _ => by simp)]
  simp

end Gedcom.Regex

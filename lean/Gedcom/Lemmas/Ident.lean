/-
  Identity-carrying trees (Gedcom/Model/Ident.lean): the shared facts about `ids` and `erase`; the
  walk of `Filter` (Gedcom/Model/CopyDoc.lean) builds the value of its source without the rejected
  subtrees from newly allocated objects only, `DeepCopy` being the walk that keeps every tag; a
  mutation of an object that does not occur in a tree leaves that tree alone.
-/
import Gedcom.Model.CopyDoc
namespace Gedcom

theorem eraseList_eq_map (ks : List INode) : eraseList ks = ks.map INode.erase := by
  induction ks with
  | nil => rfl
  | cons k ks ih => simp [eraseList, ih]

theorem idsList_mem {ks : List INode} {i : Nat} :
    i ∈ idsList ks ↔ ∃ k ∈ ks, i ∈ k.ids := by
  induction ks with
  | nil => simp [idsList]
  | cons k ks ih => simp [idsList, ih]

theorem idsList_append (a b : List INode) : idsList (a ++ b) = idsList a ++ idsList b := by
  induction a with
  | nil => rfl
  | cons x xs ih => simp [idsList, ih]

theorem INode.ids_eq (n : INode) : n.ids = n.id :: idsList n.kids := by
  obtain ⟨i, t, v, p, ks⟩ := n
  simp [INode.ids, INode.id, INode.kids]

theorem ids_of_leaf {x : INode} (h : x.kids = []) : x.ids = [x.id] := by
  cases x with
  | mk i t v p ks =>
    simp only [INode.kids] at h
    subst h
    simp [INode.ids, idsList, INode.id]

theorem INode.erase_eq (n : INode) : n.erase = .mk n.tag n.value n.ptr (n.kids.map INode.erase) := by
  obtain ⟨i, t, v, p, ks⟩ := n
  simp [INode.erase, eraseList_eq_map, INode.tag, INode.value, INode.ptr, INode.kids]

theorem INode.erase_kids (n : INode) : n.erase.kids = n.kids.map INode.erase := by
  rw [INode.erase_eq]; rfl

theorem INode.erase_tag (n : INode) : n.erase.tag = n.tag := by rw [INode.erase_eq]; rfl

mutual
theorem filterTree_spec (keep : Str → Bool) (next : Nat) (t : INode) :
    match filterTree keep next t with
    | none => pruneNode keep t.erase = none
    | some r => pruneNode keep t.erase = some r.1.erase ∧ next < r.2.1 ∧
        (∀ i ∈ r.1.ids, next ≤ i ∧ i < r.2.1) ∧ (∀ w ∈ r.2.2, next ≤ w ∧ w < r.2.1) := by
  match t with
  | .mk i tg v p ks =>
    have h := filterKids_spec keep (next + 1) next ks
    simp only [filterTree, INode.erase, pruneNode]
    cases hk : keep tg
    · simp
    · simp only [if_true]
      refine ⟨by simp only [INode.erase]; rw [h.1], by omega, ?_, ?_⟩
      · intro j hj
        simp only [INode.ids] at hj
        rcases List.mem_cons.mp hj with rfl | hj
        · omega
        · have := h.2.2.1 j hj; omega
      · intro w hw
        rcases h.2.2.2 w hw with h' | h' <;> omega
theorem filterKids_spec (keep : Str → Bool) (next parent : Nat) (ks : List INode) :
    pruneList keep (eraseList ks) = eraseList (filterKids keep next parent ks).1 ∧
    next ≤ (filterKids keep next parent ks).2.1 ∧
    (∀ i ∈ idsList (filterKids keep next parent ks).1,
      next ≤ i ∧ i < (filterKids keep next parent ks).2.1) ∧
    (∀ w ∈ (filterKids keep next parent ks).2.2,
      (next ≤ w ∧ w < (filterKids keep next parent ks).2.1) ∨ w = parent) := by
  match ks with
  | [] => simp [filterKids, eraseList, pruneList, idsList]
  | k :: ks =>
    have h1 := filterTree_spec keep next k
    simp only [filterKids, eraseList, pruneList]
    cases hf : filterTree keep next k with
    | none =>
      rw [hf] at h1
      simp only at h1
      rw [h1]
      exact filterKids_spec keep next parent ks
    | some a =>
      rw [hf] at h1
      simp only at h1
      have h2 := filterKids_spec keep a.2.1 parent ks
      rw [h1.1]
      simp only [eraseList, idsList]
      refine ⟨by rw [h2.1], by omega, ?_, ?_⟩
      · intro j hj
        rcases List.mem_append.mp hj with hj | hj
        · have := h1.2.2.1 j hj; omega
        · have := h2.2.2.1 j hj; omega
      · intro w hw
        rcases List.mem_append.mp hw with hw | hw
        · have := h1.2.2.2 w hw; left; omega
        · rcases List.mem_cons.mp hw with rfl | hw
          · right; rfl
          · rcases h2.2.2.2 w hw with h | h
            · left; omega
            · right; exact h
end

mutual
theorem filterTree_all (next : Nat) (t : INode) :
    filterTree (fun _ => true) next t = some (copyTree next t) := by
  match t with
  | .mk i tg v p ks => simp only [filterTree, copyTree, if_true, filterKids_all]
theorem filterKids_all (next parent : Nat) (ks : List INode) :
    filterKids (fun _ => true) next parent ks = copyKids next parent ks := by
  match ks with
  | [] => rfl
  | k :: ks => simp only [filterKids, copyKids, filterTree_all, filterKids_all]
end

mutual
theorem pruneNode_all (t : Node) : pruneNode (fun _ => true) t = some t := by
  match t with
  | .mk tg v p ks => simp only [pruneNode, if_true, pruneList_all]
theorem pruneList_all (ks : List Node) : pruneList (fun _ => true) ks = ks := by
  match ks with
  | [] => rfl
  | k :: ks => simp only [pruneList, pruneNode_all, pruneList_all]
end

theorem copyTree_erase (next : Nat) (t : INode) : (copyTree next t).1.erase = t.erase := by
  have h := filterTree_spec (fun _ => true) next t
  rw [filterTree_all, pruneNode_all] at h
  exact (Option.some.inj h.1).symm

theorem copyKids_erase (next parent : Nat) (ks : List INode) :
    eraseList (copyKids next parent ks).1 = eraseList ks := by
  have h := (filterKids_spec (fun _ => true) next parent ks).1
  rw [filterKids_all, pruneList_all] at h
  exact h.symm

theorem copyTree_ids (next : Nat) (t : INode) :
    next < (copyTree next t).2.1 ∧
    (∀ i ∈ (copyTree next t).1.ids, next ≤ i ∧ i < (copyTree next t).2.1) ∧
    (∀ w ∈ (copyTree next t).2.2, next ≤ w ∧ w < (copyTree next t).2.1) := by
  have h := filterTree_spec (fun _ => true) next t
  rw [filterTree_all] at h
  exact h.2

theorem copyKids_ids (next parent : Nat) (ks : List INode) :
    next ≤ (copyKids next parent ks).2.1 ∧
    (∀ i ∈ idsList (copyKids next parent ks).1, next ≤ i ∧ i < (copyKids next parent ks).2.1) ∧
    (∀ w ∈ (copyKids next parent ks).2.2,
      (next ≤ w ∧ w < (copyKids next parent ks).2.1) ∨ w = parent) := by
  have h := filterKids_spec (fun _ => true) next parent ks
  rw [filterKids_all] at h
  exact h.2

mutual
theorem applyMut_of_not_mem (m : Mut) (t : INode) (h : m.target ∉ t.ids) : applyMut m t = t := by
  match t with
  | .mk i tg v p ks =>
    simp only [INode.ids, List.mem_cons, not_or] at h
    simp only [applyMut]
    rw [applyMutList_of_not_mem m ks h.2]
    have : (i == m.target) = false := by
      simp only [beq_eq_false_iff_ne, ne_eq]; exact fun e => h.1 e.symm
    simp [this]
theorem applyMutList_of_not_mem (m : Mut) (ks : List INode) (h : m.target ∉ idsList ks) :
    applyMutList m ks = ks := by
  match ks with
  | [] => rfl
  | k :: ks =>
    simp only [idsList, List.mem_append, not_or] at h
    simp only [applyMutList]
    rw [applyMut_of_not_mem m k h.1, applyMutList_of_not_mem m ks h.2]
end

end Gedcom

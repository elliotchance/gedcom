/-
  `Date.Equals` as date.go writes it: a 4×4 table of the four methods `equalsA … equalsD`, indexed
  `[date2.Constraint][date.Constraint]`.  The model's `PDate.equals` has the bodies written into
  the table; `PDate.equals_table` is the step between the two.  Before it, what the cells are made
  of: `is`, `sameDMY` and `yearsLt` as relations.
-/
import Gedcom.Model.DateParse
namespace Gedcom

theorem PDate.is_comm (a b : PDate) : a.is b = b.is a := by
  unfold PDate.is
  rw [Bool.beq_comm (a := a.day), Bool.beq_comm (a := a.month), Bool.beq_comm (a := a.year),
    Bool.beq_comm (a := a.constraint)]

theorem PDate.sameDMY_comm (a b : PDate) : a.sameDMY b = b.sameDMY a := by
  unfold PDate.sameDMY
  rw [Bool.beq_comm (a := a.day), Bool.beq_comm (a := a.month), Bool.beq_comm (a := a.year)]

theorem PDate.yearsFrac_of_sameDMY {a b : PDate} (h : a.sameDMY b = true) :
    a.yearsFrac = b.yearsFrac := by
  simp only [PDate.sameDMY, Bool.and_eq_true, beq_iff_eq] at h
  obtain ⟨⟨h1, h2⟩, h3⟩ := h
  simp [PDate.yearsFrac, PDate.toDate, h1, h2, h3]

theorem PDate.sameDMY_of_is {a b : PDate} (h : a.is b = true) : a.sameDMY b = true := by
  simp only [PDate.is, Bool.and_eq_true] at h
  simp only [PDate.sameDMY, Bool.and_eq_true]
  exact h.1

theorem PDate.yearsLt_asymm {a b : PDate} (h : a.yearsLt b = true) : b.yearsLt a = false := by
  simp only [PDate.yearsLt, decide_eq_true_eq] at h
  simp only [PDate.yearsLt, decide_eq_false_iff_not]
  omega

theorem PDate.yearsLt_of_sameDMY {a b : PDate} (h : a.sameDMY b = true) : a.yearsLt b = false := by
  simp only [PDate.yearsLt, decide_eq_false_iff_not, PDate.yearsFrac_of_sameDMY h]
  omega

theorem PDate.yearsLt_eq_swap_iff (a b : PDate) :
    a.yearsLt b = b.yearsLt a ↔ (a.yearsLt b || b.yearsLt a) = false := by
  cases h1 : a.yearsLt b
  · cases b.yearsLt a <;> decide
  · rw [PDate.yearsLt_asymm h1]; decide

theorem PDate.sameDMY_trans {a b c : PDate} (h1 : a.sameDMY b = true) (h2 : b.sameDMY c = true) :
    a.sameDMY c = true := by
  simp only [PDate.sameDMY, Bool.and_eq_true, beq_iff_eq] at *
  exact ⟨⟨h1.1.1.trans h2.1.1, h1.1.2.trans h2.1.2⟩, h1.2.trans h2.2⟩

/-- the methods `Date.equalsA … equalsD` -/
inductive DateMatcher where
  | A | B | C | D
deriving DecidableEq

/-- their bodies: `x` the receiver, `y` the argument -/
def DateMatcher.run : DateMatcher → PDate → PDate → Bool
  | .A, x, y => x.sameDMY y
  | .B, x, y => y.yearsLt x
  | .C, x, y => x.yearsLt y
  | .D, _, _ => false

/-- `matchers[row][col]` -/
def DateMatcher.at : Constraint → Constraint → DateMatcher
  | .exact, .exact => .A | .exact, .about => .A | .exact, .before => .B | .exact, .after => .C
  | .about, .exact => .A | .about, .about => .A | .about, .before => .D | .about, .after => .D
  | .before, .exact => .C | .before, .about => .D | .before, .before => .C | .before, .after => .D
  | .after, .exact => .B | .after, .about => .D | .after, .before => .D | .after, .after => .B

theorem PDate.equals_table (a b : PDate) :
    a.equals b = if a.isZero || b.isZero then false else if a.is b then true
      else (DateMatcher.at b.constraint a.constraint).run a b := by
  unfold PDate.equals
  cases a.constraint <;> cases b.constraint <;> rfl

theorem PDate.equals_nonzero {x y : PDate} (h : x.equals y = true) :
    x.isZero = false ∧ y.isZero = false := by
  rw [PDate.equals_table] at h
  cases hx : x.isZero
  · cases hy : y.isZero
    · exact ⟨rfl, rfl⟩
    · rw [hx, hy] at h; cases h
  · rw [hx] at h; cases h

end Gedcom

/-
  Facts about the family bookkeeping of DeepCopy and its effect on the destination document
  (Gedcom/Model/CopyDoc.lean).
-/
import Gedcom.Lemmas.Ident
namespace Gedcom

theorem firstNew_append (seen : List Nat) (a b : List (Nat × Str)) :
    firstNew seen (a ++ b) =
      ((firstNew (firstNew seen a).1 b).1, (firstNew seen a).2 ++ (firstNew (firstNew seen a).1 b).2) := by
  induction a generalizing seen with
  | nil => simp [firstNew]
  | cons x xs ih =>
    obtain ⟨f, p⟩ := x
    simp only [List.cons_append, firstNew]
    split
    · exact ih seen
    · rw [ih (f :: seen)]; simp

mutual
/-- The walk's bookkeeping is: collect the family of every role node, keep first occurrences.  It
    fails only when it starts without a family, and a family it has is never lost. -/
theorem famWalk_cases (fam : Option (Nat × Str)) (seen : List Nat) (t : INode) :
    (famWalk fam seen t = none ∧ fam = none) ∨
    (famWalk fam seen t = some ((famsUsed fam t).1, firstNew seen (famsUsed fam t).2) ∧
      (fam.isSome = true → (famsUsed fam t).1.isSome = true)) := by
  match t with
  | .mk i tg v p ks =>
    simp only [famWalk, famsUsed]
    split
    · rcases famWalkList_cases (some (i, p)) seen ks with ⟨_, h⟩ | ⟨h, hs⟩
      · cases h
      · exact Or.inr ⟨h, fun _ => hs rfl⟩
    · split
      · match fam with
        | none => exact Or.inl ⟨rfl, rfl⟩
        | some (fi, fp) =>
          simp only [firstNew]
          split
          · rcases famWalkList_cases (some (fi, fp)) seen ks with ⟨_, h⟩ | ⟨h, hs⟩
            · cases h
            · exact Or.inr ⟨h, hs⟩
          · rcases famWalkList_cases (some (fi, fp)) (fi :: seen) ks with ⟨_, h⟩ | ⟨h, hs⟩
            · cases h
            · exact Or.inr ⟨by rw [h]; rfl, hs⟩
      · exact famWalkList_cases fam seen ks
theorem famWalkList_cases (fam : Option (Nat × Str)) (seen : List Nat) (ks : List INode) :
    (famWalkList fam seen ks = none ∧ fam = none) ∨
    (famWalkList fam seen ks = some ((famsUsedList fam ks).1, firstNew seen (famsUsedList fam ks).2) ∧
      (fam.isSome = true → (famsUsedList fam ks).1.isSome = true)) := by
  match ks with
  | [] => exact Or.inr ⟨rfl, id⟩
  | k :: ks =>
    simp only [famWalkList, famsUsedList]
    rcases famWalk_cases fam seen k with ⟨h, hf⟩ | ⟨h, hs⟩
    · rw [h]; exact Or.inl ⟨rfl, hf⟩
    · rw [h]
      rcases famWalkList_cases (famsUsed fam k).1 (firstNew seen (famsUsed fam k).2).1 ks with
        ⟨h2, hf2⟩ | ⟨h2, hs2⟩
      · -- the rest fails only without a family, and a family is never lost
        refine Or.inl ⟨by simp only [h2]; rfl, ?_⟩
        cases hfam : fam with
        | none => rfl
        | some f => have := hs (by rw [hfam]; rfl); rw [hf2] at this; cases this
      · exact Or.inr ⟨by simp only [h2, firstNew_append]; rfl, fun hf => hs2 (hs hf)⟩
end

theorem famWalkList_spec (fam : Option (Nat × Str)) (seen : List Nat) (ks : List INode)
    (fam' : Option (Nat × Str)) (seen' : List Nat) (adds : List Str)
    (h : famWalkList fam seen ks = some (fam', seen', adds)) :
    fam' = (famsUsedList fam ks).1 ∧ (seen', adds) = firstNew seen (famsUsedList fam ks).2 := by
  rcases famWalkList_cases fam seen ks with ⟨h', _⟩ | ⟨h', _⟩ <;> rw [h'] at h
  · cases h
  · have e := Option.some.inj h
    exact ⟨congrArg Prod.fst e.symm, congrArg Prod.snd e.symm⟩

theorem famWalk_isSome (fam : Option (Nat × Str)) (seen : List Nat) (t : INode)
    (hf : fam.isSome = true) : ∃ r, famWalk fam seen t = some r ∧ r.1.isSome = true := by
  rcases famWalk_cases fam seen t with ⟨_, h⟩ | ⟨h, hs⟩
  · rw [h] at hf; cases hf
  · exact ⟨_, h, hs hf⟩

theorem famWalkList_isSome (fam : Option (Nat × Str)) (seen : List Nat) (ks : List INode)
    (hf : fam.isSome = true) :
    ∃ r, famWalkList fam seen ks = some r ∧ r.1.isSome = true := by
  rcases famWalkList_cases fam seen ks with ⟨_, h⟩ | ⟨h, hs⟩
  · rw [h] at hf; cases hf
  · exact ⟨_, h, hs hf⟩

theorem firstNew_length (seen : List Nat) (l : List (Nat × Str)) :
    (firstNew seen l).1.length = (firstNew seen l).2.length + seen.length := by
  induction l generalizing seen with
  | nil => simp [firstNew]
  | cons x xs ih =>
    obtain ⟨f, p⟩ := x
    simp only [firstNew]
    split
    · exact ih seen
    · rw [ih (f :: seen)]
      simp only [List.length_cons]
      omega

theorem firstNew_nodup (seen : List Nat) (l : List (Nat × Str)) (h : seen.Nodup) :
    (firstNew seen l).1.Nodup := by
  induction l generalizing seen with
  | nil => exact h
  | cons x xs ih =>
    obtain ⟨f, p⟩ := x
    simp only [firstNew]
    split
    · exact ih seen h
    · rename_i hs
      apply ih
      simp only [List.nodup_cons]
      exact ⟨by simpa using hs, h⟩

theorem firstNew_mem (seen : List Nat) (l : List (Nat × Str)) (f : Nat) :
    f ∈ (firstNew seen l).1 ↔ f ∈ seen ∨ f ∈ l.map (·.1) := by
  induction l generalizing seen with
  | nil => simp [firstNew]
  | cons x xs ih =>
    obtain ⟨g, p⟩ := x
    simp only [firstNew]
    split
    · rename_i hs
      have hg : g ∈ seen := by simpa using hs
      rw [ih seen]
      simp only [List.map_cons, List.mem_cons]
      exact ⟨fun h => h.imp id Or.inr,
        fun h => h.elim Or.inl fun h => h.elim (fun e => Or.inl (e ▸ hg)) Or.inr⟩
    · rw [ih (g :: seen)]
      simp only [List.map_cons, List.mem_cons]
      rw [or_assoc, or_left_comm]

theorem newFams_spec (next : Nat) (ps : List Str) :
    (newFams next ps).2 = next + ps.length ∧
    (newFams next ps).1.map (·.ptr) = ps ∧
    (newFams next ps).1.map (·.id) = List.range' next ps.length ∧
    ∀ r ∈ (newFams next ps).1, r.tag = tagFAM ∧ r.value = [] ∧ r.kids = [] ∧
      next ≤ r.id ∧ r.id < next + ps.length := by
  induction ps generalizing next with
  | nil => simp [newFams]
  | cons p ps ih =>
    obtain ⟨h1, h2, h3, h4⟩ := ih (next + 1)
    simp only [newFams, List.length_cons, List.map_cons, List.range']
    refine ⟨by omega, ?_, ?_, ?_⟩
    · exact congrArg (p :: ·) h2
    · exact congrArg (next :: ·) h3
    · intro r hr
      rcases List.mem_cons.mp hr with rfl | hr
      · exact ⟨rfl, rfl, rfl, Nat.le_refl _, by simp only [INode.id]; omega⟩
      · obtain ⟨p1, p2, p3, p4, p5⟩ := h4 r hr
        exact ⟨p1, p2, p3, by omega, by omega⟩

/-- what a successful `DeepCopy` returns: the value of its source, built from the objects
    `next ≤ id < n` only, and the pointers of the families met, first occurrences in order -/
structure CopyOK (ctx : Option (Nat × Str)) (next : Nat) (t c : INode) (n : Nat) (w : List Nat)
    (f : List Str) : Prop where
  value : c.erase = t.erase
  next_lt : next < n
  fresh : ∀ i ∈ c.ids, next ≤ i ∧ i < n
  writes : ∀ i ∈ w, next ≤ i ∧ i < n
  fams : f = (firstNew [] (famsUsed ctx t).2).2

theorem deepCopyIn_ok {ctx : Option (Nat × Str)} {next : Nat} {t c : INode} {n : Nat}
    {w : List Nat} {f : List Str} (h : deepCopyIn ctx next t = .ok c n w f) :
    CopyOK ctx next t c n w f := by
  unfold deepCopyIn at h
  split at h
  · cases h
  · rename_i fam' seen' adds hw
    injection h with h1 h2 h3 h4
    subst h1 h2 h3 h4
    refine ⟨copyTree_erase next t, (copyTree_ids next t).1, (copyTree_ids next t).2.1,
      (copyTree_ids next t).2.2, ?_⟩
    rcases famWalk_cases ctx [] t with ⟨h', _⟩ | ⟨h', _⟩ <;> rw [h'] at hw
    · cases hw
    · exact congrArg (·.2.2) (Option.some.inj hw).symm

end Gedcom

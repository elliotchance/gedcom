/-
  Lemmas for C12 (similarity scores) over the exact rationals: the Jaro loop, the date parabola,
  the running maximum, and the arithmetic of the bounds (`padded_mean_bounds`,
  `weightedSimilarity_bounds`; the bounds of the scores are in Props/C12).  Core Lean only: `grind`
  does what `ring` and `linarith` would, ring identities and linear steps over `Rat`.
-/
import Gedcom.Lemmas.JaroMatching
namespace Gedcom.Sim

theorem jaroValue_bounds (m h la lb : Nat) (h1 : m ≤ la) (h2 : m ≤ lb) (h3 : h ≤ m) :
    0 ≤ jaroValue m h la lb ∧ jaroValue m h la lb ≤ 1 := by
  unfold jaroValue
  split
  · constructor <;> decide
  · rename_i hm
    have hm0 : (0 : Rat) < (m : Rat) := Rat.natCast_pos.mpr (by omega)
    have a := weighted_div ⟨Rat.le_of_lt hm0, Rat.natCast_le_natCast.mpr h1⟩ (Rat.natCast_pos.mpr (by omega))
    have b := weighted_div ⟨Rat.le_of_lt hm0, Rat.natCast_le_natCast.mpr h2⟩ (Rat.natCast_pos.mpr (by omega))
    have ht0 : (0 : Rat) ≤ ((h / 2 : Nat) : Rat) := Rat.natCast_nonneg
    have ht1 : ((h / 2 : Nat) : Rat) ≤ (m : Rat) := Rat.natCast_le_natCast.mpr (by omega)
    have c := weighted_div (s := (m : Rat) - ((h / 2 : Nat) : Rat))
      ⟨(Rat.le_iff_sub_nonneg _ _).mp ht1, by grind⟩ hm0
    have s := weighted_add (weighted_add a b) c
    exact weighted_div ⟨s.1, Rat.le_trans s.2 (by decide +kernel)⟩ (by decide)

theorem jaroValue_self {n : Nat} (h : n ≠ 0) : jaroValue n 0 n n = 1 := by
  have hq : (n : Rat) ≠ 0 := (Rat.ne_of_lt (Rat.natCast_pos.mpr (Nat.pos_of_ne_zero h))).symm
  unfold jaroValue
  rw [if_neg h]
  have e : (n : Rat) - ((0 / 2 : Nat) : Rat) = n := by simp [Rat.sub_eq_add_neg, Rat.add_zero]
  rw [e, rat_div_self hq]
  decide +kernel

theorem jaroValue_comm (m h la lb : Nat) : jaroValue m h la lb = jaroValue m h lb la := by
  unfold jaroValue
  split
  · rfl
  · rw [Rat.add_comm ((m : Rat) / (la : Rat))]

theorem indicator_comm (x y : UInt8) : (if x = y then 1 else 0 : Nat) = if y = x then 1 else 0 := by
  by_cases e : x = y
  · subst e; rfl
  · rw [if_neg e, if_neg fun h => e h.symm]

/-- the number of positions at which the two strings carry the same byte (what Jaro counts with
    window 0, i.e. for strings shorter than 6 bytes, where a position can only match itself) -/
def agree : Str → Str → Nat
  | x :: xs, y :: ys => (if x = y then 1 else 0) + agree xs ys
  | _, _ => 0

theorem agree_comm (a b : Str) : agree a b = agree b a := by
  induction a generalizing b with
  | nil => cases b <;> simp [agree]
  | cons x xs ih =>
    cases b with
    | nil => simp [agree]
    | cons y ys =>
      simp only [agree]
      rw [ih ys, indicator_comm]

theorem agree_self : ∀ a : Str, agree a a = a.length
  | [] => rfl
  | x :: xs => by simp [agree, agree_self xs, Nat.add_comm]

/-- the pairs `(i, i)` with the same byte at `i` in both strings -/
def agreeing (a b : Str) : List (Nat × Nat) :=
  ((a.zip b).zipIdx.filter fun p => p.1.1 == p.1.2).map fun p => (p.2, p.2)

theorem mem_agreeing {a b : Str} {i j : Nat} :
    (i, j) ∈ agreeing a b ↔ j = i ∧ ∃ c, a[i]? = some c ∧ b[i]? = some c := by
  simp only [agreeing, List.mem_map, List.mem_filter, List.mem_zipIdx_iff_getElem?, Prod.exists,
    Prod.mk.injEq, beq_iff_eq, List.getElem?_zip_eq_some]
  constructor
  · rintro ⟨x, y, k, ⟨⟨h1, h2⟩, rfl⟩, rfl, rfl⟩; exact ⟨rfl, x, h1, h2⟩
  · rintro ⟨rfl, c, h1, h2⟩; exact ⟨c, c, j, ⟨⟨h1, h2⟩, rfl⟩, rfl, rfl⟩

theorem agreeing_length (a b : Str) : (agreeing a b).length = agree a b := by
  have h : ∀ l : List (UInt8 × UInt8),
      (l.zipIdx.filter fun p => p.1.1 == p.1.2).length = (l.filter fun p => p.1 == p.2).length := by
    intro l
    have := List.filter_map (f := Prod.fst) (p := fun p : UInt8 × UInt8 => p.1 == p.2) (l := l.zipIdx)
    rw [List.zipIdx_map_fst] at this
    rw [this, List.length_map]
    rfl
  rw [agreeing, List.length_map, h]
  induction a generalizing b with
  | nil => simp [agree]
  | cons x xs ih =>
    cases b with
    | nil => simp [agree]
    | cons y ys =>
      simp only [List.zip_cons_cons, List.filter_cons, agree]
      split <;> simp_all <;> omega

/-- an admissible pair off the diagonal is pre-empted by its smaller index matched with itself
    (`h`: trivial for a string against itself and for window 0) -/
theorem agreeing_stable (a b : Str) (r : Nat)
    (h : ∀ i j, Edge a b r i j → i ≠ j → a[min i j]? = b[min i j]?) : Stable a b r (agreeing a b) := by
  refine ⟨?_, ?_, ?_, ?_⟩
  · intro i j hm
    obtain ⟨rfl, hc⟩ := mem_agreeing.mp hm
    exact ⟨hc, by omega, by omega⟩
  · intro i j j' h1 h2
    rw [(mem_agreeing.mp h1).1, (mem_agreeing.mp h2).1]
  · intro i i' j h1 h2
    rw [← (mem_agreeing.mp h1).1, ← (mem_agreeing.mp h2).1]
  · intro i j he
    obtain ⟨c, h1, h2⟩ := he.1
    rcases Nat.lt_trichotomy i j with hlt | rfl | hgt
    · have e := h i j he (Nat.ne_of_lt hlt)
      rw [Nat.min_eq_left (Nat.le_of_lt hlt), h1] at e
      exact Or.inr (Or.inl ⟨i, hlt, mem_agreeing.mpr ⟨rfl, c, h1, e.symm⟩⟩)
    · exact Or.inl (mem_agreeing.mpr ⟨rfl, c, h1, h2⟩)
    · have e := h i j he (Nat.ne_of_gt hgt)
      rw [Nat.min_eq_right (Nat.le_of_lt hgt), h2] at e
      exact Or.inr (Or.inr ⟨j, hgt, mem_agreeing.mpr ⟨rfl, c, e, h2⟩⟩)

theorem jaroFinal_agreeing (a b : Str)
    (h : ∀ i j, Edge a b (matchRange a.length b.length) i j → i ≠ j → a[min i j]? = b[min i j]?) :
    (jaroFinal a b).nMatch = agree a b ∧ (jaroFinal a b).nHalf = 0 := by
  have hn : (agreeing a b).Nodup := by
    unfold agreeing
    exact List.Pairwise.map _ (fun x y hlt e => Nat.ne_of_lt hlt (congrArg Prod.fst e))
      ((zipIdx_increasing _ 0).filter _)
  have := jaroFinal_of_stable (agreeing_stable a b _ h) hn
  rw [this.1, this.2, agreeing_length]
  refine ⟨rfl, ?_⟩
  unfold offDiag
  rw [List.countP_eq_zero]
  rintro ⟨i, j⟩ hm
  simp [(mem_agreeing.mp hm).1]

theorem jaroFinal_self (a : Str) :
    (jaroFinal a a).nMatch = a.length ∧ (jaroFinal a a).nHalf = 0 :=
  agree_self a ▸ jaroFinal_agreeing a a fun _ _ _ _ => rfl

/-- no common byte: there is no admissible pair, and the empty matching is stable -/
theorem jaro_disjoint (a b : Str) (h : ∀ c ∈ a, c ∉ b) : jaro a b = 0 := by
  have hs : Stable a b (matchRange a.length b.length) [] := by
    have none : ∀ i j, ¬ Edge a b (matchRange a.length b.length) i j := by
      rintro i j ⟨⟨c, h1, h2⟩, _⟩
      exact h c (List.mem_of_getElem? h1) (List.mem_of_getElem? h2)
    exact ⟨fun _ _ hm => (nomatch hm), fun _ _ _ hm => (nomatch hm), fun _ _ _ hm => (nomatch hm),
      fun i j he => absurd he (none i j)⟩
  unfold jaro
  simp only [(jaroFinal_of_stable hs List.nodup_nil).1]
  rfl

theorem jaro_window0 (a b : Str) (h : matchRange a.length b.length = 0) :
    jaro a b = jaroValue (agree a b) 0 a.length b.length := by
  have := jaroFinal_agreeing a b fun i j he hne => absurd (by have := he.2; omega) hne
  unfold jaro
  simp only [this.1, this.2]

theorem jaro_symm (a b : Str) : jaro a b = jaro b a := by
  unfold jaro
  simp only
  rw [(jaroFinal_symm a b).1, (jaroFinal_symm a b).2]
  exact jaroValue_comm _ _ _ _

theorem prefixMatches_le (n : Nat) (a b : Str) : prefixMatches n a b ≤ n := by
  induction n generalizing a b with
  | zero => cases a <;> cases b <;> simp [prefixMatches]
  | succ n ih =>
    cases a with
    | nil => simp [prefixMatches]
    | cons x xs =>
      cases b with
      | nil => simp [prefixMatches]
      | cons y ys =>
        simp only [prefixMatches]
        have := ih xs ys
        split <;> omega

theorem prefixMatches_comm (n : Nat) (a b : Str) : prefixMatches n a b = prefixMatches n b a := by
  induction n generalizing a b with
  | zero => cases a <;> cases b <;> simp [prefixMatches]
  | succ n ih =>
    cases a with
    | nil => cases b <;> simp [prefixMatches]
    | cons x xs =>
      cases b with
      | nil => simp [prefixMatches]
      | cons y ys =>
        simp only [prefixMatches]
        rw [ih xs ys, indicator_comm]

/-- the boost never leaves the unit interval as long as at most ten positions are counted: it is
    the convex combination of 1 and `j` with weight `p / 10` -/
theorem boost_bounds (j : Rat) (p : Nat) (h0 : 0 ≤ j) (h1 : j ≤ 1) (hp : p ≤ 10) :
    0 ≤ j + (1 / 10 : Rat) * (p : Rat) * (1 - j) ∧ j + (1 / 10 : Rat) * (p : Rat) * (1 - j) ≤ 1 := by
  have ht0 : (0 : Rat) ≤ 1 / 10 * (p : Rat) :=
    Rat.mul_nonneg (by decide +kernel) Rat.natCast_nonneg
  have ht1 : (1 / 10 : Rat) * (p : Rat) ≤ 1 :=
    Rat.le_trans (Rat.mul_le_mul_of_nonneg_left (Rat.natCast_le_natCast.mpr hp) (by decide +kernel))
      (by decide +kernel)
  have e : j + (1 / 10 : Rat) * (p : Rat) * (1 - j) =
      1 * (1 / 10 * (p : Rat)) + j * (1 - 1 / 10 * (p : Rat)) := by grind
  rw [e]
  exact convex_bounds 1 j _ (by decide) (by decide) h0 h1 ht0 ht1

theorem jaroWinkler_comm_of_jaro (a b : Str) (boost : Rat) (p : Nat) (h : jaro a b = jaro b a) :
    jaroWinkler a b boost p = jaroWinkler b a boost p := by
  unfold jaroWinkler
  simp only [h, prefixMatches_comm p a b]

/-- the parabola of `yearsSimilarity` as a function of the squared relative distance -/
def cutoff (s : Rat) : Rat := if s > 1 then 0 else 1 - s

theorem yearsSimilarity_eq (l r m : Rat) :
    yearsSimilarity l r m = cutoff ((l - r) / m * ((l - r) / m)) := rfl

theorem cutoff_bounds {s : Rat} (h : 0 ≤ s) : 0 ≤ cutoff s ∧ cutoff s ≤ 1 := by
  unfold cutoff
  split
  · constructor <;> decide
  · rename_i h1
    have := Rat.not_lt.mp h1
    constructor <;> grind

theorem cutoff_anti {s t : Rat} (h : s ≤ t) : cutoff t ≤ cutoff s := by
  unfold cutoff
  split <;> split
  · exact Rat.le_refl
  · rename_i h2; have := Rat.not_lt.mp h2; grind
  · rename_i h1 h2; have := Rat.not_lt.mp h1; grind
  · grind

theorem yearsSimilarity_comm (l r m : Rat) : yearsSimilarity l r m = yearsSimilarity r l m := by
  rw [yearsSimilarity_eq, yearsSimilarity_eq, ratio_sq, ratio_sq]
  congr 2
  grind

theorem yearsSimilarity_antitone_sq (l r l' r' m : Rat)
    (h : (l - r) * (l - r) ≤ (l' - r') * (l' - r')) :
    yearsSimilarity l' r' m ≤ yearsSimilarity l r m := by
  rw [yearsSimilarity_eq, yearsSimilarity_eq, ratio_sq, ratio_sq]
  exact cutoff_anti (Rat.mul_le_mul_of_nonneg_right h (rat_mul_self_nonneg m⁻¹))

theorem dateSimilarity_comm (l r : Option DateR) (m : Rat) :
    dateSimilarity l r m = dateSimilarity r l m := by
  cases l <;> cases r <;> simp [dateSimilarity, rangeSimilarity, yearsSimilarity_comm]

section runningMax
variable {α β γ : Type} (lt : γ → γ → Prop) [DecidableRel lt]

/-- `for x in xs { s := g x; if acc < s { acc = s } }`, for any comparison -/
def foldMax (g : α → γ) (acc : γ) (xs : List α) : γ :=
  xs.foldl (fun acc x => if lt acc (g x) then g x else acc) acc

def foldMax2 (g : α → β → γ) (acc : γ) (xs : List α) (ys : List β) : γ :=
  xs.foldl (fun acc x => foldMax lt (g x) acc ys) acc

theorem foldMax_spec (hasym : ∀ a b, lt a b → ¬ lt b a)
    (htrans : ∀ a b c, ¬ lt b a → ¬ lt c b → ¬ lt c a) (g : α → γ) (acc : γ) (xs : List α) :
    ¬ lt (foldMax lt g acc xs) acc ∧ (∀ x ∈ xs, ¬ lt (foldMax lt g acc xs) (g x)) ∧
    (foldMax lt g acc xs = acc ∨ ∃ x ∈ xs, foldMax lt g acc xs = g x) := by
  induction xs generalizing acc with
  | nil => exact ⟨fun h => hasym _ _ h h, fun _ hx => (nomatch hx), Or.inl rfl⟩
  | cons a l ih =>
    simp only [foldMax, List.foldl_cons]
    by_cases h : lt acc (g a)
    · rw [if_pos h]
      obtain ⟨h1, h2, h3⟩ := ih (g a)
      refine ⟨htrans _ _ _ (hasym _ _ h) h1, List.forall_mem_cons.mpr ⟨h1, h2⟩, Or.inr ?_⟩
      rcases h3 with e | ⟨x, hx, e⟩
      · exact ⟨a, List.mem_cons_self, e⟩
      · exact ⟨x, List.mem_cons_of_mem _ hx, e⟩
    · rw [if_neg h]
      obtain ⟨h1, h2, h3⟩ := ih acc
      refine ⟨h1, List.forall_mem_cons.mpr ⟨htrans _ _ _ h h1, h2⟩, ?_⟩
      exact h3.imp_right fun ⟨x, hx, e⟩ => ⟨x, List.mem_cons_of_mem _ hx, e⟩

theorem foldMax2_spec (hasym : ∀ a b, lt a b → ¬ lt b a)
    (htrans : ∀ a b c, ¬ lt b a → ¬ lt c b → ¬ lt c a) (g : α → β → γ) (acc : γ)
    (xs : List α) (ys : List β) :
    ¬ lt (foldMax2 lt g acc xs ys) acc ∧
    (∀ x ∈ xs, ∀ y ∈ ys, ¬ lt (foldMax2 lt g acc xs ys) (g x y)) ∧
    (foldMax2 lt g acc xs ys = acc ∨ ∃ x ∈ xs, ∃ y ∈ ys, foldMax2 lt g acc xs ys = g x y) := by
  induction xs generalizing acc with
  | nil => exact ⟨fun h => hasym _ _ h h, fun _ hx => (nomatch hx), Or.inl rfl⟩
  | cons a l ih =>
    simp only [foldMax2, List.foldl_cons]
    obtain ⟨i1, i2, i3⟩ := foldMax_spec lt hasym htrans (g a) acc ys
    obtain ⟨j1, j2, j3⟩ := ih (foldMax lt (g a) acc ys)
    refine ⟨htrans _ _ _ i1 j1, List.forall_mem_cons.mpr ⟨fun y hy => htrans _ _ _ (i2 y hy) j1, j2⟩, ?_⟩
    rcases j3 with e | ⟨x, hx, y, hy, e⟩
    · rcases i3 with e' | ⟨y, hy, e'⟩
      · exact Or.inl (e.trans e')
      · exact Or.inr ⟨a, List.mem_cons_self, y, hy, e.trans e'⟩
    · exact Or.inr ⟨x, List.mem_cons_of_mem _ hx, y, hy, e⟩

theorem foldMax2_swap_le (hasym : ∀ a b, lt a b → ¬ lt b a)
    (htrans : ∀ a b c, ¬ lt b a → ¬ lt c b → ¬ lt c a) (g : α → β → γ) (g' : β → α → γ) (acc : γ)
    (xs : List α) (ys : List β) (h : ∀ x ∈ xs, ∀ y ∈ ys, g x y = g' y x) :
    ¬ lt (foldMax2 lt g' acc ys xs) (foldMax2 lt g acc xs ys) := by
  obtain ⟨b1, b2, _⟩ := foldMax2_spec lt hasym htrans g' acc ys xs
  obtain ⟨_, _, hsel⟩ := foldMax2_spec lt hasym htrans g acc xs ys
  rcases hsel with e | ⟨x, hx, y, hy, e⟩
  · rw [e]; exact b1
  · rw [e, h x hx y hy]; exact b2 y hy x hx

end runningMax

theorem nameSimilarity_eq (ns ms : List Str) (o : SimOpts) :
    nameSimilarity ns ms o =
      foldMax2 (· < ·) (fun n m => stringSimilarity n m o.jaroBoostThreshold o.jaroPrefixSize) 0 ns ms := rfl

theorem parentsSimilarity_eq (ps qs : List Fam) (o : SimOpts) :
    parentsSimilarity ps qs o =
      if ps.isEmpty || qs.isEmpty then 1 / 2
      else foldMax2 (· < ·) (fun p q => familySimilarity p q o) 0 ps qs := rfl

theorem foldMax2_comm {α β : Type} (g : α → β → Rat) (g' : β → α → Rat) (acc : Rat)
    (xs : List α) (ys : List β) (h : ∀ x ∈ xs, ∀ y ∈ ys, g x y = g' y x) :
    foldMax2 (· < ·) g acc xs ys = foldMax2 (· < ·) g' acc ys xs :=
  Rat.le_antisymm
    (Rat.not_lt.mp (foldMax2_swap_le _ rat_lt_asymm rat_not_lt_trans g g' acc xs ys h))
    (Rat.not_lt.mp (foldMax2_swap_le _ rat_lt_asymm rat_not_lt_trans g' g acc ys xs
      fun y hy x hx => (h x hx y hy).symm))

theorem foldMax2_unit {α β : Type} (g : α → β → Rat) (xs : List α) (ys : List β)
    (h : ∀ x ∈ xs, ∀ y ∈ ys, g x y ≤ 1) :
    0 ≤ foldMax2 (· < ·) g 0 xs ys ∧ foldMax2 (· < ·) g 0 xs ys ≤ 1 := by
  obtain ⟨h1, _, h3⟩ := foldMax2_spec _ rat_lt_asymm rat_not_lt_trans g 0 xs ys
  refine ⟨Rat.not_lt.mp h1, ?_⟩
  rcases h3 with e | ⟨x, hx, y, hy, e⟩
  · rw [e]; decide
  · rw [e]; exact h x hx y hy

theorem comparedNames_self (a : Str) (h : Gedcom.cleanSpace a ≠ []) :
    (comparedNames a a).1 ≠ [] ∧ (comparedNames a a).2 = (comparedNames a a).1 := by
  unfold comparedNames
  by_cases hc : cleanName a = []
  · simp [hc, h]
  · simp [hc]

theorem comparedNames_swap (a b : Str) :
    comparedNames b a = ((comparedNames a b).2, (comparedNames a b).1) := by
  unfold comparedNames
  by_cases h : cleanName a = [] ∧ cleanName b = []
  · simp [h]
  · have h' : ¬ (cleanName b = [] ∧ cleanName a = []) := fun hh => h ⟨hh.2, hh.1⟩
    simp [h, h']

theorem stringSimilarity_comm (a b : Str) (boost : Rat) (p : Nat) :
    stringSimilarity a b boost p = stringSimilarity b a boost p := by
  unfold stringSimilarity
  rw [comparedNames_swap a b]
  exact jaroWinkler_comm_of_jaro _ _ _ _ (jaro_symm _ _)

theorem indiSimilarity_symm (x y : Indi) (o : SimOpts) : indiSimilarity x y o = indiSimilarity y x o := by
  unfold indiSimilarity
  simp only
  rw [nameSimilarity_eq, nameSimilarity_eq,
    foldMax2_comm _ _ 0 x.names y.names fun _ _ _ _ => stringSimilarity_comm _ _ _ _,
    dateSimilarity_comm x.birth y.birth, dateSimilarity_comm x.death y.death]

theorem mem_matrix {c : Cell} {xs ys : List Indi} {o : SimOpts} (h : c ∈ matrix xs ys o) :
    c.a ∈ xs ∧ c.b ∈ ys ∧ c.sim = indiSimilarity c.a c.b o := by
  simp only [matrix, List.mem_flatMap, List.mem_map] at h
  obtain ⟨a, ha, b, hb, e⟩ := h
  subst e
  exact ⟨ha, hb, rfl⟩

theorem winners_mem {m : Rat} {cs : List Cell} {fa fb : List Nat} {c : Cell}
    (h : c ∈ winners m cs fa fb) : c ∈ cs := by
  rw [winners_eq_gw] at h
  exact (gw_sublist cs fa fb).subset h

/-- every winner takes a left individual that no earlier winner took -/
theorem winners_nodup (m : Rat) (cs : List Cell) (fa fb : List Nat) :
    ((winners m cs fa fb).map (fun c => c.a.id)).Nodup ∧
    ∀ c ∈ winners m cs fa fb, c.a.id ∉ fa := by
  induction cs generalizing fa fb with
  | nil => simp [winners]
  | cons d ds ih =>
    simp only [winners]
    split
    · simp
    · split
      · exact ih fa fb
      · rename_i hf
        have hd : d.a.id ∉ fa := fun hmem => hf (by simp [hmem])
        obtain ⟨h1, h2⟩ := ih (d.a.id :: fa) (d.b.id :: fb)
        refine ⟨?_, List.forall_mem_cons.mpr
          ⟨hd, fun c hc hmem => h2 c hc (List.mem_cons_of_mem _ hmem)⟩⟩
        rw [List.map_cons, List.nodup_cons]
        refine ⟨fun hmem => ?_, h1⟩
        obtain ⟨c, hc, e⟩ := List.mem_map.mp hmem
        exact h2 c hc (by rw [e]; exact List.mem_cons_self)

theorem winners_length_le (m : Rat) (xs ys : List Indi) (o : SimOpts) :
    (winners m (sortDesc (matrix xs ys o)) [] []).length ≤ xs.length := by
  have h := (winners_nodup m (sortDesc (matrix xs ys o)) [] []).1
  have hsub : (winners m (sortDesc (matrix xs ys o)) [] []).map (fun c => c.a.id) ⊆ xs.map (fun x => x.id) := by
    intro i hi
    obtain ⟨c, hc, e⟩ := List.mem_map.mp hi
    have := (mem_matrix (mem_sortDesc.mp (winners_mem hc))).1
    exact List.mem_map.mpr ⟨c.a, this, e⟩
  have := List.Nodup.length_le_of_subset h hsub
  simpa using this

theorem sumSims_bounds (w : List Cell) (h : ∀ c ∈ w, 0 ≤ c.sim ∧ c.sim ≤ 1) :
    0 ≤ sumSims w ∧ sumSims w ≤ (w.length : Rat) := by
  induction w with
  | nil => simp [sumSims]
  | cons c cs ih =>
    have hc := h c (by simp)
    have := ih (fun d hd => h d (by simp [hd]))
    simp only [sumSims, List.length_cons]
    have e : ((cs.length + 1 : Nat) : Rat) = 1 + (cs.length : Rat) := by simp [Rat.add_comm]
    rw [e]
    exact weighted_add hc this

/-- the list score: `w` winners with scores summing to `s`, the other `n - w` places one half each -/
theorem padded_mean_bounds {s : Rat} {w n : Nat} (hs : 0 ≤ s ∧ s ≤ (w : Rat)) (hw : w ≤ n) (hn : 0 < n) :
    0 ≤ (s + (1 / 2 : Rat) * ((n : Rat) - (w : Rat))) / (n : Rat) ∧
    (s + (1 / 2 : Rat) * ((n : Rat) - (w : Rat))) / (n : Rat) ≤ 1 := by
  have hrest := (Rat.le_iff_sub_nonneg _ _).mp (Rat.natCast_le_natCast.mpr hw)
  have h := weighted_add hs (weighted_mul (x := 1 / 2) (by decide +kernel) hrest)
  have e : ∀ w n : Rat, w + (n - w) = n := fun w n => by grind
  rw [e] at h
  exact weighted_div h (Rat.natCast_pos.mpr hn)

/-- what `SurroundingSimilarity` returns is well-formed: four scores in the unit interval and
    the options the weights are taken from are valid ones -/
structure SurrSim.WF (s : SurrSim) : Prop where
  parents : 0 ≤ s.parents ∧ s.parents ≤ 1
  individual : 0 ≤ s.individual ∧ s.individual ≤ 1
  spouses : 0 ≤ s.spouses ∧ s.spouses ≤ 1
  children : 0 ≤ s.children ∧ s.children ≤ 1
  opts : s.opts.Valid

theorem weightedSimilarity_bounds (s : SurrSim) (h : s.WF) :
    0 ≤ weightedSimilarity s ∧ weightedSimilarity s ≤ 1 := by
  obtain ⟨hp, hi, hs, hc, ho⟩ := h
  unfold weightedSimilarity
  rw [← ho.weights_sum]
  exact weighted_add (weighted_add (weighted_add (weighted_mul hi ho.iw_nonneg)
    (weighted_mul hp ho.pw_nonneg)) (weighted_mul hs ho.sw_nonneg)) (weighted_mul hc ho.cw_nonneg)

end Gedcom.Sim

/- Byte-level helper lemmas: takeWhile/dropWhile over appends, decimal round trip. -/
import Gedcom.Model.Decoder
import Gedcom.Lemmas.Basics
import Gedcom.Lemmas.Decimal
namespace Gedcom.Dec

theorem takeWhile_all {α} (p : α → Bool) (a : List α) (ha : ∀ x ∈ a, p x = true) :
    a.takeWhile p = a ∧ a.dropWhile p = [] := by
  have := takeWhile_append_stop p a [] ha (by simp)
  simpa using this

theorem span_spec {α} (p : α → Bool) (s : List α) :
    s = s.takeWhile p ++ s.dropWhile p ∧ (∀ x ∈ s.takeWhile p, p x = true) ∧
      ∀ y, (s.dropWhile p).head? = some y → p y = false := by
  refine ⟨List.takeWhile_append_dropWhile.symm, List.all_eq_true.mp List.all_takeWhile, fun y hy => ?_⟩
  have := List.head?_dropWhile_not p s
  rwa [hy] at this

theorem digit_isDigit : ∀ n, n < 10 → isDigit (UInt8.ofNat (48 + n)) = true := by decide +kernel

theorem decOf_natToDec (n : Nat) : DecOf n (natToDec n) := by
  induction n using Nat.strongRecOn with
  | _ n ih =>
    rw [natToDec]
    split
    · exact .digit ‹_›
    · exact .snoc ‹_› (ih (n / 10) (by omega))

theorem natToDec_digits (n : Nat) : ∀ x ∈ natToDec n, isDigit x = true :=
  (decOf_natToDec n).forall_mem digit_isDigit

theorem natToDec_ne_nil (n : Nat) : natToDec n ≠ [] := (decOf_natToDec n).ne_nil

theorem decToNat_natToDec (n : Nat) : decToNat (natToDec n) = n := (decOf_natToDec n).val

def NoBreak (l : Str) : Prop := ∀ x ∈ l, x ≠ LF ∧ x ≠ CR

theorem isDigit_not_break {x : UInt8} (h : isDigit x = true) : x ≠ LF ∧ x ≠ CR ∧ x ≠ SP ∧ x ≠ AT := by
  unfold isDigit at h
  simp only [Bool.and_eq_true, decide_eq_true_eq] at h
  have h1 := UInt8.le_iff_toNat_le.mp h.1
  have h2 := UInt8.le_iff_toNat_le.mp h.2
  refine ⟨?_, ?_, ?_, ?_⟩ <;> intro e <;> subst e <;> simp [LF, CR, SP, AT] at h1 h2

end Gedcom.Dec

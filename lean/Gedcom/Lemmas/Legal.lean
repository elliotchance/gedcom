/- What the reference pass `scan` reads, and how an invariant of the pass reaches the end of an
   accepted stream. -/
import Gedcom.Lemmas.Refinement
import Gedcom.Lemmas.RoundTrip
namespace Gedcom.Dec

theorem splitGo_nobreak (s cur : Str) (hc : NoBreak cur) : ∀ l ∈ splitLines.go s cur, NoBreak l := by
  induction s generalizing cur with
  | nil =>
    intro l hl
    simp only [splitLines.go, List.mem_singleton] at hl
    subst hl
    intro x hx; exact hc x (by simpa using hx)
  | cons b rest ih =>
    intro l hl
    simp only [splitLines.go] at hl
    split at hl
    · simp only [List.mem_cons] at hl
      rcases hl with hl | hl
      · subst hl; intro x hx; exact hc x (by simpa using hx)
      · exact ih [] (by intro x hx; simp at hx) l hl
    · rename_i hb
      simp only [Bool.or_eq_true, beq_iff_eq, not_or] at hb
      exact ih (b :: cur) (by
        intro x hx
        simp only [List.mem_cons] at hx
        rcases hx with hx | hx
        · subst hx; exact hb
        · exact hc x hx) l hl

theorem splitLines_nobreak (s : Str) : ∀ l ∈ splitLines s, NoBreak l :=
  splitGo_nobreak s [] (by intro x hx; simp at hx)

theorem afterTag_subset (r : Str) : ∀ x ∈ afterTag r, x ∈ r := by
  intro x hx
  unfold afterTag at hx
  split at hx
  · split at hx
    · exact List.mem_cons_of_mem _ hx
    · exact hx
  · simp at hx

def LegalE (e : Entry) : Prop := LegalHdr e.hdr.tag e.hdr.value e.hdr.ptr

/-- legal but for the trimming of the value -/
structure PreLegalE (e : Entry) : Prop where
  tag_ne : e.hdr.tag ≠ []
  tag_word : ∀ x ∈ e.hdr.tag, isWord x = true
  ptr_ok : ∀ x ∈ e.hdr.ptr, x ≠ AT ∧ x ≠ LF ∧ x ≠ CR
  val_ok : NoBreak e.hdr.value
  record_no_value : isRecordTag e.hdr.tag = true → e.hdr.value = []

theorem PreLegalE.legal_trim {e : Entry} (h : PreLegalE e) : LegalE e.trim :=
  ⟨h.tag_ne, h.tag_word, h.ptr_ok, fun x hx => h.val_ok x (trimSpace_subset _ x hx), trimSpace_idem _,
    fun hr => by
      show trimSpace e.hdr.value = []
      rw [h.record_no_value hr, trimSpace_nil]⟩

theorem preLegal_of_parse (l : Str) (pl : Line) (lvl : Nat) (hl : NoBreak l) (h : parseLine l = some pl) :
    PreLegalE ⟨lvl, hdrOf pl⟩ := by
  obtain ⟨ds, sps, rest, h⟩ := parseLine_iff.mp h
  refine ⟨h.legal.tag_ne, h.legal.tag_word, fun x hx => ⟨h.legal.ptr_noat x hx, hl x ?_⟩, ?_, ?_⟩
  · have hx : x ∈ pl.ptr := hx
    rw [h.text, ptrText, if_neg (List.ne_nil_of_mem hx)]
    simp [hx]
  · intro x hx
    simp only [hdrOf] at hx
    split at hx
    · simp at hx
    · rw [h.value] at hx
      refine hl x ?_
      rw [h.text]
      simp [afterTag_subset _ x hx]
  · intro hr
    simp only [hdrOf] at hr ⊢
    simp [hr]

theorem legalF_of_listing (lvl : Nat) (f : List Node) (h : ∀ e ∈ listingF lvl f, LegalE e) : LegalF f := by
  induction f using Forest.induct generalizing lvl with
  | nil =>
    rw [LegalF]
    trivial
  | cons tg v p ks ns ihk ihn =>
    simp only [listingF, listingT, List.cons_append, List.mem_cons, List.mem_append] at h
    rw [LegalF, LegalT]
    exact ⟨⟨h _ (.inl rfl), ihk (lvl + 1) fun e he => h e (.inr (.inl he))⟩,
      ihn lvl fun e he => h e (.inr (.inr he))⟩

theorem legalT_of_listing (lvl : Nat) (t : Node) (h : ∀ e ∈ listingT lvl t, LegalE e) : LegalT t :=
  (legalF_of_listing lvl [t] (by rwa [listingF_single])).1

theorem scanRun_inv (o : Opts) (P : ScanSt → Prop)
    (hstep : ∀ sc line a, NoBreak line → P sc → ActReason o sc.seenFam sc.depth line a →
      ∀ sc', sc.act a = .next sc' → P sc')
    (ls : List Str) (hl : ∀ l ∈ ls, NoBreak l) :
    ∀ sc n, P sc → match scanRun o sc n ls with
      | .inr sc' => P sc'
      | .inl out => ∀ b l, out ≠ .ok b l := by
  induction ls with
  | nil => intro sc n h; exact h
  | cons x xs ih =>
    intro sc n h
    rw [scanRun]
    cases hs : scanStep o sc x with
    | next s1 =>
      exact ih (fun l hl' => hl l (List.mem_cons_of_mem _ hl')) s1 (n + 1)
        (hstep sc x _ (hl x List.mem_cons_self) h (lineAct_spec o sc.seenFam sc.depth x) s1
          (by rw [← scanStep_act]; exact hs))
    | error => intro b l; exact ScanOutcome.noConfusion
    | panic c => intro b l; exact ScanOutcome.noConfusion

theorem scan_ok_inv (o : Opts) (P : ScanSt → Prop)
    (hstep : ∀ sc line a, NoBreak line → P sc → ActReason o sc.seenFam sc.depth line a →
      ∀ sc', sc.act a = .next sc' → P sc')
    (h0 : P ⟨[], none, false⟩) {s : Str} {b : Bool} {l : List Entry} (h : scan o s = .ok b l) :
    ∃ st, P st ∧ st.finish = l := by
  have := scanRun_inv o P hstep _ (splitLines_nobreak (stripBOM s).2) ⟨[], none, false⟩ 1 h0
  unfold scan at h
  simp only at h
  split at h
  · rename_i out hrun
    rw [hrun] at this
    exact absurd h (this b l)
  · rename_i st hrun
    rw [hrun] at this
    cases h
    exact ⟨st, this, rfl⟩

/-- without continuation lines every completed entry is the trimmed header of one parsed line -/
theorem scanStep_legal (o : Opts) (hm : o.allowMultiLine = false) (sc : ScanSt) (line : Str) (a : Act)
    (hl : NoBreak line) (h : ∀ e ∈ sc.finish, LegalE e)
    (ha : ActReason o sc.seenFam sc.depth line a) (sc' : ScanSt) (hs : sc.act a = .next sc') :
    ∀ e ∈ sc'.finish, LegalE e := by
  cases ha with
  | keep => cases hs; exact h
  | extend _ hm' => rw [hm] at hm'; cases hm'
  | node pl _ hp =>
    cases hs
    rw [ScanSt.emit_eq]
    intro e he
    rcases List.mem_append.mp he with he | he
    · exact h e he
    · cases List.mem_singleton.mp he
      exact (preLegal_of_parse line pl _ hl hp).legal_trim
  | reject | orphan | panic => cases hs

end Gedcom.Dec

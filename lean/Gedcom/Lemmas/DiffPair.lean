/-
  No missed pairing (C08): a right node that ends up alone in a right-only entry is equal to the
  left node of none of the sibling entries — the converse direction of "two-sided only when both
  inputs contain such a node".
-/
import Gedcom.Lemmas.Diff
namespace Gedcom
open Diff

/-- no left node among the siblings `cs` is `eq` to the node of a right-only entry among them -/
def SibOK (eq : INode → INode → Bool) (cs : List Diff) : Prop :=
  ∀ ci ∈ cs, ∀ cj ∈ cs, ∀ x y, ci.left = some x → cj.left = none → cj.right = some y → eq x y = false

inductive Diff.AllK (K : List Diff → Prop) : Diff → Prop
  | mk {L R : Option INode} {cs : List Diff} : K cs → (∀ c ∈ cs, Diff.AllK K c) → Diff.AllK K (.mk L R cs)

theorem Diff.AllK.entry {K : List Diff → Prop} {D : Diff} {d : Nat} {e : Diff} (he : EntryAt D d e)
    (h : Diff.AllK K D) : K e.kids := by
  induction he with
  | root D => cases h with | mk hk _ => exact hk
  | kid hc _ ih => cases h with | mk _ hcs => exact ih (hcs _ hc)

section rightpass
variable (eq : INode → INode → Bool)

theorem sibOK_place (k : INode) (cs : List Diff) (h : SibOK eq cs) :
    SibOK eq (placeWith (Diff.matchesNode eq k) (traverse eq false k) cs) := by
  -- an entry that persists keeps its left node and, when it has none, its right node: an entry that
  -- matched without a left node had a right node, which stays
  have back : ∀ e ∈ placeWith (Diff.matchesNode eq k) (traverse eq false k) cs,
      (∃ e0 ∈ cs, e0.left = e.left ∧ (e.left = none → e0.right = e.right)) ∨
      ((∀ c ∈ cs, Diff.matchesNode eq k c = false) ∧ e = traverse eq false k Diff.empty) := by
    intro e he
    rcases mem_placeWith he with h | ⟨c, hc, hmc, rfl⟩ | h
    · exact Or.inl ⟨e, h, rfl, fun _ => rfl⟩
    · refine Or.inl ⟨c, hc, by rw [traverse_left]; rfl, ?_⟩
      intro hnl
      rw [traverse_left, fillL_false] at hnl
      obtain ⟨y, hs, _⟩ := matchesNode_iff.mp hmc
      rcases hs with hs | hs
      · rw [hnl] at hs; cases hs
      · rw [traverse_right, hs, fillR_some]
    · exact Or.inr h
  intro ci hci cj hcj x y hx hnl hy
  rcases back ci hci with ⟨ci0, hci0, hli, _⟩ | ⟨_, rfl⟩
  · rcases back cj hcj with ⟨cj0, hcj0, hlj, hrj⟩ | ⟨hall, rfl⟩
    · exact h ci0 hci0 cj0 hcj0 x y (hli.trans hx) (hlj.trans hnl) ((hrj hnl).trans hy)
    · -- the new right-only entry holds `k`, which no old entry matched
      rw [traverse_right] at hy
      cases hy
      apply Bool.eq_false_iff.mpr
      intro hxk
      have := matchesNode_iff.mpr ⟨x, Or.inl (hli.trans hx), hxk⟩
      rw [hall ci0 hci0] at this
      cases this
  · rw [traverse_left] at hx
    cases hx

mutual
theorem traverse_allK : ∀ (n : INode) (D : Diff), Diff.AllK (SibOK eq) D →
    Diff.AllK (SibOK eq) (traverse eq false n D)
  | .mk i t v p ks, D, h => by
    rw [traverse]
    cases h with
    | mk hk hcs =>
      have := traverseKids_allK ks _ hk hcs
      exact Diff.AllK.mk this.1 this.2
theorem traverseKids_allK : ∀ (ks : List INode) (cs : List Diff), SibOK eq cs →
    (∀ c ∈ cs, Diff.AllK (SibOK eq) c) →
    SibOK eq (traverseKids eq false ks cs) ∧ ∀ c ∈ traverseKids eq false ks cs, Diff.AllK (SibOK eq) c
  | [], cs, h, hcs => by rw [traverseKids]; exact ⟨h, hcs⟩
  | k :: ks, cs, h, hcs => by
    rw [traverseKids]
    apply traverseKids_allK ks _ (sibOK_place eq k cs h)
    intro c hc
    rcases mem_placeWith hc with h | ⟨c0, h0, _, rfl⟩ | ⟨_, rfl⟩
    · exact hcs c h
    · exact traverse_allK k c0 (hcs c0 h0)
    · exact traverse_allK k Diff.empty (Diff.AllK.mk (by intro ci hci; cases hci) (by intro c hc; cases hc))
end
end rightpass

theorem allK_of_left (eq : INode → INode → Bool) {d : Nat} {D : Diff}
    (h : Diff.All (fun _ L _ => L.isSome = true) d D) : Diff.AllK (SibOK eq) D := by
  induction h with
  | mk _ hk ih =>
    refine Diff.AllK.mk ?_ ih
    intro ci _ cj hcj x y _ hnl _
    have := (hk cj hcj).root
    rw [hnl] at this
    cases this

theorem compare_sibOK (eq : INode → INode → Bool) (l r : INode) {d : Nat} {p : Diff}
    (hp : EntryAt (compareWith eq l r) d p) : SibOK eq p.kids :=
  (traverse_allK eq r _ (allK_of_left eq ((leftPass_all eq l).mono fun _ _ _ h => h.2.1))).entry hp

end Gedcom

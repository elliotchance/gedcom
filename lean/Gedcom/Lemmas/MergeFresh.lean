/- Object identity of the merge (guarantee 3 of `MergeNodeSlices`), by the contract `FreshFn`. -/
import Gedcom.Lemmas.Merge
namespace Gedcom

/-- `s'` comes after `s`: the allocation counter only grows and every write logged since went to
    an object with id ≥ `lo` -/
def Ext (lo : Nat) (s s' : MSt) : Prop :=
  s.next ≤ s'.next ∧ ∀ w ∈ s'.writes, w ∈ s.writes ∨ lo ≤ w

theorem Ext.refl (lo : Nat) (s : MSt) : Ext lo s s := ⟨Nat.le_refl _, fun _ h => Or.inl h⟩

theorem Ext.trans {lo : Nat} {s s' s'' : MSt} (h1 : Ext lo s s') (h2 : Ext lo s' s'') : Ext lo s s'' :=
  ⟨Nat.le_trans h1.1 h2.1, fun w hw => by
    rcases h2.2 w hw with h | h
    · exact h1.2 w h
    · exact Or.inr h⟩

theorem Ext.mono {lo lo' : Nat} {s s' : MSt} (h : Ext lo s s') (hl : lo' ≤ lo) : Ext lo' s s' :=
  ⟨h.1, fun w hw => by
    rcases h.2 w hw with h | h
    · exact Or.inl h
    · exact Or.inr (Nat.le_trans hl h)⟩

theorem Ext.write {lo : Nat} {s s' : MSt} (h : Ext lo s s') {w : Nat} (hw : lo ≤ w) :
    Ext lo s { s' with writes := s'.writes ++ [w] } :=
  ⟨h.1, fun x hx => by
    rcases List.mem_append.mp hx with hx | hx
    · exact h.2 x hx
    · rw [List.mem_singleton.mp hx]; exact Or.inr hw⟩

/-- every object of the tree was allocated in `[lo, hi)` -/
def FreshNode (lo hi : Nat) (n : INode) : Prop := ∀ i ∈ n.ids, lo ≤ i ∧ i < hi

theorem FreshNode.mono {lo hi lo' hi' : Nat} {n : INode} (h : FreshNode lo hi n) (h1 : lo' ≤ lo)
    (h2 : hi ≤ hi') : FreshNode lo' hi' n :=
  fun i hi => ⟨Nat.le_trans h1 (h i hi).1, Nat.lt_of_lt_of_le (h i hi).2 h2⟩

theorem FreshNode.id {lo hi : Nat} {n : INode} (h : FreshNode lo hi n) : lo ≤ n.id ∧ n.id < hi :=
  h _ (by rw [INode.ids_eq]; exact List.mem_cons_self)

/-- contract of a merge function: what it returns is new, and it writes to new objects only -/
def FreshFn (f : MergeFn) : Prop :=
  ∀ a b s, Ext s.next s (f a b s).2 ∧ ∀ m, (f a b s).1 = some m → FreshNode s.next (f a b s).2.next m

theorem fwStep_key (seeds : Bool) (env : List (Nat × Nat × Str)) (w : FW) (i : Nat) (t p : Str) :
    w.key ≤ (fwStep seeds env w i t p).key := by
  unfold fwStep
  split
  · exact Nat.le_refl _
  · split
    · simp only
      split
      · exact Nat.le_refl _
      · split
        · exact Nat.le_refl _
        · exact Nat.le_succ _
    · exact Nat.le_refl _

mutual
theorem fwNode_key (seeds : Bool) (env : List (Nat × Nat × Str)) :
    ∀ (n : INode) (w : FW), w.key ≤ (fwNode seeds env w n).key
  | .mk i t v p ks, w => by
    rw [fwNode]
    exact Nat.le_trans (fwStep_key seeds env w i t p) (fwList_key seeds env ks _)
theorem fwList_key (seeds : Bool) (env : List (Nat × Nat × Str)) :
    ∀ (ks : List INode) (w : FW), w.key ≤ (fwList seeds env w ks).key
  | [], w => by rw [fwList]; exact Nat.le_refl _
  | k :: ks, w => by
    rw [fwList]
    exact Nat.le_trans (fwNode_key seeds env k w) (fwList_key seeds env ks _)
end

theorem fwKids_key (seeds : Bool) (env : List (Nat × Nat × Str)) :
    ∀ (ks : List INode) (w : FW), w.key ≤ (fwKids seeds env w ks).key := by
  intro ks
  induction ks with
  | nil => intro w; exact Nat.le_refl _
  | cons k ks ih =>
    intro w
    rw [fwKids]
    exact Nat.le_trans (fwNode_key seeds env k { w with fam := none, seen := [] }) (ih _)

theorem afterWalk_fresh (st : MSt) (n : INode) (w : FW)
    (hk : (copyTree st.next n).2.1 ≤ w.key) :
    Ext st.next st (st.afterWalk st.next (copyTree st.next n).2.2 w) ∧
    FreshNode st.next (st.afterWalk st.next (copyTree st.next n).2.2 w).next (copyTree st.next n).1 := by
  have h := copyTree_ids st.next n
  have h1 := h.1
  have e : (st.afterWalk st.next (copyTree st.next n).2.2 w).next = w.key := rfl
  have e2 : (st.afterWalk st.next (copyTree st.next n).2.2 w).writes =
      st.writes ++ (copyTree st.next n).2.2 := rfl
  refine ⟨⟨by rw [e]; omega, ?_⟩, ?_⟩
  · intro x hx
    rw [e2] at hx
    rcases List.mem_append.mp hx with hx | hx
    · exact Or.inl hx
    · exact Or.inr (h.2.2 x hx).1
  · intro i hi
    have := h.2.1 i hi
    rw [e]
    omega

theorem copyM_walk_key (n : INode) (st : MSt) :
    (copyTree st.next n).2.1 ≤
      (fwNode copySeeds st.famOf ⟨none, [], 0, (copyTree st.next n).2.1, [], [], true⟩ n).key :=
  fwNode_key copySeeds st.famOf n ⟨none, [], 0, (copyTree st.next n).2.1, [], [], true⟩

theorem copyM_fresh (n : INode) (st : MSt) :
    Ext st.next st (copyM n st).2 ∧ FreshNode st.next (copyM n st).2.next (copyM n st).1 :=
  afterWalk_fresh st n _ (copyM_walk_key n st)

theorem copyM_next (n : INode) (st : MSt) : st.next < (copyM n st).2.next := by
  have := (copyM_fresh n st).2.id
  omega

theorem copyChildM_fresh (t : Str) (n : INode) (st : MSt) :
    Ext st.next st (copyChildM t n st).2 ∧
      FreshNode st.next (copyChildM t n st).2.next (copyChildM t n st).1 := by
  simp only [copyChildM]
  split
  · have hk : (copyTree st.next n).2.1 ≤ (fwKids copySeeds st.famOf
        ⟨none, [], 1, (copyTree st.next n).2.1, [], [], true⟩ n.kids).key :=
      fwKids_key copySeeds st.famOf n.kids ⟨none, [], 1, (copyTree st.next n).2.1, [], [], true⟩
    exact afterWalk_fresh st n _ hk
  · exact afterWalk_fresh st n _ (copyM_walk_key n st)

theorem Src.flag_true {fl : MergeFlags} (h1 : fl.sliceCopyLeft = true)
    (h2 : fl.sliceCopyRight = true) (p : Src) : p.flag fl = true := by
  cases p <;> assumption

theorem Follows.fresh {fl : MergeFlags} (h1 : fl.sliceCopyLeft = true)
    (h2 : fl.sliceCopyRight = true) {f : MergeFn} (hf : FreshFn f) (l r : List INode) :
    Follows (fun s s' => Ext s.next s s') fl f l r :=
  ⟨fun s => Ext.refl _ s, fun _ _ _ h h' => h.trans (h'.mono h.1),
    fun p a s => by
      rw [copyIf, Src.flag_true h1 h2 p, if_pos rfl]; exact (copyM_fresh a s).1,
    fun y _ b s _ _ _ => (hf y b s).1⟩

theorem Made.fresh {fl : MergeFlags} (h1 : fl.sliceCopyLeft = true) (h2 : fl.sliceCopyRight = true)
    {f : MergeFn} (hf : FreshFn f) {l r : List INode} {st fin : MSt} {e : Elem}
    (h : Made (fun s s' => Ext s.next s s') fl f l r st fin e) :
    FreshNode st.next fin.next e.node := by
  cases h with
  | @copy p a s _ hs hfin =>
    rw [copyIf, Src.flag_true h1 h2 p, if_pos rfl] at hfin
    dsimp only
    rw [copyIf, Src.flag_true h1 h2 p, if_pos rfl]
    exact (copyM_fresh a s).2.mono hs.1 hfin.1
  | @merged i j a b y n s s' _ _ _ hs hfm hfin =>
    have := (hf y b s).2 n (by rw [hfm])
    rw [hfm] at this
    exact this.mono hs.1 hfin.1

theorem mergeNodeSlicesP_fresh (fl : MergeFlags) (h1 : fl.sliceCopyLeft = true)
    (h2 : fl.sliceCopyRight = true) (f : MergeFn) (hf : FreshFn f) (l r : List INode) (st : MSt) :
    Ext st.next st (mergeNodeSlicesP fl f l r st).2 ∧
    ∀ e ∈ (mergeNodeSlicesP fl f l r st).1,
      FreshNode st.next (mergeNodeSlicesP fl f l r st).2.next e.node := by
  obtain ⟨hR, _, hmade⟩ := mergeNodeSlicesP_made (Follows.fresh h1 h2 hf l r) st
  exact ⟨hR, fun e he => (hmade e he).fresh h1 h2 hf⟩

theorem FreshNode.kid {lo hi : Nat} {n k : INode} (h : FreshNode lo hi n) (hk : k ∈ n.kids) :
    FreshNode lo hi k :=
  fun i hi => h i (by rw [INode.ids_eq]; exact List.mem_cons_of_mem _ (idsList_mem.mpr ⟨k, hk, hi⟩))

theorem FreshNode.setKids {lo hi : Nat} {n : INode} {ks : List INode} (hn : FreshNode lo hi n)
    (hk : ∀ k ∈ ks, FreshNode lo hi k) : FreshNode lo hi (n.setKids ks) := by
  intro i hi
  rcases List.mem_cons.mp (INode.ids_eq _ ▸ hi) with rfl | hi
  · exact hn.id
  · obtain ⟨k, hk', hik⟩ := idsList_mem.mp hi
    exact hk k hk' i hik

theorem foldRight_fresh (eqf : MergeFn) (hf : FreshFn eqf) (root : Nat) (rootTag : Str) (lo : Nat)
    (kids cur : List INode) (st : MSt) (hlo : lo ≤ st.next) (hroot : lo ≤ root)
    (hcur : ∀ n ∈ cur, FreshNode lo st.next n) :
    Ext lo st (foldRight ⟨true, true, true⟩ eqf root rootTag cur kids st).2 ∧
    ∀ n ∈ (foldRight ⟨true, true, true⟩ eqf root rootTag cur kids st).1,
      FreshNode lo (foldRight ⟨true, true, true⟩ eqf root rootTag cur kids st).2.next n :=
  foldRight_inv ⟨true, true, true⟩ eqf root rootTag
    (fun c _ s => Ext lo st s ∧ ∀ n ∈ c, FreshNode lo s.next n)
    (by
      intro pre n post child rest s _ _ h
      have hlo' : lo ≤ s.next := Nat.le_trans hlo h.1.1
      have hm := mergeNodeSlicesP_fresh ⟨true, true, true⟩ rfl rfl eqf hf child.kids n.kids s
      refine ⟨(h.1.trans (hm.1.mono hlo')).write (h.2 n List.mem_append_cons_self).id.1,
        fun n' hn' => ?_⟩
      have hold : ∀ x ∈ pre ++ n :: post, FreshNode lo (mergeNodeSlicesP ⟨true, true, true⟩ eqf
          child.kids n.kids s).2.next x := fun x hx => (h.2 x hx).mono (Nat.le_refl _) hm.1.1
      rcases mem_replaced (n' := n) hn' with rfl | hn'
      · refine (hold n List.mem_append_cons_self).setKids (fun k hk => ?_)
        obtain ⟨e, he, rfl⟩ := List.mem_map.mp hk
        exact (hm.2 e he).mono hlo' (Nat.le_refl _)
      · exact hold n' hn')
    (by
      intro c child rest s _ h
      have hlo' : lo ≤ s.next := Nat.le_trans hlo h.1.1
      have hc := copyChildM_fresh rootTag child s
      refine ⟨(h.1.trans (hc.1.mono hlo')).write hroot, fun n' hn' => ?_⟩
      rcases mem_added hn' with hn' | rfl
      · exact (h.2 n' hn').mono (Nat.le_refl _) hc.1.1
      · exact hc.2.mono hlo' (Nat.le_refl _))
    kids cur st ⟨Ext.refl _ _, hcur⟩

theorem eqMergeWith_fresh (mn : INode → INode → MSt → MergeOutcome)
    (h : ∀ l r st m st', mn l r st = .ok m st' → Ext st.next st st' ∧ FreshNode st.next st'.next m) :
    FreshFn (eqMergeWith mn) := by
  intro a b s
  unfold eqMergeWith
  split
  · split
    · rename_i m s' hmn
      have := h a b s m s' hmn
      exact ⟨this.1, fun m' hm' => by cases hm'; exact this.2⟩
    · exact ⟨Ext.refl _ _, fun _ h => by cases h⟩
    · exact ⟨⟨Nat.le_refl _, fun _ h => Or.inl h⟩, fun _ h => by cases h⟩
    · exact ⟨⟨Nat.le_refl _, fun _ h => Or.inl h⟩, fun _ h => by cases h⟩
  · exact ⟨Ext.refl _ _, fun _ h => by cases h⟩

/-- `⟨true, true, true⟩`: the repaired code, in which all three copies are made -/
theorem mergeNodesF_fresh (fuel : Nat) :
    ∀ (l r : INode) (st : MSt) (m : INode) (st' : MSt),
      mergeNodesF ⟨true, true, true⟩ fuel l r st = .ok m st' →
      Ext st.next st st' ∧ FreshNode st.next st'.next m := by
  refine mergeNodesF_rule (fun mn ih l r st _ => ?_) fuel
  have hc := copyM_fresh l st
  have hfr := foldRight_fresh _ (eqMergeWith_fresh _ ih) (copyM l st).1.id
    l.tag st.next r.kids (copyM l st).1.kids (copyM l st).2 hc.1.1
    (Nat.le_of_eq (copyM_id l st).symm) (fun k hk => hc.2.kid hk)
  exact ⟨hc.1.trans hfr.1, (hc.2.mono (Nat.le_refl _) hfr.1.1).setKids hfr.2⟩

theorem eqMergeF_fresh (fuel : Nat) : FreshFn (eqMergeF ⟨true, true, true⟩ fuel) :=
  eqMergeWith_fresh _ (mergeNodesF_fresh fuel)

theorem neverMerge_fresh : FreshFn neverMerge := fun _ _ s =>
  ⟨Ext.refl _ _, fun _ h => by simp [neverMerge] at h⟩

theorem copyKidsM_fresh (parent lo : Nat) :
    ∀ (ks : List INode) (st : MSt), lo ≤ st.next → lo ≤ parent →
      Ext lo st (copyKidsM parent ks st).2 ∧
      ∀ i ∈ idsList (copyKidsM parent ks st).1, st.next ≤ i ∧ i < (copyKidsM parent ks st).2.next := by
  intro ks
  induction ks with
  | nil => intro st _ _; exact ⟨Ext.refl _ _, by simp [copyKidsM, idsList]⟩
  | cons k ks ih =>
    intro st hlo hp
    have hc := copyM_fresh k st
    simp only [copyKidsM]
    have hr := ih { (copyM k st).2 with writes := (copyM k st).2.writes ++ [parent] }
      (Nat.le_trans hlo hc.1.1) hp
    refine ⟨((hc.1.mono hlo).write hp).trans hr.1, ?_⟩
    intro i hi
    simp only [idsList, List.mem_append] at hi
    rcases hi with hi | hi
    · have := hc.2 i hi
      exact ⟨this.1, Nat.lt_of_lt_of_le this.2 hr.1.1⟩
    · have := hr.2 i hi
      exact ⟨Nat.le_trans hc.1.1 this.1, this.2⟩

theorem alwaysMerge_fresh : FreshFn alwaysMerge := by
  intro a b s
  simp only [alwaysMerge]
  have ha := copyKidsM_fresh s.next s.next a.kids { s with next := s.next + 1 } (Nat.le_succ _)
    (Nat.le_refl _)
  have hb := copyKidsM_fresh s.next s.next b.kids (copyKidsM s.next a.kids { s with next := s.next + 1 }).2
    (Nat.le_trans (Nat.le_succ _) ha.1.1) (Nat.le_refl _)
  have h0 : Ext s.next s { s with next := s.next + 1 } := ⟨Nat.le_succ _, fun _ h => Or.inl h⟩
  refine ⟨h0.trans (ha.1.trans hb.1), ?_⟩
  intro m hm
  simp only [Option.some.injEq] at hm
  subst hm
  intro i hi
  simp only [INode.ids, idsList_append, List.mem_cons, List.mem_append] at hi
  have h1 := ha.1.1
  have h2 := hb.1.1
  simp only at h1
  rcases hi with rfl | hi | hi
  · omega
  · have := ha.2 i hi; simp only at this; omega
  · have := hb.2 i hi; omega

end Gedcom

/- C20: `Years()` on one integer scale, `DateNodes.Minimum / Maximum` as the first date with the
   least / greatest key, and what the married and too-old checks compute from them, for dates of
   every shape and on exact days.  Some definitions of the specification (`Gedcom.C20`) stand here
   because Props/C20 and Props/C20General both rest on their lemmas. -/
import Gedcom.Lemmas.WarningsDays
import Gedcom.Model.WarningsSpec
namespace Gedcom.C20
open Gedcom.Warn

/-- for two calendar days the `Years()` scale is the calendar (C05 `years_strict_mono`) -/
theorem fracLt_days {a b : Date} (ha : C05.Full a) (hb : C05.Full b) :
    FracLt (sYears (.ok a)) (sYears (.ok b)) ↔ dayOf a < dayOf b :=
  C05.yearsLt_iff_day a b ha hb

/-! The denominators of `Years()` are 1, 2, 366, 732 or 734, so every value is a whole number of
  1/268644 years (`keyOf`).  `DateNodes.Minimum()` / `Maximum()` then select the first element with
  the least start key / greatest end key (`firstMin`, `firstMax`: plain recursion over the list,
  unlike the code's left fold with its running candidate). -/

def GoodDen (n : Int) : Prop := n = 1 ∨ n = 2 ∨ n = 366 ∨ n = 732 ∨ n = 734

theorem keyOf_mul (f : Int × Int) (h : GoodDen f.2) : keyOf f * f.2 = 268644 * f.1 := by
  unfold keyOf
  rcases h with h | h | h | h | h <;> rw [h] <;> omega

theorem GoodDen.pos {n : Int} (h : GoodDen n) : 0 < n := by
  rcases h with h | h | h | h | h <;> omega

theorem GoodDen.le {n : Int} (h : GoodDen n) : n ≤ 734 := by
  rcases h with h | h | h | h | h <;> omega

/-- cross-multiplication is comparison of keys: both sides times `268644`, with
    `key · den = 268644 · num` -/
theorem fracLt_key {a b : Int × Int} (ha : GoodDen a.2) (hb : GoodDen b.2) :
    FracLt a b ↔ keyOf a < keyOf b := by
  have hpos : 0 < a.2 * b.2 := Int.mul_pos ha.pos hb.pos
  have e1 : 268644 * (a.1 * b.2) = keyOf a * (a.2 * b.2) := by
    rw [← Int.mul_assoc, ← keyOf_mul a ha, Int.mul_assoc]
  have e2 : 268644 * (b.1 * a.2) = keyOf b * (a.2 * b.2) := by
    rw [← Int.mul_assoc, ← keyOf_mul b hb, Int.mul_assoc, Int.mul_comm b.2 a.2]
  unfold FracLt
  rw [← Int.mul_lt_mul_left (a := 268644) (by decide), e1, e2, Int.mul_lt_mul_right hpos]

theorem yearsNum_pos (t : Date) : 0 < t.yearsNum := by
  unfold Date.yearsNum yearDay
  have c := cum_nonneg (isLeap t.year) t.month
  have dn := dim_nonneg (isLeap t.year) t.month
  split
  · rcases daysInYear_cases (t.year : Int) with e | e <;> rw [e] <;> omega
  · split
    · omega
    · omega

theorem date_frac_good (t : Date) :
    GoodDen t.yearsDen ∧ 0 < (t.year : Int) * t.yearsDen + t.yearsNum := by
  have hp := yearsNum_pos t
  have hy : (0 : Int) ≤ (t.year : Int) := Int.natCast_nonneg _
  rcases yearsDen_cases t with e | e
  · exact ⟨Or.inr (Or.inr (Or.inr (Or.inl e))), by rw [e]; omega⟩
  · exact ⟨Or.inr (Or.inr (Or.inr (Or.inr e))), by rw [e]; omega⟩

theorem pfrac_good (p : PDate) : GoodDen p.yearsFrac.2 ∧ 0 ≤ p.yearsFrac.1 := by
  unfold PDate.yearsFrac
  split
  · exact ⟨Or.inl rfl, by simp⟩
  · split
    · have := date_frac_good p.toDate
      exact ⟨this.1, by have := this.2; simp only [PDate.toDate] at *; omega⟩
    · split
      · exact ⟨Or.inr (Or.inl rfl), by simp only; omega⟩
      · exact ⟨Or.inr (Or.inr (Or.inl rfl)), by simp⟩

theorem keyOf_nonneg {f : Int × Int} (h : GoodDen f.2) (hn : 0 ≤ f.1) : 0 ≤ keyOf f := by
  unfold keyOf
  rcases h with h | h | h | h | h <;> rw [h] <;> omega

theorem keyOf_pos {f : Int × Int} (h : GoodDen f.2) (hn : 0 < f.1) : 0 < keyOf f := by
  unfold keyOf
  rcases h with h | h | h | h | h <;> rw [h] <;> omega

theorem sYears_good (x : DateV) : GoodDen (sYears x).2 ∧ 0 ≤ (sYears x).1 := by
  cases x with
  | ok t => have := date_frac_good t; exact ⟨this.1, Int.le_of_lt this.2⟩
  | bad l => exact ⟨Or.inl rfl, by simp [sYears, startFrac]⟩
  | gen l s e => exact pfrac_good s

theorem skey_ok_pos (t : Date) : skey (.bad 0) < skey (.ok t) :=
  keyOf_pos (date_frac_good t).1 (date_frac_good t).2

theorem yearsLtV_key (y m : DateV) : yearsLtV (some y) (some m) = true ↔ skey y < skey m := by
  have gy := sYears_good y
  have gm := sYears_good m
  have hk := fracLt_key gy.1 gm.1
  unfold skey
  cases m with
  | bad l =>
    -- the model's special case "nothing is before an unparsable date": key 0 is the least
    have : keyOf (sYears (.bad l)) = 0 := by simp [keyOf, sYears, startFrac]
    have := keyOf_nonneg gy.1 gy.2
    cases y <;> simp [yearsLtV] <;> omega
  | ok t =>
    cases y with
    | ok u =>
      rw [← hk]
      show decide (u.yearsLt t) = true ↔ _
      rw [decide_eq_true_iff]; rfl
    | bad l =>
      simp only [yearsLtV, true_iff]
      exact skey_ok_pos t
    | gen l s e =>
      rw [← hk]
      show fracLt _ _ = true ↔ _
      simp only [fracLt, decide_eq_true_iff]; rfl
  | gen l s e =>
    -- no special case: all three shapes of `y` fall to `fracLt`
    rw [← hk]
    cases y <;> (show fracLt _ _ = true ↔ _) <;> simp only [fracLt, decide_eq_true_iff] <;> rfl

theorem yearsLtV_frac {a b : DateV} :
    yearsLtV (some a) (some b) = true ↔ FracLt (sYears a) (sYears b) :=
  (yearsLtV_key a b).trans (fracLt_key (sYears_good a).1 (sYears_good b).1).symm

theorem bornBefore_general {d : Doc} {c p : Nat} :
    bornBefore d c p ↔
      ∃ xc xp, birthOf (indiOf d c) = some xc ∧ birthOf (indiOf d p) = some xp ∧
        xc.valid = true ∧ xp.valid = true ∧ FracLt (sYears xc) (sYears xp) := by
  unfold bornBefore
  rw [validO_iff_some, validO_iff_some]
  constructor
  · rintro ⟨⟨xc, hxc, hvc⟩, ⟨xp, hxp, hvp⟩, hlt⟩
    rw [hxc, hxp, yearsLtV_frac] at hlt
    exact ⟨xc, xp, hxc, hxp, hvc, hvp, hlt⟩
  · rintro ⟨xc, xp, hxc, hxp, hvc, hvp, hlt⟩
    refine ⟨⟨xc, hxc, hvc⟩, ⟨xp, hxp, hvp⟩, ?_⟩
    rw [hxc, hxp, yearsLtV_frac]
    exact hlt

/-- a value with its two ends exchanged: `Maximum()` treats end dates as `Minimum()` treats start
    dates -/
def flipEnds : DateV → DateV
  | .gen l s e => .gen l e s
  | x => x

theorem ekey_flip (x : DateV) : ekey x = skey (flipEnds x) := by cases x <;> rfl

theorem yearsLtE_flip (y m : DateV) :
    yearsLtE (some y) (some m) = yearsLtV (some (flipEnds y)) (some (flipEnds m)) := by
  cases y <;> cases m <;> rfl

theorem yearsLtE_key (y m : DateV) : yearsLtE (some y) (some m) = true ↔ ekey y < ekey m := by
  rw [yearsLtE_flip, yearsLtV_key, ekey_flip, ekey_flip]

theorem firstMin_eq_none {key : DateV → Int} {ds : List DateV} : firstMin key ds = none ↔ ds = [] := by
  cases ds with
  | nil => exact ⟨fun _ => rfl, fun _ => rfl⟩
  | cons x rest =>
    simp only [firstMin]
    split
    · simp
    · split <;> simp

theorem firstMin_spec (key : DateV → Int) : ∀ (ds : List DateV) (a : DateV), firstMin key ds = some a →
    ∃ pre post, ds = pre ++ a :: post ∧ (∀ x ∈ pre, key a < key x) ∧ (∀ x ∈ post, key a ≤ key x) := by
  intro ds
  induction ds with
  | nil => intro a h; simp [firstMin] at h
  | cons x rest ih =>
    intro a h
    simp only [firstMin] at h
    cases hr : firstMin key rest with
    | none =>
      rw [hr] at h
      simp only [Option.some.injEq] at h
      subst h
      have : rest = [] := firstMin_eq_none.mp hr
      subst this
      exact ⟨[], [], rfl, by simp, by simp⟩
    | some m =>
      rw [hr] at h
      obtain ⟨pre, post, e, h1, h2⟩ := ih m hr
      simp only at h
      split at h
      · rename_i hlt
        simp only [Option.some.injEq] at h
        subst h
        refine ⟨x :: pre, post, by rw [e]; rfl, ?_, h2⟩
        intro y hy
        rcases List.mem_cons.mp hy with rfl | hy
        · exact hlt
        · exact h1 y hy
      · rename_i hlt
        simp only [Option.some.injEq] at h
        subst h
        refine ⟨[], rest, rfl, by simp, ?_⟩
        intro y hy
        rw [e] at hy
        rcases List.mem_append.mp hy with hy | hy
        · have := h1 y hy; omega
        · rcases List.mem_cons.mp hy with rfl | hy
          · omega
          · have := h2 y hy; omega

theorem firstMin_le {key : DateV → Int} {ds : List DateV} {a : DateV} (h : firstMin key ds = some a) :
    a ∈ ds ∧ ∀ x ∈ ds, key a ≤ key x := by
  obtain ⟨pre, post, rfl, h1, h2⟩ := firstMin_spec key ds a h
  refine ⟨by simp, fun x hx => ?_⟩
  rcases List.mem_append.mp hx with hx | hx
  · exact Int.le_of_lt (h1 x hx)
  · rcases List.mem_cons.mp hx with rfl | hx
    · exact Int.le_refl _
    · exact h2 x hx

/-- the shape of `Minimum()` and `Maximum()`: a left fold whose test `lt y m` replaces the candidate
    `m` by `y` -/
theorem fold_firstMin (key : DateV → Int) (lt : DateV → DateV → Bool)
    (hlt : ∀ y m, lt y m = true ↔ key y < key m) :
    ∀ (rest : List DateV) (m : DateV), rest.foldl (fun m y => if lt y m then y else m) m =
      match firstMin key rest with
      | none => m
      | some r => if key r < key m then r else m := by
  intro rest
  induction rest with
  | nil => intro m; rfl
  | cons y ys ih =>
    intro m
    simp only [List.foldl_cons, firstMin]
    rw [ih]
    simp only [hlt]
    cases firstMin key ys with
    | none => rfl
    | some r =>
      simp only
      -- `r`, the best of the rest, meets the head `y`; the winner meets the candidate `m`
      by_cases hry : key r < key y
      · -- `r` beats the head, which drops out on both sides
        by_cases hym : key y < key m
        · have hrm : key r < key m := by omega
          simp only [hry, hym, hrm, if_true]
        · simp only [hry, hym, if_true, if_false]
      · -- the head stands: `r` does not beat it, nor `m` unless the head does
        by_cases hym : key y < key m
        · simp only [hry, hym, if_true, if_false]
        · have hrm : ¬ key r < key m := by omega
          simp only [hry, hym, hrm, if_false]

theorem firstMin_eq_fold (key : DateV → Int) (lt : DateV → DateV → Bool)
    (hlt : ∀ y m, lt y m = true ↔ key y < key m) (x : DateV) (rest : List DateV) :
    firstMin key (x :: rest) = some (rest.foldl (fun m y => if lt y m then y else m) x) := by
  rw [fold_firstMin key lt hlt]
  simp only [firstMin]
  cases firstMin key rest with
  | none => rfl
  | some r =>
    simp only
    split <;> rfl

theorem firstMin_skey (ds : List DateV) : firstMin skey ds = minimumV ds := by
  cases ds with
  | nil => rfl
  | cons x rest => exact firstMin_eq_fold skey _ yearsLtV_key x rest

theorem firstMax_ekey (ds : List DateV) : firstMax ekey ds = maximumV ds := by
  cases ds with
  | nil => rfl
  | cons x rest =>
    exact firstMin_eq_fold _ (fun y m => yearsLtE (some m) (some y))
      (fun y m => (yearsLtE_key m y).trans Int.neg_lt_neg_iff.symm) x rest

theorem estBirthS_eq (i : Indi) : estBirthS i = estBirth i := by
  unfold estBirthS estBirth
  simp only [firstMin_skey]

theorem estDeathS_eq (i : Indi) : estDeathS i = estDeath i := by
  unfold estDeathS estDeath
  simp only [firstMin_skey]

theorem minimumV_none {ds : List DateV} : minimumV ds = none ↔ ds = [] := by
  cases ds <;> simp [minimumV]
theorem maximumV_none {ds : List DateV} : maximumV ds = none ↔ ds = [] := by
  cases ds <;> simp [maximumV]

/-- the two day distances the married check looks at: first day of the earliest marriage date
    against the first day of the estimated birth, last day of the latest marriage date against the
    last day of the estimated birth -/
def MoorYoung (a b xb : DateV) : Prop :=
  absd (dayS a) (dayS xb) * 4 < 16 * 1461 ∧ absd (dayE b) (dayE xb) * 4 < 16 * 1461
def MoorOld (a b xb : DateV) : Prop :=
  absd (dayS a) (dayS xb) * 4 > 100 * 1461 ∨ absd (dayE b) (dayE xb) * 4 > 100 * 1461

/-- `Years(xd) − Years(xb) > n` on the ranges' `Years()` (cross-multiplied) -/
def MidYearsApartGt (xb xd : DateV) (n : Int) : Prop :=
  (midYears xd).1 * (midYears xb).2 - (midYears xb).1 * (midYears xd).2 >
    n * ((midYears xd).2 * (midYears xb).2)

instance (xb xd : DateV) (n : Int) : Decidable (MidYearsApartGt xb xd n) := by
  unfold MidYearsApartGt; exact inferInstance

end Gedcom.C20

namespace Gedcom.Warn
open Gedcom.C20

theorem minimumV_spec {ds : List DateV} {a : DateV} (h : minimumV ds = some a) :
    a ∈ ds ∧ ∀ x ∈ ds, skey a ≤ skey x :=
  firstMin_le (key := skey) (by rw [firstMin_skey]; exact h)

theorem maximumV_spec {ds : List DateV} {a : DateV} (h : maximumV ds = some a) :
    a ∈ ds ∧ ∀ x ∈ ds, ekey x ≤ ekey a := by
  obtain ⟨hm, hle⟩ := firstMin_le (key := fun x => - ekey x) (by rw [← firstMax, firstMax_ekey]; exact h)
  exact ⟨hm, fun x hx => Int.neg_le_neg_iff.mp (hle x hx)⟩

theorem skey_days {a b : Date} (ha : C05.Full a) (hb : C05.Full b) :
    skey (.ok a) < skey (.ok b) ↔ dayOf a < dayOf b :=
  (fracLt_key (date_frac_good a).1 (date_frac_good b).1).symm.trans (fracLt_days ha hb)

theorem skey_days_le {a b : Date} (ha : C05.Full a) (hb : C05.Full b) :
    skey (.ok a) ≤ skey (.ok b) ↔ dayOf a ≤ dayOf b := by
  have := skey_days hb ha
  omega

def AllOk (ds : List DateV) : Prop := ∀ x ∈ ds, ∃ t, x = DateV.ok t

def MinDay (ds : List DateV) (m : Int) : Prop :=
  (∃ t, DateV.ok t ∈ ds ∧ dayOf t = m) ∧ ∀ t, DateV.ok t ∈ ds → m ≤ dayOf t

def MaxDay (ds : List DateV) (m : Int) : Prop :=
  (∃ t, DateV.ok t ∈ ds ∧ dayOf t = m) ∧ ∀ t, DateV.ok t ∈ ds → dayOf t ≤ m

/-- `Full` here and in `FullEvs` is `DateV.Fine`: a calendar day (`C05.Full`) or an unparsable value -/
def FullIn (ds : List DateV) : Prop := ∀ x ∈ ds, x.Fine

theorem FullIn.full {ds : List DateV} (h : FullIn ds) {t : Date} (ht : DateV.ok t ∈ ds) : C05.Full t :=
  h _ ht

theorem minimumV_day_iff {ds : List DateV} (hf : FullIn ds) {m : Int} :
    (∃ t, minimumV ds = some (.ok t) ∧ dayOf t = m) ↔ AllOk ds ∧ MinDay ds m := by
  constructor
  · rintro ⟨t, h, rfl⟩
    obtain ⟨hm, hle⟩ := minimumV_spec h
    refine ⟨fun x hx => ?_, ⟨t, hm, rfl⟩, fun u hu =>
      (skey_days_le (hf.full hm) (hf.full hu)).mp (hle _ hu)⟩
    · cases x with
      | ok u => exact ⟨u, rfl⟩
      | bad l => exact absurd (hle _ hx) (Int.not_le.mpr (skey_ok_pos t))
      | gen l s e => exact (hf _ hx).elim
  · rintro ⟨hok, ⟨t0, ht0, rfl⟩, hmin⟩
    obtain ⟨a, ha⟩ := Option.ne_none_iff_exists'.mp (mt minimumV_none.mp (List.ne_nil_of_mem ht0))
    obtain ⟨hm, hle⟩ := minimumV_spec ha
    obtain ⟨t, rfl⟩ := hok a hm
    exact ⟨t, ha, Int.le_antisymm ((skey_days_le (hf.full hm) (hf.full ht0)).mp (hle _ ht0))
      (hmin t hm)⟩

theorem MinDay.unique {ds : List DateV} {a b : Int} (ha : MinDay ds a) (hb : MinDay ds b) : a = b := by
  obtain ⟨⟨ta, hta, rfl⟩, ha2⟩ := ha
  obtain ⟨⟨tb, htb, rfl⟩, hb2⟩ := hb
  have := ha2 tb htb
  have := hb2 ta hta
  omega

theorem MaxDay.unique {ds : List DateV} {a b : Int} (ha : MaxDay ds a) (hb : MaxDay ds b) : a = b := by
  obtain ⟨⟨ta, hta, rfl⟩, ha2⟩ := ha
  obtain ⟨⟨tb, htb, rfl⟩, hb2⟩ := hb
  have := ha2 tb htb
  have := hb2 ta hta
  omega

def birthDates (i : Indi) : List DateV := datesOf (eventsOf .birt i.events)
def baptismDates (i : Indi) : List DateV := datesOf (eventsOf .bapm i.events ++ eventsOf .bapl i.events)
def deathDates (i : Indi) : List DateV := datesOf (eventsOf .deat i.events)
def burialDates (i : Indi) : List DateV := datesOf (eventsOf .buri i.events)

/-- `EB(i) = b`: the earliest day among all BIRT dates — or, when there is no BIRT date at all,
    among all BAPM/BAPL dates — provided every one of those dates parses -/
def EstBirthDay (i : Indi) (b : Int) : Prop :=
  (birthDates i ≠ [] ∧ AllOk (birthDates i) ∧ MinDay (birthDates i) b) ∨
  (birthDates i = [] ∧ AllOk (baptismDates i) ∧ MinDay (baptismDates i) b)

/-- `ED(i) = b`: the same with DEAT, then BURI -/
def EstDeathDay (i : Indi) (b : Int) : Prop :=
  (deathDates i ≠ [] ∧ AllOk (deathDates i) ∧ MinDay (deathDates i) b) ∨
  (deathDates i = [] ∧ AllOk (burialDates i) ∧ MinDay (burialDates i) b)

theorem mem_datesOf {evs : List Ev} {x : DateV} : x ∈ datesOf evs ↔ ∃ e ∈ evs, x ∈ e.dates := by
  simp [datesOf, List.mem_flatMap]

theorem mem_eventsOf {k : EvKind} {evs : List Ev} {e : Ev} : e ∈ eventsOf k evs ↔ e ∈ evs ∧ e.kind = k := by
  simp [eventsOf]

def FullEvs (evs : List Ev) : Prop := ∀ e ∈ evs, ∀ x ∈ e.dates, x.Fine

theorem FullEvs.full {evs : List Ev} (h : FullEvs evs) {e : Ev} (he : e ∈ evs) {t : Date}
    (ht : DateV.ok t ∈ e.dates) : C05.Full t := h e he _ ht

theorem datesOf_all {P : DateV → Prop} {evs sub : List Ev} (h : ∀ e ∈ evs, ∀ x ∈ e.dates, P x)
    (hs : ∀ e ∈ sub, e ∈ evs) : ∀ x ∈ datesOf sub, P x := by
  intro t ht
  obtain ⟨e, he, hte⟩ := mem_datesOf.mp ht
  exact h e (hs e he) t hte

theorem eventsOf_sub {k : EvKind} {evs : List Ev} : ∀ e ∈ eventsOf k evs, e ∈ evs :=
  fun _ he => (mem_eventsOf.mp he).1

theorem baptisms_sub {evs : List Ev} : ∀ e ∈ eventsOf .bapm evs ++ eventsOf .bapl evs, e ∈ evs :=
  fun e he => (List.mem_append.mp he).elim (eventsOf_sub e) (eventsOf_sub e)

/-- the shape both estimates have: `Minimum()` of a first choice of dates, of a fallback when there
    is none -/
def estOf (first second : List DateV) : Option DateV :=
  if first.isEmpty then minimumV second else minimumV first

def EstDay (first second : List DateV) (b : Int) : Prop :=
  (first ≠ [] ∧ AllOk first ∧ MinDay first b) ∨ (first = [] ∧ AllOk second ∧ MinDay second b)

theorem est_day_iff {first second : List DateV} (hf1 : FullIn first) (hf2 : FullIn second) {b : Int} :
    (∃ t, estOf first second = some (.ok t) ∧ dayOf t = b) ↔ EstDay first second b := by
  unfold EstDay
  cases first with
  | nil =>
    show (∃ t, minimumV second = some (.ok t) ∧ dayOf t = b) ↔ _
    rw [minimumV_day_iff hf2]
    simp
  | cons x rest =>
    show (∃ t, minimumV (x :: rest) = some (.ok t) ∧ dayOf t = b) ↔ _
    rw [minimumV_day_iff hf1]
    simp

theorem estBirth_day {i : Indi} (h : FullEvs i.events) {b : Int} :
    (∃ t, estBirth i = some (.ok t) ∧ dayOf t = b) ↔ EstBirthDay i b :=
  est_day_iff (datesOf_all h eventsOf_sub) (datesOf_all h baptisms_sub)

theorem estDeath_day {i : Indi} (h : FullEvs i.events) {b : Int} :
    (∃ t, estDeath i = some (.ok t) ∧ dayOf t = b) ↔ EstDeathDay i b :=
  est_day_iff (datesOf_all h eventsOf_sub) (datesOf_all h eventsOf_sub)

theorem estDeath_of_spec {i : Indi} (hfull : FullEvs i.events) {b : Int} (h : EstDeathDay i b) :
    ∃ t, estDeath i = some (.ok t) ∧ dayOf t = b :=
  (estDeath_day hfull).mpr h

theorem EstBirthDay.unique {i : Indi} {a b : Int} (ha : EstBirthDay i a) (hb : EstBirthDay i b) : a = b := by
  rcases ha with ⟨h1, _, h3⟩ | ⟨h1, _, h3⟩ <;> rcases hb with ⟨g1, _, g3⟩ | ⟨g1, _, g3⟩
  · exact h3.unique g3
  · exact absurd g1 h1
  · exact absurd h1 g1
  · exact h3.unique g3

theorem estOf_mem {first second : List DateV} {x : DateV} (h : estOf first second = some x) :
    x ∈ first ∨ x ∈ second := by
  unfold estOf at h
  split at h
  · exact Or.inr (minimumV_spec h).1
  · exact Or.inl (minimumV_spec h).1

/-- an estimate is one of the individual's own dates -/
theorem estBirth_all {P : DateV → Prop} {i : Indi} (h : ∀ e ∈ i.events, ∀ x ∈ e.dates, P x)
    {x : DateV} (hb : estBirth i = some x) : P x :=
  (estOf_mem hb).elim (datesOf_all h eventsOf_sub x) (datesOf_all h baptisms_sub x)

theorem estDeath_all {P : DateV → Prop} {i : Indi} (h : ∀ e ∈ i.events, ∀ x ∈ e.dates, P x)
    {x : DateV} (hd : estDeath i = some x) : P x :=
  (estOf_mem hd).elim (datesOf_all h eventsOf_sub x) (datesOf_all h eventsOf_sub x)

/-- a year is 365.25 days -/
theorem moor_arith (u v : Int) :
    (max (min (u * nsPerDay) maxDur) (min (v * nsPerDay) maxDur) <
        Generated.minMarriageAge * Generated.yearNs ↔ u * 4 < 16 * 1461 ∧ v * 4 < 16 * 1461) ∧
    (max (min (u * nsPerDay) maxDur) (min (v * nsPerDay) maxDur) >
        Generated.maxMarriageAge * Generated.yearNs ↔ u * 4 > 100 * 1461 ∨ v * 4 > 100 * 1461) := by
  simp only [nsPerDay, maxDur, Generated.minMarriageAge, Generated.maxMarriageAge, Generated.yearNs]
  omega

theorem ageAt_cases (i : Indi) (a c : DateV) :
    (ageAt i a c = unknownAges ∧ ∀ xb, estBirth i = some xb → xb.valid = false) ∨
    ∃ xb, estBirth i = some xb ∧ xb.valid = true ∧ (ageAt i a c).known = true ∧
      (ageAt i a c).hi =
        max (dateSub (startI (some a)) (startI (some xb))) (dateSub (endI (some c)) (endI (some xb))) ∧
      (ageAt i a c).c =
        (if yearsLtV (some a) (some xb) then AgeC.beforeBirth
         else if yearsLtE (estDeath i) (some c) && (estDeath i).isSome then AgeC.afterDeath
         else AgeC.living) := by
  unfold ageAt
  cases hb : estBirth i with
  | none => exact Or.inl ⟨rfl, fun _ h => nomatch h⟩
  | some xb =>
    cases hv : xb.valid with
    | false =>
      refine Or.inl ⟨by simp [validO, hv], fun x h => ?_⟩
      cases h
      exact hv
    | true =>
      refine Or.inr ⟨xb, rfl, hv, ?_⟩
      simp only [validO, hv, Bool.not_true, Bool.false_eq_true, if_false]
      split
      · rename_i h
        exact ⟨rfl, (Int.max_eq_left (Int.le_of_lt h)).symm, rfl⟩
      · rename_i h
        exact ⟨rfl, (Int.max_eq_right (Int.not_lt.mp h)).symm, rfl⟩

theorem ageAtEvent_elim {i : Indi} {e : Ev} {P : Ages → Prop} (hP : ¬ P unknownAges) :
    P (ageAtEvent i e) ↔ ∃ xb a b, estBirth i = some xb ∧ xb.valid = true ∧
      minimumV (e.dates.filter DateV.valid) = some a ∧
      maximumV (e.dates.filter DateV.valid) = some b ∧ P (ageAt i a b) := by
  unfold ageAtEvent
  simp only
  cases minimumV (e.dates.filter DateV.valid) with
  | none => exact ⟨fun h => absurd h hP, fun ⟨_, _, _, _, _, h, _⟩ => nomatch h⟩
  | some a =>
    cases maximumV (e.dates.filter DateV.valid) with
    | none => exact ⟨fun h => absurd h hP, fun ⟨_, _, _, _, _, _, h, _⟩ => nomatch h⟩
    | some b =>
      constructor
      · intro h
        rcases ageAt_cases i a b with ⟨hu, _⟩ | ⟨xb, hxb, hvb, _⟩
        · exact absurd (hu ▸ h) hP
        · exact ⟨xb, a, b, hxb, hvb, rfl, rfl, h⟩
      · rintro ⟨_, _, _, _, _, ha, hb, h⟩
        cases ha
        cases hb
        exact h

theorem marriedTest_general {i : Indi} {e : Ev}
    (hi_ : ∀ e' ∈ i.events, ∀ x ∈ e'.dates, x.valid = true → Whole x)
    (he : ∀ x ∈ e.dates, x.valid = true → Whole x) (old : Bool) :
    marriedTest (ageAtEvent i e) old ↔
      ∃ xb a b, estBirth i = some xb ∧ xb.valid = true ∧
        minimumV (e.dates.filter DateV.valid) = some a ∧
        maximumV (e.dates.filter DateV.valid) = some b ∧
        ((old = false ∧ MoorYoung a b xb) ∨ (old = true ∧ MoorOld a b xb)) := by
  refine (ageAtEvent_elim (P := (marriedTest · old)) (marriedTest_unknown old)).trans ?_
  refine exists_congr fun xb => exists_congr fun a => exists_congr fun b => and_congr_right fun hxb =>
    and_congr_right fun hvb => and_congr_right fun hmin => and_congr_right fun hmax => ?_
  have wb := estBirth_all hi_ hxb hvb
  have hma := List.mem_filter.mp (minimumV_spec hmin).1
  have hmb := List.mem_filter.mp (maximumV_spec hmax).1
  rcases ageAt_cases i a b with ⟨_, hno⟩ | ⟨xb', hxb2, _, hk, hhi, _⟩
  · rw [hno xb hxb] at hvb
    cases hvb
  · cases hxb.symm.trans hxb2
    have ar := moor_arith (absd (dayS a) (dayS xb)) (absd (dayE b) (dayE xb))
    unfold marriedTest
    rw [hhi, hk, dateSub_start (he a hma.1 hma.2) wb, dateSub_end (he b hmb.1 hmb.2) wb]
    exact or_congr (and_congr_right fun _ => (and_iff_right rfl).trans ar.1)
      (and_congr_right fun _ => ar.2)

theorem mem_filter_valid {ds : List DateV} {t : Date} :
    DateV.ok t ∈ ds.filter DateV.valid ↔ DateV.ok t ∈ ds := by
  simp [List.mem_filter, DateV.valid]

theorem allOk_filter_valid {ds : List DateV} (hn : FullIn ds) : AllOk (ds.filter DateV.valid) := by
  intro x hx
  rw [List.mem_filter] at hx
  cases x with
  | ok t => exact ⟨t, rfl⟩
  | bad l => simp [DateV.valid] at hx
  | gen l s e => exact (hn _ hx.1).elim

theorem whole_of_fine {x : DateV} (hf : x.Fine) (hv : x.valid = true) : Whole x := by
  obtain ⟨t, rfl⟩ := hf.ok_of_valid hv
  exact whole_ok t

theorem ends_of_valid {ds : List DateV} (hf : FullIn ds) {a c : DateV}
    (ha : minimumV (ds.filter DateV.valid) = some a) (hc : maximumV (ds.filter DateV.valid) = some c) :
    ∃ ta tc, a = .ok ta ∧ c = .ok tc ∧ DateV.ok ta ∈ ds ∧ DateV.ok tc ∈ ds ∧
      ∀ t, DateV.ok t ∈ ds → dayOf ta ≤ dayOf t ∧ dayOf t ≤ dayOf tc := by
  have hok := allOk_filter_valid hf
  obtain ⟨hma, hla⟩ := minimumV_spec ha
  obtain ⟨hmc, hlc⟩ := maximumV_spec hc
  obtain ⟨ta, rfl⟩ := hok a hma
  obtain ⟨tc, rfl⟩ := hok c hmc
  have ma := mem_filter_valid.mp hma
  have mc := mem_filter_valid.mp hmc
  -- the end key of a calendar day is its start key
  exact ⟨ta, tc, rfl, rfl, ma, mc, fun t ht =>
    ⟨(skey_days_le (hf.full ma) (hf.full ht)).mp (hla (.ok t) (mem_filter_valid.mpr ht)),
     (skey_days_le (hf.full ht) (hf.full mc)).mp (hlc (.ok t) (mem_filter_valid.mpr ht))⟩⟩

theorem absd_between {lo hi t b : Int} (h1 : lo ≤ t) (h2 : t ≤ hi) :
    absd t b ≤ absd lo b ∨ absd t b ≤ absd hi b := by
  unfold absd
  split <;> split <;> split <;> omega

theorem marriedTest_exact {i : Indi} {e : Ev} (hfi : FullEvs i.events) (hfe : FullIn e.dates)
    (old : Bool) :
    marriedTest (ageAtEvent i e) old ↔ ∃ b, EstBirthDay i b ∧
      ((old = false ∧ (∃ t, DateV.ok t ∈ e.dates) ∧
          ∀ t, DateV.ok t ∈ e.dates → absd (dayOf t) b * 4 < 16 * 1461) ∨
       (old = true ∧ ∃ t, DateV.ok t ∈ e.dates ∧ absd (dayOf t) b * 4 > 100 * 1461)) := by
  refine (marriedTest_general (fun e' he' x hx hv => whole_of_fine (hfi e' he' x hx) hv)
    (fun x hx hv => whole_of_fine (hfe x hx) hv) old).trans ⟨?_, ?_⟩
  · rintro ⟨xb, a, c, hb, hvb, ha, hc, h⟩
    have fb := estBirth_all hfi hb
    obtain ⟨tb, rfl⟩ := fb.ok_of_valid hvb
    obtain ⟨ta, tc, rfl, rfl, ma, mc, hbt⟩ := ends_of_valid hfe ha hc
    unfold MoorYoung MoorOld at h
    rw [dayS_full (hfe.full ma), dayS_full fb, dayE_full (hfe.full mc), dayE_full fb] at h
    refine ⟨dayOf tb, (estBirth_day hfi).mp ⟨tb, hb, rfl⟩, h.imp
      (fun ⟨ho, hl, hh⟩ => ⟨ho, ⟨ta, ma⟩, fun t ht => ?_⟩) (fun ⟨ho, hg⟩ => ⟨ho, ?_⟩)⟩
    · have := absd_between (b := dayOf tb) (hbt t ht).1 (hbt t ht).2
      omega
    · exact hg.elim (fun h => ⟨ta, ma, h⟩) (fun h => ⟨tc, mc, h⟩)
  · rintro ⟨bd, hb, h⟩
    obtain ⟨tb, hb', rfl⟩ := (estBirth_day hfi).mpr hb
    -- the node has a valid date: its list of valid dates has a first and a last
    obtain ⟨t0, ht0⟩ : ∃ t, DateV.ok t ∈ e.dates :=
      h.elim (fun h => h.2.1) (fun ⟨_, t, ht, _⟩ => ⟨t, ht⟩)
    have hne := List.ne_nil_of_mem (mem_filter_valid.mpr ht0)
    obtain ⟨a, ha⟩ := Option.ne_none_iff_exists'.mp (mt minimumV_none.mp hne)
    obtain ⟨c, hc⟩ := Option.ne_none_iff_exists'.mp (mt maximumV_none.mp hne)
    obtain ⟨ta, tc, rfl, rfl, ma, mc, hbt⟩ := ends_of_valid hfe ha hc
    have fb : C05.Full tb := estBirth_all hfi hb'
    refine ⟨.ok tb, .ok ta, .ok tc, hb', rfl, ha, hc, ?_⟩
    unfold MoorYoung MoorOld
    rw [dayS_full (hfe.full ma), dayS_full fb, dayE_full (hfe.full mc), dayE_full fb]
    refine h.imp (fun ⟨ho, _, hall⟩ => ⟨ho, hall ta ma, hall tc mc⟩)
      (fun ⟨ho, t, ht, hg⟩ => ⟨ho, ?_⟩)
    have := absd_between (b := dayOf tb) (hbt t ht).1 (hbt t ht).2
    omega

theorem ExactDates.fullEvs {d : Doc} (hx : ExactDates d) {i : Indi} (hi : Rec.indi i ∈ d) :
    FullEvs i.events := fun _ he _ ht => hx.fine_indi hi he ht

/-- `Years(td) − Years(tb) > n` on the exact fractions of date.go's `Years()` -/
def YearsApartGt (tb td : Date) (n : Int) : Prop :=
  ((td.year : Int) * td.yearsDen + td.yearsNum) * tb.yearsDen -
    ((tb.year : Int) * tb.yearsDen + tb.yearsNum) * td.yearsDen > n * (td.yearsDen * tb.yearsDen)

theorem midDen_bounds (x : DateV) : 0 < (midYears x).2 ∧ (midYears x).2 ≤ 1077512 := by
  cases x with
  | ok t =>
    simp only [midYears, yearsFrac]
    rcases yearsDen_cases t with e | e <;> rw [e] <;> omega
  | bad l => simp [midYears, yearsFrac]
  | gen l s e =>
    simp only [midYears, yearsFrac]
    have hs := (pfrac_good s).1
    have he := (pfrac_good e).1
    have : 0 < s.yearsFrac.2 * e.yearsFrac.2 := Int.mul_pos hs.pos he.pos
    have : s.yearsFrac.2 * e.yearsFrac.2 ≤ 734 * 734 :=
      Int.mul_le_mul hs.le he.le (Int.le_of_lt he.pos) (by decide)
    omega

theorem trunc_gt (N D : Int) (h0 : 0 < D) (h1 : D < 31557600000000000) :
    truncDiv (N * Generated.yearNs) D > Generated.maxLivingAge * Generated.yearNs ↔ N > 100 * D := by
  unfold truncDiv
  have hK : Generated.yearNs = 31557600000000000 := rfl
  have hM : Generated.maxLivingAge = 100 := rfl
  rw [hM, hK]
  by_cases h : N * 31557600000000000 ≥ 0
  · rw [if_pos h]
    have key : 100 * 31557600000000000 + 1 ≤ N * 31557600000000000 / D ↔
        (100 * 31557600000000000 + 1) * D ≤ N * 31557600000000000 := Int.le_ediv_iff_mul_le h0
    constructor
    · intro hh; have := key.mp (by omega); omega
    · intro hh; have := key.mpr (by omega); omega
  · rw [if_neg h]
    have : 0 ≤ (-(N * 31557600000000000)) / D := Int.ediv_nonneg (by omega) (by omega)
    constructor <;> intro hh <;> omega

/-- the denominators are far below a year of nanoseconds, so truncation does not matter -/
theorem yearsApart_trunc (xb xd : DateV) :
    truncDiv (((midYears xd).1 * (midYears xb).2 - (midYears xb).1 * (midYears xd).2) *
        Generated.yearNs) ((midYears xd).2 * (midYears xb).2) >
      Generated.maxLivingAge * Generated.yearNs ↔ MidYearsApartGt xb xd 100 := by
  have b1 := midDen_bounds xd
  have b2 := midDen_bounds xb
  have hD0 : 0 < (midYears xd).2 * (midYears xb).2 := Int.mul_pos b1.1 b2.1
  have hD1 : (midYears xd).2 * (midYears xb).2 ≤ 1077512 * 1077512 :=
    Int.mul_le_mul b1.2 b2.2 (by omega) (by omega)
  rw [trunc_gt _ _ hD0 (by omega)]
  unfold MidYearsApartGt
  omega

theorem tooOld_iff_general {i : Indi} {now : Date}
    (hpast : ∀ e ∈ i.events, ∀ x ∈ e.dates, skey x ≤ skey (.ok now) ∧ ekey x < ekey (.ok now)) :
    ((ageNow i now).hi > Generated.maxLivingAge * Generated.yearNs ∧ (estDeath i).isSome = true) ↔
      ∃ xb xd, estBirth i = some xb ∧ xb.valid = true ∧ estDeath i = some xd ∧
        MidYearsApartGt xb xd 100 := by
  have hpos : (0 : Int) < Generated.maxLivingAge * Generated.yearNs := by decide
  rcases ageAt_cases i (.ok now) (.ok now) with ⟨hu, hno⟩ | ⟨xb, heb, hvb, _, _, hc⟩
  · have : ageNow i now = unknownAges := by
      unfold ageNow
      rw [hu]
      rfl
    rw [this]
    constructor
    · rintro ⟨h, _⟩; simp only [unknownAges] at h; omega
    · rintro ⟨xb, _, h, h2, _⟩
      rw [hno xb h] at h2
      cases h2
  · have hbp := estBirth_all hpast heb
    -- today is not before the birth
    have hnb : yearsLtV (some (.ok now)) (some xb) = false :=
      Bool.eq_false_iff.mpr fun h => by have := (yearsLtV_key _ _).mp h; omega
    rw [hnb] at hc
    simp only [Bool.false_eq_true, if_false] at hc
    cases hed : estDeath i with
    | none =>
      constructor
      · rintro ⟨_, h⟩; simp at h
      · rintro ⟨_, _, _, _, h, _⟩; simp at h
    | some xd =>
      have hdp := estDeath_all hpast hed
      have hafter : (ageAt i (.ok now) (.ok now)).c = AgeC.afterDeath := by
        rw [hc, hed]
        simp [(yearsLtE_key xd (.ok now)).mpr hdp.2]
      have hage : (ageNow i now).hi =
          truncDiv (((yearsFrac (some xd)).1 * (yearsFrac (some xb)).2 -
            (yearsFrac (some xb)).1 * (yearsFrac (some xd)).2) * Generated.yearNs)
            ((yearsFrac (some xd)).2 * (yearsFrac (some xb)).2) := by
        unfold ageNow
        simp only [hafter, if_true, hed, heb]
      have ht := yearsApart_trunc xb xd
      rw [hage]
      constructor
      · rintro ⟨h, _⟩
        exact ⟨xb, xd, heb, hvb, rfl, ht.mp h⟩
      · rintro ⟨xb', xd', e1, _, e2, h⟩
        rw [heb] at e1
        cases e1
        cases e2
        exact ⟨ht.mpr h, rfl⟩

theorem tooOld_iff {i : Indi} {now : Date} (hfi : FullEvs i.events) (hnow : C05.Full now)
    (hpast : ∀ e ∈ i.events, ∀ t, DateV.ok t ∈ e.dates → dayOf t < dayOf now) :
    ((ageNow i now).hi > Generated.maxLivingAge * Generated.yearNs ∧ (estDeath i).isSome = true) ↔
      ∃ tb td, estBirth i = some (.ok tb) ∧ estDeath i = some (.ok td) ∧
        EstBirthDay i (dayOf tb) ∧ EstDeathDay i (dayOf td) ∧ YearsApartGt tb td 100 := by
  have hkeys : ∀ e ∈ i.events, ∀ x ∈ e.dates, skey x ≤ skey (.ok now) ∧ ekey x < ekey (.ok now) := by
    intro e he x hx
    have hnow0 := skey_ok_pos now
    cases x with
    | ok t =>
      have := (skey_days (hfi.full he hx) hnow).mpr (hpast e he t hx)
      exact ⟨Int.le_of_lt this, this⟩
    | bad l => exact ⟨Int.le_of_lt hnow0, hnow0⟩
    | gen l s e' => exact (hfi e he _ hx).elim
  rw [tooOld_iff_general hkeys]
  constructor
  · rintro ⟨xb, xd, hb, hvb, hd, hgt⟩
    obtain ⟨tb, rfl⟩ := (estBirth_all hfi hb).ok_of_valid hvb
    cases xd with
    | ok td =>
      exact ⟨tb, td, hb, hd, (estBirth_day hfi).mp ⟨tb, hb, rfl⟩, (estDeath_day hfi).mp ⟨td, hd, rfl⟩, hgt⟩
    | gen l s e => exact (estDeath_all hfi hd).elim
    | bad l =>
      -- an unparsable death date has `Years() = 0`, below the birth
      have := (date_frac_good tb).2
      simp only [MidYearsApartGt, midYears, yearsFrac] at hgt
      have := yearsDen_pos tb
      omega
  · rintro ⟨tb, td, hb, hd, _, _, hgt⟩
    exact ⟨.ok tb, .ok td, hb, rfl, hd, hgt⟩

end Gedcom.Warn

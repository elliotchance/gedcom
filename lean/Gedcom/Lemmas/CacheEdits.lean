/-
  C13 — every edit of the cache machine keeps the state coherent: the primitive edits (allocation, a value,
  a child list, the root list), then each operation as a composition of them (`Good`), up to `exec_good`.
-/
import Gedcom.Lemmas.CacheReads
namespace Gedcom.Cache

/-- the part of coherence that does not depend on node values -/
structure CoreCoh (s : St) : Prop where
  nc : ∀ e ∈ s.ncache, e.2 = specNWT (abs s) e.1.1 e.1.2
  df : ∀ l, s.dfams = some l → l = specFamilies (abs s)
  idx : ∀ p, lookup s.ptrIdx p = specByPtr (abs s) p
  hus : ∀ e ∈ s.cHusb, (abs s).tag e.1 = tFAM → e.2 = specHusband (abs s) e.1
  wif : ∀ e ∈ s.cWife, (abs s).tag e.1 = tFAM → e.2 = specWife (abs s) e.1

/-- the rest: the per-individual caches, which do -/
structure IndCoh (s : St) : Prop where
  fam : ∀ e ∈ s.cFams, e.1 ∈ s.roots → (abs s).tag e.1 = tINDI → e.2 = specIndFamilies (abs s) e.1
  spo : ∀ e ∈ s.cSpouses, e.1 ∈ s.roots → (abs s).tag e.1 = tINDI → e.2 = specSpouses (abs s) e.1

/-- `V` = up to node values: the invariant without the per-individual caches, which is what rewriting
    the value of a node cannot break -/
def InvV (s : St) : Prop := WF s ∧ CoreCoh s

theorem Coherent.ind {s : St} (co : Coherent s) : IndCoh s := ⟨co.fam, co.spo⟩

theorem Inv.v {s : St} (hi : Inv s) : InvV s := ⟨hi.1, ⟨hi.2.nc, hi.2.df, hi.2.idx, hi.2.hus, hi.2.wif⟩⟩

theorem Inv.of {s : St} (hv : InvV s) (ic : IndCoh s) : Inv s :=
  ⟨hv.1, ⟨hv.2.nc, hv.2.df, hv.2.idx, hv.2.hus, hv.2.wif, ic.fam, ic.spo⟩⟩

theorem core_transfer {s t : St} (hi : InvV s) (ex : Ext (abs s) (abs t)) (hroots : t.roots = s.roots)
    (hidx : t.ptrIdx = s.ptrIdx) (hdf : t.dfams = s.dfams)
    (hnc : ∀ e ∈ t.ncache, e ∈ s.ncache ∧ (abs t).kids e.1.1 = (abs s).kids e.1.1)
    (hH : ∀ e ∈ t.cHusb, e ∈ s.cHusb ∧ ((abs s).tag e.1 = tFAM → (abs t).kids e.1 = (abs s).kids e.1))
    (hW : ∀ e ∈ t.cWife, e ∈ s.cWife ∧ ((abs s).tag e.1 = tFAM → (abs t).kids e.1 = (abs s).kids e.1))
    (hF : t.cFams = s.cFams) (hS : t.cSpouses = s.cSpouses) : InvV t := by
  obtain ⟨wf, co⟩ := hi
  have w := wf.awf
  have fr := ex.frame hroots
  have wt := ex.awf hroots w
  have hlen : s.heap.length ≤ t.heap.length := fr.len
  have byTag : ∀ (m : Id) (T : Str), (abs t).kids m = (abs s).kids m → specNWT (abs t) m T = specNWT (abs s) m T :=
    fun m T h => (specNWT_map (φ := id) T (by rw [h, List.map_id])
      fun c hc => fr.tag c (wf.kids m c hc)).trans (List.map_id _)
  refine ⟨⟨wt.roots, wt.kids, ?_, ?_, ?_, ?_, ?_⟩, ⟨?_, ?_, ?_, ?_, ?_⟩⟩
  · intro e he; exact Nat.lt_of_lt_of_le (wf.kNC e (hnc e he).1) hlen
  · intro e he; exact Nat.lt_of_lt_of_le (wf.kH e (hH e he).1) hlen
  · intro e he; exact Nat.lt_of_lt_of_le (wf.kW e (hW e he).1) hlen
  · intro e he; exact Nat.lt_of_lt_of_le (wf.kF e (hF ▸ he)) hlen
  · intro e he; exact Nat.lt_of_lt_of_le (wf.kS e (hS ▸ he)) hlen
  · intro e he
    obtain ⟨h1, h2⟩ := hnc e he
    rw [co.nc e h1, byTag e.1.1 e.1.2 h2]
  · intro l hl
    rw [co.df l (hdf ▸ hl), specFamilies_map (fr.sameRoots w), List.map_id]
  · intro p
    rw [hidx, co.idx p, specByPtr_map (fr.sameRoots w), Option.map_id_apply]
  · intro e he ht
    obtain ⟨h1, h2⟩ := hH e he
    have ht' : (abs s).tag e.1 = tFAM := (fr.tag e.1 (wf.kH e h1)) ▸ ht
    rw [co.hus e h1 ht']
    exact (congrArg List.head? (byTag e.1 tHUSB (h2 ht'))).symm
  · intro e he ht
    obtain ⟨h1, h2⟩ := hW e he
    have ht' : (abs s).tag e.1 = tFAM := (fr.tag e.1 (wf.kW e h1)) ▸ ht
    rw [co.wif e h1 ht']
    exact (congrArg List.head? (byTag e.1 tWIFE (h2 ht'))).symm

theorem ind_transfer {s t : St} (hi : Inv s) (R : FamSim id (· < s.heap.length) (abs s) (abs t))
    (hroot : ∀ i, i ∈ t.roots → (abs t).tag i = tINDI → i ∈ s.roots ∧ (abs s).tag i = tINDI)
    (hF : t.cFams = s.cFams) (hS : t.cSpouses = s.cSpouses) : IndCoh t := by
  obtain ⟨wf, co⟩ := hi
  constructor
  · intro e he hr ht
    obtain ⟨hr', ht'⟩ := hroot e.1 hr ht
    rw [hF] at he
    rw [co.fam e he hr' ht']
    exact ((specIndFamilies_sim R (wf.kF e he)).trans (List.map_id _)).symm
  · intro e he hr ht
    obtain ⟨hr', ht'⟩ := hroot e.1 hr ht
    rw [hS] at he
    rw [co.spo e he hr' ht']
    refine ((specSpouses_sim R (wf.kS e he)).trans ?_).symm
    rw [Option.map_id, List.map_id]

/-- what the views of a family read: the value of the old link nodes and the children of the family records -/
theorem ind_transfer_frame {s t : St} (hi : Inv s) (fr : Frame (abs s) (abs t))
    (value : ∀ m, m < s.heap.length → isLink (abs s) m → (abs t).value m = (abs s).value m)
    (fkids : ∀ m, (abs s).tag m = tFAM → (abs t).kids m = (abs s).kids m)
    (hF : t.cFams = s.cFams) (hS : t.cSpouses = s.cSpouses) : IndCoh t := by
  have w := hi.1.awf
  have R := fr.sameRoots w
  refine ind_transfer hi ⟨⟨[], by rw [specFamilies_map R, List.append_nil], fun _ h => absurd h List.not_mem_nil⟩,
    fun f hf T => specNWT_map T ((fkids f (mem_specFamilies hf)).trans (List.map_id _).symm) fun c hc => fr.tag c (w.kids f c hc),
    fun f _ c hc hl => value c (w.kids f c hc) hl,
    fun f _ c hc hl => specIndividualOf_map R (value c (w.kids f c hc) hl), w.roots, fr.ptr⟩
    (fun i hr ht => ?_) hF hS
  have hr' : i ∈ s.roots := (show t.roots = s.roots from fr.roots) ▸ hr
  exact ⟨hr', (fr.tag i (hi.1.roots i hr')) ▸ ht⟩

theorem mem_dropKey {β : Type} {c : List (Id × β)} {k : Id} {e : Id × β} :
    e ∈ dropKey c k ↔ e ∈ c ∧ e.1 ≠ k := by
  simp [dropKey, List.mem_filter]

theorem mem_dropKeys {β : Type} {c : List (Id × β)} {ks : List Id} {e : Id × β} :
    e ∈ dropKeys c ks ↔ e ∈ c ∧ e.1 ∉ ks := by
  simp [dropKeys, List.mem_filter]

theorem dropKey_dropKey {β : Type} (c : List (Id × β)) (k : Id) : dropKey (dropKey c k) k = dropKey c k := by
  unfold dropKey
  rw [List.filter_filter]
  congr 1
  funext e
  cases (e.1 != k) <;> rfl

theorem abs_afterKidsEdit (b1 b2 : Bool) (n : Id) (s : St) : abs (afterKidsEdit b1 b2 n s) = abs s := by
  unfold afterKidsEdit
  cases b1 <;> simp only [Bool.false_eq_true, if_false, if_true] <;> split <;> rfl

/-- the state after the children of `n` were edited to `ks` (resets of `DeleteNode` included) -/
def editedTo (n : Id) (ks : List Id) (s : St) : St :=
  afterKidsEdit true true n { s with heap := setKids s.heap n ks }

theorem abs_editedTo (n : Id) (ks : List Id) (s : St) :
    abs (editedTo n ks s) = ⟨setKids s.heap n ks, s.roots⟩ := by
  unfold editedTo
  rw [abs_afterKidsEdit]; rfl

theorem length_editedTo (n : Id) (ks : List Id) (s : St) : (editedTo n ks s).heap.length = s.heap.length :=
  (congrArg (fun a => a.heap.length) (abs_editedTo n ks s)).trans (setKids_length _ _ _)

theorem tag_editedTo (n : Id) (ks : List Id) (s : St) (m : Id) :
    (abs (editedTo n ks s)).tag m = (abs s).tag m := by
  rw [abs_editedTo]; exact tag_setKids

theorem kids_editedTo_self {n : Nat} (ks : List Id) (s : St) (hn : n < s.heap.length) :
    (abs (editedTo n ks s)).kids n = ks := by
  rw [abs_editedTo]; exact kids_setKids_self hn

theorem editedTo_cases (n : Id) (ks : List Id) (s : St) : editedTo n ks s =
    if (abs s).tag n == tFAM then
      bumpFamilyLinks (resetFamily n (resetNodeCache { s with heap := setKids s.heap n ks }))
    else resetNodeCache { s with heap := setKids s.heap n ks } := by
  have ht : (abs (resetNodeCache { s with heap := setKids s.heap n ks })).tag n = (abs s).tag n :=
    tag_setKids
  unfold editedTo afterKidsEdit
  simp only [if_true, Bool.and_true]
  rw [ht]

theorem abs_resetIndividuals (s : St) : abs (resetIndividuals s) = abs s := rfl

theorem bump_inv {s : St} (hv : InvV s) : Inv (bumpFamilyLinks s) :=
  ⟨⟨hv.1.roots, hv.1.kids, hv.1.kNC, hv.1.kH, hv.1.kW, fun _ h => absurd h List.not_mem_nil,
      fun _ h => absurd h List.not_mem_nil⟩,
    ⟨hv.2.nc, hv.2.df, hv.2.idx, hv.2.hus, hv.2.wif, fun _ h => absurd h List.not_mem_nil,
      fun _ h => absurd h List.not_mem_nil⟩⟩

theorem setValue_ext (s : St) (x : Nat) (v : Str) : Ext (abs s) (abs { s with heap := setValue s.heap x v }) :=
  ⟨by simp [abs, setValue_length], fun m _ => tag_setValue, fun m _ => ptr_setValue,
   fun m d hd => Or.inl (by rwa [show (abs { s with heap := setValue s.heap x v }).kids m = (abs s).kids m from
     kids_setValue] at hd)⟩

theorem setValue_core {s : St} (hv : InvV s) (h : Nat) (v : Str) :
    InvV { s with heap := setValue s.heap h v } :=
  core_transfer hv (setValue_ext s h v) rfl rfl rfl
    (fun _ he => ⟨he, kids_setValue⟩)
    (fun _ he => ⟨he, fun _ => kids_setValue⟩) (fun _ he => ⟨he, fun _ => kids_setValue⟩) rfl rfl

theorem setValue_inv {s : St} (hi : Inv s) {x : Nat} (hx : ¬ isLink (abs s) x) (v : Str) :
    Inv { s with heap := setValue s.heap x v } :=
  Inv.of (setValue_core hi.v x v) (ind_transfer_frame hi ((setValue_ext s x v).frame rfl)
    (fun _ _ hl => value_setValue_ne fun e => hx (e ▸ hl)) (fun _ _ => kids_setValue) rfl rfl)

theorem alloc_length (x : NodeRec) (s : St) : (alloc x s).heap.length = s.heap.length + 1 := by
  simp [alloc]

theorem snoc_ext (s : St) (x : NodeRec) (hx : x.kids = []) (r : List Id) : Ext (abs s) ⟨s.heap ++ [x], r⟩ :=
  ⟨by simp, fun m hm => tag_append hm, fun m hm => ptr_append hm,
   fun _ _ hd => Or.inl (kids_append (r := s.roots) hx ▸ hd)⟩

theorem alloc_ext (s : St) (x : NodeRec) (hx : x.kids = []) : Ext (abs s) (abs (alloc x s)) :=
  snoc_ext s x hx s.roots

theorem alloc_core {s : St} (hv : InvV s) (x : NodeRec) (hx : x.kids = []) : InvV (alloc x s) :=
  core_transfer hv (alloc_ext s x hx) rfl rfl rfl
    (fun _ he => ⟨he, kids_append hx⟩) (fun _ he => ⟨he, fun _ => kids_append hx⟩)
    (fun _ he => ⟨he, fun _ => kids_append hx⟩) rfl rfl

theorem alloc_inv {s : St} (hi : Inv s) (x : NodeRec) (hx : x.kids = []) : Inv (alloc x s) :=
  Inv.of (alloc_core hi.v x hx) (ind_transfer_frame hi ((alloc_ext s x hx).frame rfl)
    (fun _ hm _ => value_append hm) (fun _ _ => kids_append hx) rfl rfl)

theorem setKids_ext (s : St) {n : Nat} (hn : n < s.heap.length) {ks : List Id}
    (hks : ∀ c ∈ ks, c ∈ (abs s).kids n ∨ (n < c ∧ c < s.heap.length)) :
    Ext (abs s) ⟨setKids s.heap n ks, s.roots⟩ := by
  refine ⟨by simp [setKids_length], fun m _ => tag_setKids, fun m _ => ptr_setKids,
    fun m d hd => ?_⟩
  simp only [setKids_length]
  by_cases e : m = n
  · subst e
    rw [kids_setKids_self hn] at hd
    exact hks d hd
  · rw [kids_setKids_ne (r := s.roots) e] at hd
    exact Or.inl hd

/-- on a family record nothing about the individuals needs to be known beforehand -/
theorem kidsEdit_fam_good {s : St} (hv : InvV s) {n : Nat} {ks : List Id} (hf : (abs s).tag n = tFAM)
    (hks : ∀ c ∈ ks, c ∈ (abs s).kids n ∨ (n < c ∧ c < s.heap.length)) : Good s (editedTo n ks s) := by
  rw [editedTo_cases, if_pos (by simpa using hf)]
  have ex := setKids_ext s (tag_lt hf tFAM_ne) hks
  -- the record's own husband / wife entry is dropped
  have dropped : ∀ {β : Type} (c : List (Id × β)), ∀ e ∈ dropKey c n, e ∈ c ∧
      ((abs s).tag e.1 = tFAM → (Abs.mk (setKids s.heap n ks) s.roots).kids e.1 = (abs s).kids e.1) :=
    fun _ e he => ⟨(mem_dropKey.mp he).1, fun _ => kids_setKids_ne (mem_dropKey.mp he).2⟩
  exact ⟨bump_inv (core_transfer hv ex rfl rfl rfl (fun _ he => absurd he List.not_mem_nil)
    (dropped _) (dropped _) rfl rfl), ex⟩

theorem kidsEdit_good {s : St} (hi : Inv s) {n : Nat} {ks : List Id} (hn : n < s.heap.length)
    (hks : ∀ c ∈ ks, c ∈ (abs s).kids n ∨ (n < c ∧ c < s.heap.length)) : Good s (editedTo n ks s) := by
  by_cases hf : (abs s).tag n = tFAM
  · exact kidsEdit_fam_good hi.v hf hks
  rw [editedTo_cases, if_neg (by simpa using hf)]
  have ex := setKids_ext s hn hks
  -- `n` is no family: no husband / wife entry that counts is about it, and no family view reads its children
  have hk : ∀ m, (abs s).tag m = tFAM → (Abs.mk (setKids s.heap n ks) s.roots).kids m = (abs s).kids m :=
    fun m hm => kids_setKids_ne fun e1 => hf (e1 ▸ hm)
  exact ⟨Inv.of (core_transfer hi.v ex rfl rfl rfl (fun _ he => absurd he List.not_mem_nil)
      (fun e he => ⟨he, hk e.1⟩) (fun e he => ⟨he, hk e.1⟩) rfl rfl)
    (ind_transfer_frame hi (ex.frame rfl) (fun _ _ _ => value_setKids) hk rfl rfl), ex⟩

theorem init_inv (heap : List NodeRec) (roots : List Id) (w : AWF ⟨heap, roots⟩) : Inv (initOf heap roots) := by
  refine ⟨⟨w.roots, w.kids, ?_, ?_, ?_, ?_, ?_⟩, ⟨?_, ?_, ?_, ?_, ?_, ?_, ?_⟩⟩
  all_goals first
    | (intro e he; exact absurd he List.not_mem_nil)
    | (intro l hl; exact absurd hl (by simp [initOf]))
    | (intro p; exact lookup_buildIdx _ p)

variable {b1 b2 b3 : Bool}

theorem docAppend0_eq (x : NodeRec) (s : St) : docAppend0 (Flags.goodWith b1 b2 b3) x s =
    { s with heap := s.heap ++ [x], roots := s.roots ++ [s.heap.length],
             ptrIdx := if x.ptr.isEmpty then s.ptrIdx else (x.ptr, s.heap.length) :: s.ptrIdx,
             dfams := if x.tag == tFAM then none else s.dfams } := by
  cases h : x.ptr.isEmpty <;> simp [docAppend0, Flags.goodWith, Flags.good, h]

theorem docAppend0_core {s : St} (hv : InvV s) (x : NodeRec) (hx : x.kids = []) :
    InvV (docAppend0 (Flags.goodWith b1 b2 b3) x s) := by
  obtain ⟨wf1, co1⟩ := alloc_core hv x hx
  rw [docAppend0_eq]
  have htag : (Abs.mk (s.heap ++ [x]) s.roots).tag s.heap.length = x.tag := tag_append_new
  have hptr : (Abs.mk (s.heap ++ [x]) s.roots).ptr s.heap.length = x.ptr := ptr_append_new
  refine ⟨⟨?_, wf1.kids, wf1.kNC, wf1.kH, wf1.kW, wf1.kF, wf1.kS⟩, ⟨co1.nc, ?_, ?_, co1.hus, co1.wif⟩⟩
  · intro r hr
    rcases List.mem_append.mp hr with h1 | h1
    · exact wf1.roots r h1
    · have : r = s.heap.length := by simpa using h1
      show r < (s.heap ++ [x]).length
      simp [this]
  · intro l hl'
    show l = specFamilies ⟨s.heap ++ [x], s.roots ++ [s.heap.length]⟩
    rw [specFamilies_snoc, htag]
    by_cases hf : (x.tag == tFAM) = true
    · simp [hf] at hl'
    · simp only [hf, Bool.false_eq_true, if_false] at hl' ⊢
      rw [List.append_nil]
      exact co1.df l hl'
  · intro p
    show _ = specByPtr ⟨s.heap ++ [x], s.roots ++ [s.heap.length]⟩ p
    have hc : lookup s.ptrIdx p = specByPtr ⟨s.heap ++ [x], s.roots⟩ p := co1.idx p
    unfold specByPtr at hc ⊢
    rw [List.foldl_append, ← hptr]
    exact lookup_store hc _ _

/-- without the version bump the per-individual caches are kept: right for a record that is no individual
    and whose pointer no individual uses -/
theorem docAppend0_inv {s : St} (hi : Inv s) (x : NodeRec) (hx : x.kids = []) (ht : x.tag ≠ tINDI)
    (hp : ptrFreeOfIndi (abs s) x.ptr = true) : Inv (docAppend0 (Flags.goodWith b1 b2 b3) x s) := by
  have hi1 := alloc_inv hi x hx
  refine Inv.of (docAppend0_core hi.v x hx) ?_
  rw [docAppend0_eq]
  have hk : (Abs.mk (s.heap ++ [x]) s.roots).kids s.heap.length = [] :=
    kids_append_new.trans hx
  have htag : (Abs.mk (s.heap ++ [x]) s.roots).tag s.heap.length = x.tag := tag_append_new
  have hptr : (Abs.mk (s.heap ++ [x]) s.roots).ptr s.heap.length = x.ptr := ptr_append_new
  have ht' : (Abs.mk (s.heap ++ [x]) s.roots).tag s.heap.length ≠ tINDI := htag ▸ ht
  have hp' : ptrFreeOfIndi ⟨s.heap ++ [x], s.roots⟩ ((Abs.mk (s.heap ++ [x]) s.roots).ptr s.heap.length) = true := by
    rw [hptr]
    apply List.all_eq_true.mpr
    intro r hr
    have hlt := hi.1.roots r hr
    have := (List.all_eq_true.mp hp) r hr
    rw [tag_append (r := s.roots) hlt, ptr_append (r := s.roots) hlt]
    exact this
  -- the new root is no individual, so the cache entries that count are those of old roots
  refine ind_transfer hi1 (snoc_famSim _ _ _ hk ht' hp' hi1.1.awf) (fun i hr hti => ⟨?_, hti⟩) rfl rfl
  rcases List.mem_append.mp hr with h1 | h1
  · exact h1
  · have : i = s.heap.length := by simpa using h1
    subst this
    exact absurd hti ht'

theorem docAppend_eq (x : NodeRec) (s : St) : docAppend (Flags.goodWith b1 b2 b3) x s =
    bumpFamilyLinks (docAppend0 (Flags.goodWith b1 b2 b3) x s) := rfl

theorem abs_docAppend (fl : Flags) (x : NodeRec) (s : St) :
    abs (docAppend fl x s) = ⟨s.heap ++ [x], s.roots ++ [s.heap.length]⟩ := by
  unfold docAppend
  split <;> rfl

/-- with the version bump `Document.AddNode` keeps every cache coherent for a record of any tag and
    any pointer -/
theorem docAppend_inv {s : St} (hi : Inv s) (x : NodeRec) (hx : x.kids = []) :
    Inv (docAppend (Flags.goodWith b1 b2 b3) x s) := by
  rw [docAppend_eq]
  exact bump_inv (docAppend0_core hi.v x hx)

/-- `Document.AddNode` has just bumped the version, so the reset loop of `AddIndividual` finds both caches of
    every individual empty -/
theorem addIndividual_eq (p : Str) (s : St) : addIndividual (Flags.goodWith b1 b2 b3) p s =
    docAppend (Flags.goodWith b1 b2 b3) ⟨tINDI, [], p, [], 0⟩ s := rfl

theorem abs_addFamily (fl : Flags) (p : Str) (s : St) :
    abs (addFamily fl p s) = ⟨s.heap ++ [⟨tFAM, [], p, [], 0⟩], s.roots ++ [s.heap.length]⟩ := by
  have h1 : abs (addFamily fl p s) = abs (docFamilies (docAppend fl ⟨tFAM, [], p, [], 0⟩ s)).2 := by
    unfold addFamily
    split <;> rfl
  have h2 : ∀ t, abs (docFamilies t).2 = abs t := by
    intro t; unfold docFamilies; split <;> rfl
  rw [h1, h2, abs_docAppend]

theorem addFamily_good {s : St} (hi : Inv s) (p : Str) : Good s (addFamily (Flags.goodWith b1 b2 b3) p s) := by
  refine ⟨?_, abs_addFamily _ p s ▸ snoc_ext s _ rfl _⟩
  have h1 : Inv (docAppend (Flags.goodWith b1 b2 b3) ⟨tFAM, [], p, [], 0⟩ s) :=
    docAppend_inv hi _ rfl
  obtain ⟨h2, a2, _⟩ := docFamilies_sound _ h1 rfl
  unfold addFamily
  cases b3
  · exact h2
  · exact inv_memo h2 rfl rfl (hH := fun _ h => Or.inl (mem_dropKeys.mp h).1)
      (hW := fun _ h => Or.inl (mem_dropKeys.mp h).1)

theorem docDelete_eq (r : Id) (s : St) : docDelete (Flags.goodWith b1 b2 b3) r s =
    if s.roots.contains r then
      bumpFamilyLinks { s with roots := s.roots.erase r, dfams := none, ptrIdx := buildIdx ⟨s.heap, s.roots.erase r⟩ }
    else s := rfl

theorem docSetNodes_eq (ks : List Id) (s : St) : docSetNodes (Flags.goodWith b1 b2 b3) ks s =
    bumpFamilyLinks { s with roots := ks, dfams := none, ptrIdx := buildIdx ⟨s.heap, ks⟩ } := rfl

theorem setRoots_core {s : St} (hi : Inv s) (ks : List Id) (hks : ∀ k ∈ ks, k < s.heap.length) :
    InvV { s with roots := ks, dfams := none, ptrIdx := buildIdx ⟨s.heap, ks⟩ } := by
  obtain ⟨wf, co⟩ := hi
  refine ⟨⟨hks, wf.kids, wf.kNC, wf.kH, wf.kW, wf.kF, wf.kS⟩, ⟨co.nc, ?_, ?_, co.hus, co.wif⟩⟩
  · intro l hl; cases hl
  · intro p; exact lookup_buildIdx _ p

theorem docDelete_good {s : St} (hi : Inv s) (r : Id) : Good s (docDelete (Flags.goodWith b1 b2 b3) r s) := by
  rw [docDelete_eq]
  split
  · exact ⟨bump_inv (setRoots_core hi _ fun x hx => hi.1.roots x (List.mem_of_mem_erase hx)), Ext.of_heap rfl⟩
  · exact ⟨hi, Ext.refl _⟩

theorem docSetNodes_good {s : St} (hi : Inv s) (ks : List Id) (hks : ∀ k ∈ ks, k ∈ s.roots) :
    Good s (docSetNodes (Flags.goodWith b1 b2 b3) ks s) :=
  ⟨bump_inv (setRoots_core hi ks fun x hx => hi.1.roots x (hks x hx)), Ext.of_heap rfl⟩

theorem addKid_eq (n c : Id) (s : St) : addKid (Flags.goodWith b1 b2 b3) n c s =
    editedTo n ((abs s).kids n ++ [c]) s := rfl

theorem deleteKid_eq (n c : Id) (s : St) :
    deleteKid (Flags.goodWith b1 b2 b3) n c s = editedTo n (((abs s).kids n).erase c) s := rfl

theorem setKidsOp_eq (n : Id) (ks : List Id) (s : St) :
    setKidsOp (Flags.goodWith b1 b2 b3) n ks s = editedTo n ks s := rfl

theorem deleteKidsWithTag_eq (n : Id) (t : Str) (s : St) : deleteKidsWithTag (Flags.goodWith b1 b2 b3) n t s =
    if ((abs s).kids n).any (fun c => (abs s).tag c == t) then
      editedTo n (eraseLoopCopy (fun c => (abs s).tag c == t) ((abs s).kids n)) s
    else s := rfl

theorem fresh_kid_ok {s : St} {n : Nat} (hn : n < s.heap.length) (x : NodeRec) :
    ∀ c ∈ (abs (alloc x s)).kids n ++ [s.heap.length],
      c ∈ (abs (alloc x s)).kids n ∨ (n < c ∧ c < (alloc x s).heap.length) := by
  intro c hc
  rcases List.mem_append.mp hc with h | h
  · exact Or.inl h
  · have : c = s.heap.length := by simpa using h
    rw [this, alloc_length]
    exact Or.inr ⟨hn, Nat.lt_succ_self _⟩

theorem addFresh_good {s : St} (hi : Inv s) {n : Nat} (hn : n < s.heap.length) (x : NodeRec) (hx : x.kids = []) :
    Good s (addFresh (Flags.goodWith b1 b2 b3) n x s) := by
  have ex := alloc_ext s x hx
  unfold addFresh
  rw [addKid_eq]
  exact (kidsEdit_good (alloc_inv hi x hx) (ex.lt hn) (fresh_kid_ok hn x)).after ex

theorem deleteKid_good {s : St} (hi : Inv s) {n : Nat} (hn : n < s.heap.length) (c : Id) :
    Good s (deleteKid (Flags.goodWith b1 b2 b3) n c s) :=
  kidsEdit_good hi hn fun _ hy => Or.inl (List.mem_of_mem_erase hy)

theorem setKidsOp_good {s : St} (hi : Inv s) {n : Nat} (hn : n < s.heap.length) (ks : List Id)
    (hks : ∀ c ∈ ks, c ∈ (abs s).kids n) : Good s (setKidsOp (Flags.goodWith b1 b2 b3) n ks s) :=
  kidsEdit_good hi hn fun y hy => Or.inl (hks y hy)

theorem abs_deleteKidsWithTag (n : Id) (t : Str) (s : St) :
    abs (deleteKidsWithTag (Flags.goodWith b1 b2 b3) n t s) =
      ⟨setKids s.heap n (((abs s).kids n).filter (fun c => !((abs s).tag c == t))), s.roots⟩ := by
  rw [deleteKidsWithTag_eq]
  split
  · rw [abs_editedTo, eraseLoopCopy_eq_filter]
  · rename_i hany
    have : ((abs s).kids n).filter (fun c => !((abs s).tag c == t)) = (abs s).kids n := by
      apply List.filter_eq_self.mpr
      intro c hc
      cases h : (abs s).tag c == t with
      | false => rfl
      | true => exact absurd (List.any_eq_true.mpr ⟨c, hc, h⟩) hany
    rw [this, show (abs s).kids n = (Abs.mk s.heap s.roots).kids n from rfl, setKids_self]
    rfl

theorem specNWT_deleteKidsWithTag (s : St) {n : Nat} (hn : n < s.heap.length) (t : Str) :
    specNWT (abs (deleteKidsWithTag (Flags.goodWith b1 b2 b3) n t s)) n t = [] := by
  rw [abs_deleteKidsWithTag]
  unfold specNWT
  rw [kids_setKids_self hn, List.filter_filter]
  apply List.filter_eq_nil_iff.mpr
  intro c _
  rw [tag_setKids (r := s.roots)]
  show ¬ (((abs s).tag c == t && !((abs s).tag c == t)) = true)
  cases (abs s).tag c == t <;> simp

theorem deleteKidsWithTag_good {s : St} (hi : Inv s) {n : Nat} (hn : n < s.heap.length) (t : Str) :
    Good s (deleteKidsWithTag (Flags.goodWith b1 b2 b3) n t s) := by
  rw [deleteKidsWithTag_eq]
  split
  · exact kidsEdit_good hi hn fun y hy => Or.inl (List.mem_filter.mp (eraseLoopCopy_eq_filter _ _ ▸ hy)).1
  · exact ⟨hi, Ext.refl _⟩

theorem addFresh_length (n : Id) (x : NodeRec) (s : St) :
    (addFresh (Flags.goodWith b1 b2 b3) n x s).heap.length = s.heap.length + 1 :=
  (length_editedTo _ _ _).trans (alloc_length x s)

theorem addEventDate_good {s : St} (hi : Inv s) {i : Nat} (hin : i < s.heap.length) (t v : Str) :
    Good s (addEventDate (Flags.goodWith b1 b2 b3) i t v s) := by
  obtain ⟨hi1, a1, r1⟩ := nwt_sound hin t s hi rfl
  have g1 : Good s (nwt i t s).2 := ⟨hi1, Ext.of_eq a1⟩
  unfold addEventDate
  split
  · rename_i e he
    have r1' : (nwt i t s).1 = specNWT (abs s) i t := r1
    have hm : e ∈ specNWT (abs s) i t := r1' ▸ List.mem_of_head? he
    exact g1.trans (addFresh_good hi1 (g1.2.lt (specNWT_lt hi.1.awf hm)) ⟨tDATE, v, [], [], 0⟩ rfl)
  · refine g1.trans ((addFresh_good hi1 (g1.2.lt hin) _ rfl).andThen fun hi2 _ => addFresh_good hi2 ?_ _ rfl)
    -- the event node just added has the old heap length as its id
    rw [addFresh_length]; exact Nat.lt_succ_self _

/-- `SetSex`: the overwritten value belongs to a SEX node, which no family view reads -/
theorem setSex_good {s : St} (hi : Inv s) {i : Nat} (hin : i < s.heap.length) (v : Str) :
    Good s (setSex (Flags.goodWith b1 b2 b3) i v s) := by
  obtain ⟨hi1, a1, r1⟩ := nwt_sound hin tSEX s hi rfl
  have g1 : Good s (nwt i tSEX s).2 := ⟨hi1, Ext.of_eq a1⟩
  unfold setSex
  split
  · rename_i x hx
    have r1' : (nwt i tSEX s).1 = specNWT (abs s) i tSEX := r1
    have hm : x ∈ specNWT (abs s) i tSEX := r1' ▸ List.mem_of_head? hx
    have htag : (abs (nwt i tSEX s).2).tag x = tSEX := a1 ▸ specNWT_tag hm
    refine g1.trans ⟨setValue_inv hi1 ?_ v, setValue_ext _ x v⟩
    rintro (h | h | h) <;> rw [htag] at h <;> exact absurd h (by decide)
  · exact g1.trans (addFresh_good hi1 (g1.2.lt hin) ⟨tSEX, v, [], [], 0⟩ rfl)

theorem rewriteSpouseValue_core {s : St} (hv : InvV s) (h : Option Id) (v : Str) :
    InvV (rewriteSpouseValue h v s) ∧ Ext (abs s) (abs (rewriteSpouseValue h v s)) := by
  cases h with
  | none => exact ⟨hv, Ext.refl _⟩
  | some h => exact ⟨setValue_core hv h v, setValue_ext s h v⟩

theorem dropSpouseCache_good {s : St} (hi : Inv s) (fl : Flags) (isHusb : Bool) (f : Id) :
    Good s (dropSpouseCache fl isHusb f s) := by
  unfold dropSpouseCache
  cases isHusb
  · simp only [Bool.false_eq_true, if_false]
    split
    · exact ⟨inv_memo hi rfl rfl (hW := fun _ h => Or.inl (mem_dropKey.mp h).1), Ext.refl _⟩
    · exact ⟨hi, Ext.refl _⟩
  · simp only [if_true]
    split
    · exact ⟨inv_memo hi rfl rfl (hH := fun _ h => Or.inl (mem_dropKey.mp h).1), Ext.refl _⟩
    · exact ⟨hi, Ext.refl _⟩

/-- the value of the old spouse node may have been rewritten just before (so only `InvV` is known): the
    edit of the family record makes every individual recompute -/
theorem appendSpouseNode_good {s : St} (hv : InvV s) (isHusb : Bool) {f : Nat}
    (hf : (abs s).tag f = tFAM) (p : Str) :
    Good s (appendSpouseNode (Flags.goodWith b1 b2 b3) isHusb f p s) := by
  have ex := alloc_ext s ⟨spouseTag isHusb, ident p, [], [], f⟩ rfl
  unfold appendSpouseNode
  rw [addKid_eq]
  have g := kidsEdit_fam_good (alloc_core hv _ rfl) (ex.tagEq hf tFAM_ne) (fresh_kid_ok (tag_lt hf tFAM_ne) _)
  exact (g.trans (dropSpouseCache_good g.1 _ _ _)).after ex

theorem setSpousePointer_good {s : St} (hi : Inv s) (isHusb : Bool) {f : Nat}
    (hf : (abs s).tag f = tFAM) (p : Str) : Good s (setSpousePointer (Flags.goodWith b1 b2 b3) isHusb f p s) := by
  obtain ⟨hi1, a1, _⟩ := spouseRead_sound isHusb hf s hi rfl
  unfold setSpousePointer
  obtain ⟨hv2, ex2⟩ := rewriteSpouseValue_core hi1.v (spouseRead isHusb f s).1 (ident p)
  have ex2' := (Ext.of_eq a1).trans ex2
  exact (appendSpouseNode_good hv2 isHusb (ex2'.tagEq hf tFAM_ne) p).after ex2'

theorem setSpouse_good {s : St} (hi : Inv s) (isHusb : Bool) {f i : Nat}
    (hf : (abs s).tag f = tFAM) (hin : i < s.heap.length) : Good s (setSpouse (Flags.goodWith b1 b2 b3) isHusb f i s) := by
  unfold setSpouse
  exact (addFresh_good hi hin _ rfl).andThen fun hi1 ex => setSpousePointer_good hi1 isHusb (ex.tagEq hf tFAM_ne) _

theorem addChild_good {s : St} (hi : Inv s) {f i : Nat}
    (hf : (abs s).tag f = tFAM) (hin : i < s.heap.length) : Good s (addChild (Flags.goodWith b1 b2 b3) f i s) := by
  unfold addChild
  exact (addFresh_good hi hin _ rfl).andThen fun hi1 ex => addFresh_good hi1 (ex.lt (tag_lt hf tFAM_ne)) _ rfl

theorem unlinkSpouse_good {s : St} (hi : Inv s) (f : Id) {j : Nat} (hj : j < s.heap.length) :
    Good s (unlinkSpouse (Flags.goodWith b1 b2 b3) f j s) := by
  unfold unlinkSpouse
  split
  · exact kidsEdit_good hi hj fun y hy => Or.inl (eraseLoopInPlace_subset _ _ y hy)
  · exact ⟨hi, Ext.refl _⟩

/-- caching "no husband" is right once no HUSB child is left, and likewise for the wife -/
theorem cacheNoSpouse_good {s : St} (hi : Inv s) (isHusb : Bool) {f : Nat} (hf : f < s.heap.length)
    (hn : specNWT (abs s) f (spouseTag isHusb) = []) : Good s (cacheNoSpouse isHusb f s) := by
  have hnone : none = (specNWT (abs s) f (spouseTag isHusb)).head? := by rw [hn]; rfl
  unfold cacheNoSpouse
  cases isHusb
  · simp only [Bool.false_eq_true, if_false]
    exact ⟨inv_memo hi rfl rfl (hW := mem_cons_new (fun _ h => (mem_dropKey.mp h).1) ⟨hf, hnone⟩), Ext.refl _⟩
  · simp only [if_true]
    exact ⟨inv_memo hi rfl rfl (hH := mem_cons_new (fun _ h => (mem_dropKey.mp h).1) ⟨hf, hnone⟩), Ext.refl _⟩

theorem clearSpouseOf_good {s : St} (hi : Inv s) (isHusb : Bool) {f j : Nat}
    (hf : (abs s).tag f = tFAM) (hj : j < s.heap.length) : Good s (clearSpouseOf (Flags.goodWith b1 b2 b3) isHusb f j s) := by
  unfold clearSpouseOf
  exact (unlinkSpouse_good hi f hj).andThen fun hiA exA =>
    have hltA := tag_lt (exA.tagEq hf tFAM_ne) tFAM_ne
    (deleteKidsWithTag_good hiA hltA _).andThen fun hiB exB =>
      cacheNoSpouse_good hiB isHusb (exB.lt hltA) (specNWT_deleteKidsWithTag _ hltA _)

theorem clearSpouse_good {s : St} (hi : Inv s) (isHusb : Bool) {f : Nat}
    (hf : (abs s).tag f = tFAM) : Good s (clearSpouse (Flags.goodWith b1 b2 b3) isHusb f s) := by
  obtain ⟨hi1, a1, r1⟩ := spouseIndividual_sound isHusb hf s hi rfl
  have g1 : Good s (spouseIndividual isHusb f s).2 := ⟨hi1, Ext.of_eq a1⟩
  unfold clearSpouse
  split
  · exact g1
  · rename_i j hj
    have hlt : j < (spouseIndividual isHusb f s).2.heap.length :=
      g1.2.lt (specSpouseIndividual_lt hi.1.awf (r1.symm.trans hj))
    exact g1.trans (clearSpouseOf_good hi1 isHusb (g1.2.tagEq hf tFAM_ne) hlt)

theorem setOrClear_good {s : St} (hi : Inv s) (isHusb : Bool) {f : Nat} (i : Option Id)
    (hf : (abs s).tag f = tFAM) (hin : ∀ x, i = some x → x < s.heap.length) :
    Good s (setOrClear (Flags.goodWith b1 b2 b3) isHusb f i s) := by
  unfold setOrClear
  cases i with
  | none => exact clearSpouse_good hi isHusb hf
  | some x => exact setSpouse_good hi isHusb hf (hin x rfl)

theorem plainTag_ne_INDI {t : Str} (h : plainTag t = true) : t ≠ tINDI := by
  intro e; subst e; revert h; decide

theorem isIndi_lt {s : St} (wf : WF s) {i : Id} (h : isIndi (abs s) i = true) : i < s.heap.length :=
  wf.roots i (isIndi_iff.mp h).1

theorem resetNodeCache_inv {s : St} (hi : Inv s) : Inv (resetNodeCache s) :=
  inv_memo hi rfl rfl (hnc := fun _ h => absurd h List.not_mem_nil)

theorem exec_read {s : St} (hi : Inv s) {op : Op} (hok : op.ok (abs s) = true) (hr : op.isRead = true) :
    Inv (exec (Flags.goodWith b1 b2 b3) s op).1 ∧ abs (exec (Flags.goodWith b1 b2 b3) s op).1 = abs s := by
  cases op with
  | read v =>
    have h := runView_sound hi.1.awf hok s hi rfl
    exact ⟨h.1, h.2.1⟩
  | warnings => exact warningsRead_pure s hi trivial
  | string | gedcomString n | inert => exact ⟨hi, rfl⟩
  | foreign => exact ⟨resetNodeCache_inv hi, rfl⟩
  | _ => cases hr

theorem exec_good {s : St} (hi : Inv s) (op : Op) (hok : op.ok (abs s) = true) :
    Good s (exec (Flags.goodWith b1 b2 b3) s op).1 := by
  by_cases hr : op.isRead = true
  · exact ⟨(exec_read hi hok hr).1, Ext.of_eq (exec_read hi hok hr).2⟩
  have docAdd : ∀ x : NodeRec, x.kids = [] → Good s (docAppend (Flags.goodWith b1 b2 b3) x s) := fun x hx =>
    ⟨docAppend_inv hi x hx, abs_docAppend _ x s ▸ snoc_ext s x hx _⟩
  cases op <;> simp only [exec]
  case addNode n t v p =>
    simp only [Op.ok, Bool.and_eq_true, decide_eq_true_eq] at hok
    exact addFresh_good hi hok.1 _ rfl
  case deleteNode n c =>
    simp only [Op.ok, decide_eq_true_eq] at hok
    exact deleteKid_good hi hok c
  case deleteNodesWithTag n t =>
    simp only [Op.ok, decide_eq_true_eq] at hok
    exact deleteKidsWithTag_good hi hok t
  case setNodes n ks =>
    simp only [Op.ok, Bool.and_eq_true, decide_eq_true_eq, List.all_eq_true] at hok
    exact setKidsOp_good hi hok.1 ks fun c hc => by simpa using hok.2 c hc
  case docAddNode t v p => exact docAdd _ rfl
  case addIndividual p =>
    rw [addIndividual_eq]
    exact docAdd _ rfl
  case addFamily p => exact addFamily_good hi p
  case addFamilyHW p h w =>
    -- the family record gets the old heap length as its id; husband and wife are then set on it
    simp only [Op.ok, Bool.and_eq_true] at hok
    have hf1 : (abs (addFamily (Flags.goodWith b1 b2 b3) p s)).tag s.heap.length = tFAM := by
      rw [abs_addFamily]
      exact tag_append_new
    refine (addFamily_good hi p).andThen fun hi1 ex1 =>
      (setOrClear_good hi1 true h hf1 fun x hx => ?_).andThen fun hi2 ex2 =>
        setOrClear_good hi2 false w (ex2.tagEq hf1 tFAM_ne) fun x hx => ?_
    · subst hx
      exact ex1.lt (isIndi_lt hi.1 hok.1.2)
    · subst hx
      exact (ex1.trans ex2).lt (isIndi_lt hi.1 hok.2)
  case docDelete r => exact docDelete_good hi r
  case docSetNodes ks =>
    simp only [Op.ok, List.all_eq_true] at hok
    exact docSetNodes_good hi ks fun k hk => by simpa using hok k hk
  case setHusband f i | setWife f i =>
    simp only [Op.ok, Bool.and_eq_true] at hok
    refine setOrClear_good hi _ i (isFam_iff.mp hok.1) fun x hx => ?_
    subst hx
    exact isIndi_lt hi.1 hok.2
  case setHusbandPointer f p | setWifePointer f p =>
    exact setSpousePointer_good hi _ (isFam_iff.mp hok) p
  case addChild f i =>
    simp only [Op.ok, Bool.and_eq_true] at hok
    exact addChild_good hi (isFam_iff.mp hok.1) (isIndi_lt hi.1 hok.2)
  case addEventDate i t v =>
    simp only [Op.ok, Bool.and_eq_true] at hok
    exact addEventDate_good hi (isIndi_lt hi.1 hok.1) t v
  case setSex i v => exact setSex_good hi (isIndi_lt hi.1 hok) v
  case read v | warnings | string | gedcomString n | foreign | inert => exact absurd rfl hr

theorem step_ok {fl : Flags} {s : St} {op : Op} (h : op.ok (abs s) = true) : step fl s op = exec fl s op :=
  if_pos h

theorem step_bad {fl : Flags} {s : St} {op : Op} (h : ¬ op.ok (abs s) = true) : step fl s op = (s, .bad) :=
  if_neg h

theorem step_keeps (fl : Flags) (P : St → Prop) {s : St} (op : Op) (h : P s)
    (hexec : op.ok (abs s) = true → P (exec fl s op).1) : P (step fl s op).1 :=
  if hok : op.ok (abs s) = true then step_ok hok ▸ hexec hok else step_bad hok ▸ h

theorem run_keeps (fl : Flags) (P : St → Prop) (hstep : ∀ s op, P s → P (step fl s op).1) :
    ∀ (ops : List Op) (s : St), P s → P (run fl s ops).1
  | [], _, h => h
  | o :: os, s, h => run_keeps fl P hstep os _ (hstep s o h)

end Gedcom.Cache

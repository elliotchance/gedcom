/-
  The converse direction.  Whatever the two patterns match has the documented shape
  (keyword? ␠? day? month-word? year), for every byte string — in particular it ends in a digit
  (`(\d+)$`), so a value without a final number (missing year, trailing words) is invalid.
-/
import Gedcom.Lemmas.DateGrammar
namespace Gedcom

/-! ## what `\w+` under `(?i)` can match -/

/-- ASCII word bytes and the two runes U+017F (C5 BF) and U+212A (E2 84 AA) -/
inductive WordRunes : Str → Prop
  | nil : WordRunes []
  | ascii {a : UInt8} {w : Str} : isWordB a = true → WordRunes w → WordRunes (a :: w)
  | longS {w : Str} : WordRunes w → WordRunes (0xC5 :: 0xBF :: w)
  | kelvin {w : Str} : WordRunes w → WordRunes (0xE2 :: 0x84 :: 0xAA :: w)

theorem spanWordAux_eq (k : Nat) (s : Str) : (spanWordAux k s).1 ++ (spanWordAux k s).2 = s := by
  fun_induction spanWordAux k s <;> simp +zetaDelta [*]

/-- the span copies the `k` continuation bytes still owed and goes on with word runes -/
theorem spanWordAux_runes (k : Nat) (s : Str) :
    ∃ w, (spanWordAux k s).1 = s.take k ++ w ∧ WordRunes w := by
  fun_induction spanWordAux k s with
  | case1 k => exact ⟨[], by simp, .nil⟩
  | case2 k a r p ih =>
    obtain ⟨w, e, hw⟩ := ih
    exact ⟨w, by simp [p, e], hw⟩
  | case3 a r hw p ih =>
    obtain ⟨w, e, hw'⟩ := ih
    exact ⟨a :: w, by simpa [p] using e, .ascii hw hw'⟩
  | case4 a r hw hc p ih =>
    obtain ⟨w, e, hw'⟩ := ih
    simp only [Bool.and_eq_true, beq_iff_eq] at hc
    obtain ⟨rfl, hh⟩ := hc
    cases r with
    | nil => simp at hh
    | cons b r' =>
      simp only [List.head?_cons, Option.some.injEq] at hh
      subst hh
      exact ⟨_, by simpa [p] using e, .longS hw'⟩
  | case5 a r hw hc hk p ih =>
    obtain ⟨w, e, hw'⟩ := ih
    simp only [Bool.and_eq_true, beq_iff_eq] at hk
    obtain ⟨rfl, hh⟩ := hk
    rcases r with _ | ⟨b, _ | ⟨c, r'⟩⟩
    · simp at hh
    · simp at hh
    · simp only [List.take_succ_cons, List.take_zero, List.cons.injEq, and_true] at hh
      obtain ⟨rfl, rfl⟩ := hh
      exact ⟨_, by simpa [p] using e, .kelvin hw'⟩
  | case6 a r hw hc hk => exact ⟨[], by simp, .nil⟩

theorem spanWord_runes (s : Str) : WordRunes (spanWord s).1 := by
  obtain ⟨w, e, hw⟩ := spanWordAux_runes 0 s
  rw [spanWord, e]; exact hw

theorem WordRunes.no32 {w : Str} (h : WordRunes w) : ∀ b ∈ w, b ≠ 32 := by
  induction h with
  | nil => exact fun _ hb => nomatch hb
  | ascii hw _ ih => exact List.forall_mem_cons.mpr ⟨ne32_of_solid (solidB_of_word hw), ih⟩
  | longS _ ih =>
    exact List.forall_mem_cons.mpr ⟨by decide, List.forall_mem_cons.mpr ⟨by decide, ih⟩⟩
  | kelvin _ ih =>
    exact List.forall_mem_cons.mpr ⟨by decide, List.forall_mem_cons.mpr ⟨by decide,
      List.forall_mem_cons.mpr ⟨by decide, ih⟩⟩⟩

theorem WordRunes.lower {w : Str} (h : WordRunes w) : WordRunes (lowerStr w) := by
  induction h with
  | nil => exact .nil
  | ascii hw _ ih => rw [lowerStr_cons]; exact .ascii (by rw [isWordB_toLowerB]; exact hw) ih
  | longS _ ih =>
    have : ∀ w, lowerStr (0xC5 :: 0xBF :: w) = 0xC5 :: 0xBF :: lowerStr w := by
      intro w; simp only [lowerStr, List.map_cons]; congr 1
    rw [this]; exact .longS ih
  | kelvin _ ih =>
    have : ∀ w, lowerStr (0xE2 :: 0x84 :: 0xAA :: w) = 0xE2 :: 0x84 :: 0xAA :: lowerStr w := by
      intro w; simp only [lowerStr, List.map_cons]; congr 1
    rw [this]; exact .kelvin ih

theorem WordRunes.dropHead {w : Str} (h : WordRunes w) (hne : w ≠ []) (rest : Str) :
    dropSpaceRune (w ++ rest) = none := by
  cases h with
  | nil => exact absurd rfl hne
  | @ascii a w' hw _ =>
    exact dropSpaceRune_solid _ (solidB_of_word hw)
  | longS _ => exact dropSpaceRune_none (by decide) _
  | kelvin _ => rfl

theorem WordRunes.last {w : Str} (h : WordRunes w) : ∀ c, w.getLast? = some c → spaceEnd c = false := by
  induction h with
  | nil => intro c hc; cases hc
  | @ascii a w hw _ ih =>
    cases w with
    | nil => intro c hc; cases hc; exact solid_spaceEnd (solidB_of_word hw)
    | cons b w' => exact ih
  | @longS w _ ih =>
    cases w with
    | nil => intro c hc; cases hc; decide
    | cons b w' => exact ih
  | @kelvin w _ ih =>
    cases w with
    | nil => intro c hc; cases hc; decide
    | cons b w' => exact ih

theorem cleanSpace_runes {X : Str} (h : WordRunes X) (hne : X ≠ []) : cleanSpace (X ++ [32]) = X := by
  unfold cleanSpace
  rw [collapse_append_no32 [32] h.no32]
  exact trimSpace_spaces (h.dropHead hne) (List.dropLast_concat_getLast hne).symm
    (dropSpaceRuneRev_none (h.last _ (List.getLast?_eq_some_getLast hne))) 0 1

/-! ## the shape of a match of the single-date pattern -/

/-- the three trailing groups: `digits␠` or nothing, `word␠` or nothing, digits -/
structure GroupsOK (day month year : Str) : Prop where
  day : day = [] ∨ ∃ d, isDigits d = true ∧ day = d ++ [32]
  month : month = [] ∨ ∃ w, w ≠ [] ∧ WordRunes w ∧ month = w ++ [32]
  year : isDigits year = true

theorem matchMonthYear_shape {day r d m y : Str} :
    matchMonthYear day r = some (d, m, y) →
    d = day ∧ r = m ++ y ∧ (m = [] ∨ ∃ w, w ≠ [] ∧ WordRunes w ∧ m = w ++ [32]) ∧ isDigits y = true := by
  fun_cases matchMonthYear day r with
  | case1 p r4 hp hc =>
    rintro ⟨⟩
    simp only [Bool.and_eq_true, Bool.not_eq_true'] at hc
    have hne : p.1 ≠ [] := by
      intro e; rw [e] at hc; simp at hc
    refine ⟨rfl, ?_, Or.inr ⟨_, hne, spanWord_runes r, rfl⟩, hc.2⟩
    simp only [List.append_assoc, List.singleton_append]
    rw [← hp]; exact (spanWordAux_eq 0 r).symm
  | case2 p r4 hp hc hd | case4 p hd _ => rintro ⟨⟩; exact ⟨rfl, rfl, Or.inl rfl, hd⟩
  | case3 | case5 => intro h; cases h

theorem isDigits_takeWhile {s : Str} (h : (s.takeWhile isDigitB).isEmpty = false) :
    isDigits (s.takeWhile isDigitB) = true := by
  rw [isDigits_iff]
  refine ⟨fun e => ?_, List.all_eq_true.mp List.all_takeWhile⟩
  rw [e] at h; cases h

theorem matchTail_shape {s d m y : Str} :
    matchTail s = some (d, m, y) → s = d ++ m ++ y ∧ GroupsOK d m y := by
  have nod : matchMonthYear [] s = some (d, m, y) → s = d ++ m ++ y ∧ GroupsOK d m y := by
    intro hy
    obtain ⟨h1, h2, h3, h4⟩ := matchMonthYear_shape hy
    exact ⟨by rw [h1]; simpa using h2, ⟨Or.inl h1, h3, h4⟩⟩
  fun_cases matchTail s with
  | case1 d' r2 hd hne x hy =>
    rintro ⟨⟩
    simp only [Bool.not_eq_true'] at hne
    obtain ⟨h1, h2, h3, h4⟩ := matchMonthYear_shape hy
    refine ⟨?_, ⟨Or.inr ⟨_, isDigits_takeWhile hne, h1⟩, h3, h4⟩⟩
    rw [h1, List.append_assoc, ← h2, List.append_assoc, List.singleton_append, ← hd]
    exact (List.takeWhile_append_dropWhile (p := isDigitB) (l := s)).symm
  | case2 | case3 | case4 => exact nod

theorem matchAfterKw_shape {kw r : Str} {p : DateParts} :
    matchAfterKw kw r = some p →
    p.kw = kw ∧ GroupsOK p.day p.month p.year ∧
    ∃ sep, (sep = [] ∨ sep = [32]) ∧ r = sep ++ p.day ++ p.month ++ p.year := by
  have key : ∀ t, (Option.map (fun x : Str × Str × Str => (⟨kw, x.1, x.2.1, x.2.2⟩ : DateParts))
      (matchTail t)) = some p →
      p.kw = kw ∧ GroupsOK p.day p.month p.year ∧ t = p.day ++ p.month ++ p.year := by
    intro t ht
    cases hm : matchTail t with
    | none => rw [hm] at ht; simp at ht
    | some x =>
      obtain ⟨d, m, y⟩ := x
      rw [hm] at ht; simp at ht; subst ht
      obtain ⟨h1, h2⟩ := matchTail_shape hm
      exact ⟨rfl, h2, h1⟩
  fun_cases matchAfterKw kw r with
  | case1 tail t y hy =>
    rintro ⟨⟩
    obtain ⟨h1, h2, h3⟩ := key t hy
    exact ⟨h1, h2, [32], Or.inr rfl, by rw [h3]; simp⟩
  | case2 tail t _ | case3 r _ =>
    intro h
    obtain ⟨h1, h2, h3⟩ := key _ h
    exact ⟨h1, h2, [], Or.inl rfl, by simpa using h3⟩

/-- what `dateRegexp` matches: `keyword? ␠? (digits␠)? (word␠)? digits`, the keyword being a listed
    keyword in some letter case -/
structure DateShape (s : Str) (p : DateParts) : Prop where
  kw : p.kw = [] ∨ ∃ k ∈ dateKeywords, lowerStr p.kw = lowerStr k
  groups : GroupsOK p.day p.month p.year
  split : ∃ sep, (sep = [] ∨ sep = [32]) ∧ s = p.kw ++ sep ++ p.day ++ p.month ++ p.year

theorem matchDateKw_shape {ks : List Str} {s : Str} {p : DateParts} (h : matchDateKw ks s = some p) :
    (p.kw = [] ∨ ∃ k ∈ ks, lowerStr p.kw = lowerStr k) ∧ GroupsOK p.day p.month p.year ∧
    ∃ sep, (sep = [] ∨ sep = [32]) ∧ s = p.kw ++ sep ++ p.day ++ p.month ++ p.year := by
  fun_induction matchDateKw ks s with
  | case1 s =>
    obtain ⟨h1, h2, sep, h3, h4⟩ := matchAfterKw_shape h
    exact ⟨Or.inl h1, h2, sep, h3, by rw [h1]; simpa using h4⟩
  | case2 k ks s hp q hq =>
    cases h
    obtain ⟨h1, h2, sep, h3, h4⟩ := matchAfterKw_shape hq
    refine ⟨Or.inr ⟨k, by simp, by rw [h1]; exact hasPrefixCI_take hp⟩, h2, sep, h3, ?_⟩
    rw [h1]
    have := List.take_append_drop k.length s
    rw [h4] at this
    simp only [List.append_assoc] at this ⊢
    exact this.symm
  -- a later alternative matched: its keyword is in the longer list as well
  | case3 k ks s _ _ ih | case4 k ks s _ ih =>
    exact (ih h).imp (Or.imp_right (Exists.imp fun _ hk => ⟨List.mem_cons_of_mem k hk.1, hk.2⟩)) id

theorem matchDate_shape {s : Str} {p : DateParts} (h : matchDate s = some p) : DateShape s p := by
  obtain ⟨h1, h2, h3⟩ := matchDateKw_shape h
  exact ⟨h1, h2, h3⟩

/-! ## the shape of a match of the range pattern -/

theorem sepWordAt_shape {t w r : Str} (h : sepWordAt t = some (w, r)) :
    t = w ++ 32 :: r ∧ ∃ aw ∈ andKeywords, lowerStr w = lowerStr aw := by
  rw [sepWordAt_eq_kwScan] at h
  obtain ⟨k, hk, r', e, hl, hg⟩ := kwScan_some h
  injection hg with hg
  injection hg with h1 h2
  subst h1 h2
  exact ⟨e, k, hk, hl⟩

theorem findSep_shape {acc s l w r : Str} (h : findSep acc s = some (l, w, r)) :
    acc.reverse ++ s = l ++ 32 :: (w ++ 32 :: r) ∧
    (∃ aw ∈ andKeywords, lowerStr w = lowerStr aw) ∧ l ≠ [] ∧ r ≠ [] := by
  fun_induction findSep acc s with
  | case1 => cases h
  | case2 acc c cs x hx ih =>
    obtain ⟨h1, h2⟩ := ih (h ▸ hx)
    exact ⟨by simpa using h1, h2⟩
  | case3 acc c cs hx hc w' r' hs hr =>
    simp only [Bool.and_eq_true, beq_iff_eq, Bool.not_eq_true'] at hc
    cases h
    obtain ⟨ht, haw⟩ := sepWordAt_shape hs
    refine ⟨by rw [hc.1, ht], haw, ?_, ?_⟩
    · intro e; have := hc.2; rw [List.reverse_eq_nil_iff.mp e] at this; simp at this
    · intro e; rw [e] at hr; simp at hr
  | case4 => cases h
  | case5 => cases h
  | case6 => cases h

/-- what `dateRangeRegexp` matches: `between-word ␠ X ␠ and-word ␠ Y` with non-empty `X`, `Y` -/
theorem matchRange_shape {s bw x aw y : Str} (h : matchRange s = some (bw, x, aw, y)) :
    s = bw ++ 32 :: (x ++ 32 :: (aw ++ 32 :: y)) ∧
    (∃ bk ∈ betweenKeywords, lowerStr bw = lowerStr bk) ∧
    (∃ ak ∈ andKeywords, lowerStr aw = lowerStr ak) ∧ x ≠ [] ∧ y ≠ [] := by
  rw [matchRange_eq_kwScan] at h
  split at h
  · cases h
  · obtain ⟨k, hk, rest, e, hl, hg⟩ := kwScan_some h
    cases hf : findSep [] rest with
    | none => rw [hf] at hg; cases hg
    | some y =>
      rw [hf] at hg
      injection hg with hg
      obtain ⟨l, w, r⟩ := y
      obtain ⟨e', haw, hl', hr'⟩ := findSep_shape hf
      cases hg
      refine ⟨?_, ⟨k, hk, hl⟩, haw, hl', hr'⟩
      rw [← e']
      exact e

/-! ## a match ends in a digit -/

def endsWithDigit (s : Str) : Bool :=
  match s.getLast? with
  | some b => isDigitB b
  | none => false

theorem endsWithDigit_append (pre : Str) {suf : Str} (h : suf ≠ []) :
    endsWithDigit (pre ++ suf) = endsWithDigit suf := by
  unfold endsWithDigit
  rw [List.getLast?_append, List.getLast?_eq_some_getLast h]
  rfl

theorem endsWithDigit_of_isDigits {s : Str} (h : isDigits s = true) : endsWithDigit s = true := by
  have hne := isDigits_ne_nil h
  unfold endsWithDigit
  rw [List.getLast?_eq_some_getLast hne]
  exact isDigits_all h _ (List.getLast_mem hne)

theorem matchDate_ends {s : Str} {p : DateParts} (h : matchDate s = some p) :
    endsWithDigit s = true := by
  obtain ⟨_, hg, sep, _, hs⟩ := matchDate_shape h
  rw [hs, endsWithDigit_append _ (isDigits_ne_nil hg.year)]
  exact endsWithDigit_of_isDigits hg.year

theorem parseDateParts_no_digit {s : Str} (h : endsWithDigit s = false) :
    (parseDateParts s).isZero = true := by
  cases hm : matchDate s with
  | none => rw [parseDateParts_of_no_match hm]; rfl
  | some p => rw [matchDate_ends hm] at h; cases h

/-- the second date of a range match is a non-empty suffix of the value -/
theorem parseDateRange_no_digit {s : Str} (h : endsWithDigit (cleanSpace s) = false) :
    (parseDateRange s).isValid = false := by
  cases hx : matchRange (cleanSpace s) with
  | some x =>
    obtain ⟨bw, x, aw, y⟩ := x
    obtain ⟨e, _, _, _, hne⟩ := matchRange_shape hx
    have e' : cleanSpace s = (bw ++ 32 :: (x ++ 32 :: (aw ++ [32]))) ++ y := by
      rw [e]; simp
    rw [e', endsWithDigit_append _ hne] at h
    rw [parseDateRange_of_range hx]
    simp [DateRange.isValid, parseDateParts_no_digit h]
  | none =>
    rw [parseDateRange_of_single hx]
    simp [DateRange.isValid, parseDateParts_no_digit h]

end Gedcom

/-
  Document states (Gedcom/Model/CopyDoc.lean).  `AddFamily` keeps the pointer index and the families
  cache coherent.  `Effect`: what `DeepCopy` and `Filter` with a tag filter do to the allocation
  counter, the destination document and their result; both are a walk that builds the result from
  new objects, followed by `AddFamily` calls, of which `Filter` makes at most one.
-/
import Gedcom.Lemmas.CopyDoc
namespace Gedcom

theorem addFamilies_spec (d : DocSt) (nx : Nat) (ps : List Str) :
    (d.addFamilies nx ps).1.nodes = d.nodes ++ (newFams nx ps).1 ∧
    (d.addFamilies nx ps).2 = (newFams nx ps).2 := by
  induction ps generalizing d nx with
  | nil => simp [DocSt.addFamilies, newFams]
  | cons p ps ih =>
    obtain ⟨h1, h2⟩ := ih (d.addFamily nx p) (nx + 1)
    simp only [DocSt.addFamilies, newFams]
    refine ⟨?_, h2⟩
    rw [h1]
    simp [DocSt.addFamily, DocSt.addNode]

theorem lookup_append_one (l : List INode) (i : Nat) (t v p : Str) (ks : List INode) (q : Str) :
    Doc.lookup (l ++ [.mk i t v p ks]) q = if p == q then some i else Doc.lookup l q := by
  unfold Doc.lookup
  simp only [List.reverse_append, List.reverse_cons, List.reverse_nil, List.nil_append,
    List.cons_append, List.find?_cons, INode.ptr]
  cases h : p == q <;> simp [INode.id]

theorem addFamily_index (d : DocSt) (id : Nat) (p : Str) :
    (d.addFamily id p).index = if p.isEmpty then d.index else (p, id) :: d.index := rfl

theorem addFamily_nodes (d : DocSt) (id : Nat) (p : Str) :
    (d.addFamily id p).nodes = d.nodes ++ [.mk id tagFAM [] p []] := rfl

theorem addFamily_coherent (d : DocSt) (id : Nat) (p : Str) (h : d.coherent) :
    (d.addFamily id p).coherent := by
  constructor
  · intro q hq
    unfold DocSt.nodeByPointer
    rw [addFamily_index, addFamily_nodes, lookup_append_one]
    have hc := h.1 q hq
    simp only [DocSt.nodeByPointer] at hc
    split
    · rename_i hp
      have : p = [] := List.isEmpty_iff.mp hp
      subst this
      simp only [List.nil_beq_eq, List.isEmpty_eq_false_iff.mpr hq, Bool.false_eq_true, if_false]
      exact hc
    · cases hpq : p == q
      · simpa [List.find?_cons, hpq] using hc
      · simp [hpq]
  · intro l hl
    simp only [DocSt.addFamily, DocSt.addNode, DocSt.families, INode.tag] at hl
    simp only [beq_self_eq_true, if_true] at hl
    injection hl with hl
    rw [← hl]
    rfl

theorem addFamilies_coherent (d : DocSt) (nx : Nat) (ps : List Str) (h : d.coherent) :
    (d.addFamilies nx ps).1.coherent := by
  induction ps generalizing d nx with
  | nil => exact h
  | cons p ps ih => exact ih _ _ (addFamily_coherent d nx p h)

/-- `res` has the value of `t` without what `keep` rejects and is built from objects `next ≤ id <
    res.next`; `d'` is `d` with one new empty FAM record from the same range per `AddFamily` call -/
structure Effect (keep : Str → Bool) (t : INode) (next : Nat) (d d' : DocSt) (res : CopyDocResult) :
    Prop where
  value : pruneNode keep t.erase = some res.copy.erase
  fresh : ∀ i ∈ res.copy.ids, next ≤ i ∧ i < res.next
  writes : ∀ i ∈ res.writes, next ≤ i ∧ i < res.next
  doc : res.doc = d'.nodes
  added : ∃ added, d'.nodes = d.nodes ++ added ∧ added.length = res.famAdds.length ∧
    ∀ x ∈ added, x.tag = tagFAM ∧ x.value = [] ∧ x.kids = [] ∧ next ≤ x.id ∧ x.id < res.next ∧
      x.id ∉ res.copy.ids
  coherent : d.coherent → d'.coherent
  next_lt : next < res.next

/-- the walk built `c` from the objects `next ≤ id < nx`; the `AddFamily` calls take the ids from
    `nx` -/
theorem Effect.of_walk {keep : Str → Bool} {t c : INode} {next nx : Nat} {wr : List Nat}
    (hv : pruneNode keep t.erase = some c.erase) (hlt : next < nx)
    (hi : ∀ i ∈ c.ids, next ≤ i ∧ i < nx) (hw : ∀ i ∈ wr, next ≤ i ∧ i < nx) (d : DocSt)
    (adds : List Str) :
    Effect keep t next d (d.addFamilies nx adds).1
      ⟨c, (d.addFamilies nx adds).1.nodes, (d.addFamilies nx adds).2, wr, adds⟩ := by
  obtain ⟨a1, a2⟩ := addFamilies_spec d nx adds
  obtain ⟨f1, f2, _, f4⟩ := newFams_spec nx adds
  rw [f1] at a2
  refine ⟨hv, ?_, ?_, rfl, ⟨_, a1, by rw [← List.length_map (f := (·.ptr)), f2], ?_⟩,
    addFamilies_coherent d nx adds, by simp only [a2]; omega⟩
  · intro i hi'; have := hi i hi'; simp only [a2]; omega
  · intro i hi'; have := hw i hi'; simp only [a2]; omega
  · intro x hx
    obtain ⟨p1, p2, p3, p4, p5⟩ := f4 x hx
    exact ⟨p1, p2, p3, by omega, by simp only [a2]; exact p5, fun hm => by have := hi _ hm; omega⟩

theorem Effect.of_deepCopy {ctx : Option (Nat × Str)} {next nx : Nat} {t c : INode} {wr : List Nat}
    {adds : List Str} (h : deepCopyIn ctx next t = .ok c nx wr adds) (d : DocSt) :
    Effect (fun _ => true) t next d (d.addFamilies nx adds).1
      ⟨c, (d.addFamilies nx adds).1.nodes, (d.addFamilies nx adds).2, wr, adds⟩ :=
  let ⟨hv, hlt, i2, i3, _⟩ := deepCopyIn_ok h
  .of_walk (by rw [hv]; exact pruneNode_all _) hlt i2 i3 d adds

theorem Effect.of_filter {ctx : Option (Nat × Str)} {dst d' : DocSt} {next : Nat} {keep : Str → Bool}
    {t : INode} {r : CopyDocResult} (h : filterIntoDoc ctx dst next keep t = (.ok r, d')) :
    Effect keep t next dst d' r ∧ (r.famAdds = [] ↔ roleIds r.copy = []) ∧ r.famAdds.length ≤ 1 := by
  unfold filterIntoDoc at h
  have sp := filterTree_spec keep next t
  split at h
  · cases h
  · rename_i c nx wr hf
    rw [hf] at sp
    obtain ⟨s1, s2, s3, s4⟩ := sp
    split at h
    · rename_i hr
      injection h with h1 h2
      injection h1 with h1
      subst h1 h2
      exact ⟨.of_walk s1 s2 s3 s4 dst [], by simpa using List.isEmpty_iff.mp hr, Nat.zero_le 1⟩
    · rename_i hr
      split at h
      · cases h
      · rename_i fi p
        injection h with h1 h2
        injection h1 with h1
        subst h1 h2
        exact ⟨.of_walk s1 s2 s3 s4 dst [p], by simpa using hr, Nat.le_refl 1⟩

end Gedcom

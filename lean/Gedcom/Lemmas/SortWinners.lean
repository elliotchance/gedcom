/-
  The stable sort and the winner loop of `listSimilarity` (C12) over an arbitrary carrier, so that
  the same lemmas serve cells, cells with their matrix indices and the pairs of positions of the
  Jaro loop; the accepted set of the loop over a sorted list is the one solution of `GenChar`.
  Core Lean only.
-/
import Gedcom.Model.Similarity
import Gedcom.Lemmas.InsSort
namespace Gedcom.Sim

section sorting
variable {α : Type} (sim : α → Rat)

/-- `sortDesc` with the score as a parameter -/
def sortBy (l : List α) : List α := insSort (fun c d => decide (sim c < sim d)) l

theorem sortBy_perm (l : List α) : (sortBy sim l).Perm l := insSort_perm _ l

theorem sortBy_map {β : Type} (f : β → α) (l : List β) :
    (sortBy (sim ∘ f) l).map f = sortBy sim (l.map f) :=
  insSort_comap (fun c d => decide (sim c < sim d)) f l

/-- the order a stable descending sort produces from a list that is ordered by `tie` -/
def SortedLt (tie : α → α → Prop) : α → α → Prop := DescBy (fun c d => decide (sim c < sim d)) tie

theorem sortedLt_asymm (tie : α → α → Prop) (ht : ∀ x y, tie x y → ¬ tie y x) (x y : α)
    (h : SortedLt sim tie x y) : ¬ SortedLt sim tie y x := fun h' =>
  DescBy.asymm (swoOn_score sim [x, y]) ht (by simp) (by simp) h h'

theorem sortBy_sorted (tie : α → α → Prop) (l : List α) (hl : l.Pairwise tie) :
    (sortBy sim l).Pairwise (SortedLt sim tie) :=
  insSort_desc (swoOn_score sim l) l (fun _ h => h) hl

end sorting

theorem insertDesc_eq (c : Cell) : ∀ m : List Cell,
    insertDesc c m = insBy (fun c d => decide (c.sim < d.sim)) c m
  | [] => rfl
  | d :: ds => by simp only [insertDesc, insBy, decide_eq_true_eq, insertDesc_eq c ds]

theorem sortDesc_eq_sortBy : ∀ l : List Cell, sortDesc l = sortBy (fun c => c.sim) l
  | [] => rfl
  | c :: cs => by rw [sortDesc, sortDesc_eq_sortBy cs, insertDesc_eq]; rfl

theorem sortDesc_perm (l : List Cell) : (sortDesc l).Perm l := by
  rw [sortDesc_eq_sortBy]; exact sortBy_perm _ l

theorem mem_sortDesc {d : Cell} {cs : List Cell} : d ∈ sortDesc cs ↔ d ∈ cs :=
  (sortDesc_perm cs).mem_iff

section winnerLoop
variable {α : Type} (ida idb : α → Nat) (sim : α → Rat) (minimum : Rat)

/-- the generic `winners`: the two ids and the score are parameters -/
def gw : List α → List Nat → List Nat → List α
  | [], _, _ => []
  | c :: cs, fa, fb =>
    if sim c < minimum then []
    else if fa.contains (ida c) || fb.contains (idb c) then gw cs fa fb
    else c :: gw cs (ida c :: fa) (idb c :: fb)

/-- "W is the accepted set": a cell is in W iff it is in the list, reaches the minimum, is not
    blocked by the initial flags, and no member of W that comes earlier blocks it -/
def GenChar (lt : α → α → Prop) (W : α → Prop) (l : List α) (fa fb : List Nat) : Prop :=
  ∀ x, W x ↔ (x ∈ l ∧ ¬ sim x < minimum ∧ ida x ∉ fa ∧ idb x ∉ fb ∧
    ∀ d, W d → lt d x → ida d ≠ ida x ∧ idb d ≠ idb x)

theorem gw_map {β : Type} (f : β → α) (l : List β) (fa fb : List Nat) :
    (gw (ida ∘ f) (idb ∘ f) (sim ∘ f) minimum l fa fb).map f =
      gw ida idb sim minimum (l.map f) fa fb := by
  induction l generalizing fa fb with
  | nil => rfl
  | cons c cs ih =>
    simp only [gw, List.map_cons, Function.comp]
    split
    · rfl
    · split
      · exact ih fa fb
      · simp only [List.map_cons]; rw [← ih]

variable {ida idb sim minimum}

theorem gw_sublist (l : List α) (fa fb : List Nat) : (gw ida idb sim minimum l fa fb).Sublist l := by
  induction l generalizing fa fb with
  | nil => simp [gw]
  | cons c cs ih =>
    simp only [gw]
    split
    · simp
    · split
      · exact List.Sublist.cons _ (ih fa fb)
      · exact List.Sublist.cons_cons _ (ih _ _)

theorem gw_flip (l : List α) (fa fb : List Nat) :
    gw ida idb sim minimum l fa fb = gw idb ida sim minimum l fb fa := by
  induction l generalizing fa fb with
  | nil => rfl
  | cons c cs ih =>
    simp only [gw]
    rw [Bool.or_comm, ih fa fb, ih (ida c :: fa) (idb c :: fb)]

theorem not_taken_iff {fa fb : List Nat} {x y : Nat} :
    ¬ (fa.contains x || fb.contains y) = true ↔ x ∉ fa ∧ y ∉ fb := by
  simp

theorem genChar_cons_blocked {lt : α → α → Prop} {W : α → Prop} {c : α} {cs : List α}
    {fa fb : List Nat} (hfc : ¬ (ida c ∉ fa ∧ idb c ∉ fb)) :
    GenChar ida idb sim minimum lt W (c :: cs) fa fb ↔ GenChar ida idb sim minimum lt W cs fa fb := by
  refine forall_congr' fun x => iff_congr Iff.rfl ?_
  constructor
  · rintro ⟨h1, h2, h3, h4, h5⟩
    rcases List.mem_cons.mp h1 with e | h1'
    · rw [e] at h3 h4; exact absurd ⟨h3, h4⟩ hfc
    · exact ⟨h1', h2, h3, h4, h5⟩
  · rintro ⟨h1, rest⟩
    exact ⟨List.mem_cons_of_mem _ h1, rest⟩

/-- what the winner loop accepts is such a set (`hd`: no later cell reaches the minimum once one fails) … -/
theorem gw_sat {lt : α → α → Prop} (hasym : ∀ x y, lt x y → ¬ lt y x) (l : List α)
    (hl : l.Pairwise lt) (hd : l.Pairwise fun x y => sim y ≤ sim x) (fa fb : List Nat) :
    GenChar ida idb sim minimum lt (· ∈ gw ida idb sim minimum l fa fb) l fa fb := by
  induction l generalizing fa fb with
  | nil => intro x; simp [gw]
  | cons c cs ih =>
    rw [List.pairwise_cons] at hl hd
    intro x
    simp only [gw]
    by_cases hmin : sim c < minimum
    · -- the loop stops: the list is descending, nothing from `c` on reaches the minimum
      simp only [hmin, if_true, List.not_mem_nil, false_iff, not_and]
      intro hx hx2
      rcases List.mem_cons.mp hx with e | hx'
      · exact absurd (e ▸ hmin) hx2
      · exact absurd (Std.lt_of_le_of_lt (hd.1 x hx') hmin) hx2
    · simp only [hmin, if_false]
      by_cases hf : (fa.contains (ida c) || fb.contains (idb c)) = true
      · simp only [hf, if_true]
        exact (genChar_cons_blocked fun h => not_taken_iff.mpr h hf).mpr (ih hl.2 hd.2 fa fb) x
      · -- `c` is accepted; for the rest, `c`'s ids among the flags say "not blocked by `c`"
        simp only [hf]
        have hnf : ida c ∉ fa ∧ idb c ∉ fb := not_taken_iff.mp hf
        have hIH := ih hl.2 hd.2 (ida c :: fa) (idb c :: fb)
        have hsub : ∀ d, d ∈ gw ida idb sim minimum cs (ida c :: fa) (idb c :: fb) → d ∈ cs :=
          fun d hd => (gw_sublist cs _ _).subset hd
        constructor
        · intro hx
          rcases List.mem_cons.mp hx with e | hx'
          · subst e
            refine ⟨by simp, hmin, hnf.1, hnf.2, ?_⟩
            intro d hd hlt
            exfalso
            rcases List.mem_cons.mp hd with e | hd'
            · rw [e] at hlt; exact hasym _ _ hlt hlt
            · exact hasym _ _ (hl.1 d (hsub d hd')) hlt
          · obtain ⟨h1, h2, h3, h4, h5⟩ := (hIH x).mp hx'
            refine ⟨List.mem_cons_of_mem _ h1, h2, fun h => h3 (by simp [h]), fun h => h4 (by simp [h]), ?_⟩
            intro d hd hlt
            rcases List.mem_cons.mp hd with e | hd'
            · rw [e]
              exact ⟨fun e' => h3 (by simp [e']), fun e' => h4 (by simp [e'])⟩
            · exact h5 d hd' hlt
        · rintro ⟨h1, h2, h3, h4, h5⟩
          rcases List.mem_cons.mp h1 with e | h1'
          · rw [e]; simp
          · apply List.mem_cons_of_mem
            have hc := h5 c (by simp) (hl.1 x h1')
            apply (hIH x).mpr
            exact ⟨h1', h2, List.not_mem_cons_of_ne_of_not_mem (Ne.symm hc.1) h3,
              List.not_mem_cons_of_ne_of_not_mem (Ne.symm hc.2) h4,
              fun d hd hlt => h5 d (List.mem_cons_of_mem _ hd) hlt⟩

/-- … and the only one: two such sets that agree on a front part of the list agree on the rest -/
theorem GenChar.agree {lt : α → α → Prop} (hasym : ∀ x y, lt x y → ¬ lt y x)
    {W W' : α → Prop} {fa fb : List Nat} (p s : List α) (hl : (p ++ s).Pairwise lt)
    (hW : GenChar ida idb sim minimum lt W (p ++ s) fa fb)
    (hW' : GenChar ida idb sim minimum lt W' (p ++ s) fa fb) (hp : ∀ x ∈ p, (W x ↔ W' x)) :
    ∀ x ∈ s, (W x ↔ W' x) := by
  induction s generalizing p with
  | nil => exact fun x hx => nomatch hx
  | cons c cs ih =>
    -- an accepted cell in front of `c` in the order lies in `p`
    have front : ∀ V : α → Prop, GenChar ida idb sim minimum lt V (p ++ c :: cs) fa fb →
        ∀ d, V d → lt d c → d ∈ p := by
      intro V hV d hd hlt
      rcases List.mem_append.mp ((hV d).mp hd).1 with h | h
      · exact h
      · rw [List.pairwise_append, List.pairwise_cons] at hl
        rcases List.mem_cons.mp h with e | h
        · exact absurd (e ▸ hlt) (fun h => hasym c c h h)
        · exact absurd hlt (hasym _ _ (hl.2.1.1 d h))
    have hc : W c ↔ W' c := by
      rw [hW c, hW' c]
      refine and_congr_right fun _ => and_congr_right fun _ => and_congr_right fun _ =>
        and_congr_right fun _ => forall_congr' fun d => ?_
      exact ⟨fun h hd hlt => h ((hp d (front W' hW' d hd hlt)).mpr hd) hlt,
        fun h hd hlt => h ((hp d (front W hW d hd hlt)).mp hd) hlt⟩
    have hl' : (p ++ [c] ++ cs).Pairwise lt := by rwa [List.append_assoc]
    have := ih (p ++ [c]) hl' (by rwa [List.append_assoc]) (by rwa [List.append_assoc])
      (fun x hx => (List.mem_append.mp hx).elim (hp x) fun h => by rw [List.mem_singleton.mp h]; exact hc)
    exact fun x hx => (List.mem_cons.mp hx).elim (fun e => e ▸ hc) (this x)

theorem GenChar.unique {lt : α → α → Prop} (hasym : ∀ x y, lt x y → ¬ lt y x)
    {W W' : α → Prop} {l : List α} {fa fb : List Nat} (hl : l.Pairwise lt)
    (hW : GenChar ida idb sim minimum lt W l fa fb) (hW' : GenChar ida idb sim minimum lt W' l fa fb)
    (x : α) : W x ↔ W' x := by
  by_cases hx : x ∈ l
  · exact GenChar.agree hasym [] l hl hW hW' (fun _ h => nomatch h) x hx
  · exact ⟨fun h => absurd ((hW x).mp h).1 hx, fun h => absurd ((hW' x).mp h).1 hx⟩

theorem blocked_iff {lt lt' : α → α → Prop} {d x : α}
    (h : ida d = ida x ∨ idb d = idb x → (lt d x ↔ lt' d x)) :
    (lt d x → ida d ≠ ida x ∧ idb d ≠ idb x) ↔ (lt' d x → ida d ≠ ida x ∧ idb d ≠ idb x) := by
  by_cases hc : ida d = ida x ∨ idb d = idb x
  · rw [h hc]
  · have : ida d ≠ ida x ∧ idb d ≠ idb x := ⟨fun e => hc (Or.inl e), fun e => hc (Or.inr e)⟩
    exact ⟨fun _ _ => this, fun _ _ => this⟩

/-- the accepted set depends on the order only among cells that can block each other: two sorted
    lists of the same cells whose orders agree on such cells have the same winners -/
theorem gw_perm_of_agree {lt lt' : α → α → Prop}
    (hasym : ∀ x y, lt x y → ¬ lt y x) (hasym' : ∀ x y, lt' x y → ¬ lt' y x) {l l' : List α}
    (hl : l.Pairwise lt) (hd : l.Pairwise fun x y => sim y ≤ sim x)
    (hl' : l'.Pairwise lt') (hd' : l'.Pairwise fun x y => sim y ≤ sim x) (hmem : ∀ x, x ∈ l ↔ x ∈ l')
    (hagree : ∀ x y, x ∈ l → y ∈ l → ida x = ida y ∨ idb x = idb y → (lt x y ↔ lt' x y)) :
    (gw ida idb sim minimum l [] []).Perm (gw ida idb sim minimum l' [] []) := by
  have c1 := gw_sat (ida := ida) (idb := idb) (minimum := minimum) hasym l hl hd [] []
  -- the accepted set of the first list satisfies the characterisation of the second
  have c2 : GenChar ida idb sim minimum lt' (· ∈ gw ida idb sim minimum l [] []) l' [] [] := by
    intro x
    rw [c1 x, hmem]
    -- only the last clause mentions the order
    refine and_congr_right fun h1 => and_congr_right fun _ => and_congr_right fun _ =>
      and_congr_right fun _ => forall_congr' fun d => imp_congr_right fun hd => ?_
    exact blocked_iff fun hc => hagree d x ((gw_sublist _ _ _).subset hd) ((hmem x).mpr h1) hc
  have hu := GenChar.unique hasym' hl' c2 (gw_sat hasym' l' hl' hd' [] [])
  exact (List.perm_ext_iff_of_nodup ((nodup_of_sorted hasym hl).sublist (gw_sublist _ _ _))
    ((nodup_of_sorted hasym' hl').sublist (gw_sublist _ _ _))).mpr hu

end winnerLoop

theorem winners_eq_gw (minimum : Rat) (l : List Cell) (fa fb : List Nat) :
    winners minimum l fa fb = gw (fun c => c.a.id) (fun c => c.b.id) (fun c => c.sim) minimum l fa fb := by
  induction l generalizing fa fb with
  | nil => rfl
  | cons c cs ih => simp only [winners, gw, ih]

theorem winners_sortDesc_map {β : Type} (f : β → Cell) (l : List β) (minimum : Rat) :
    winners minimum (sortDesc (l.map f)) [] [] =
      (gw (fun x => (f x).a.id) (fun x => (f x).b.id) (fun x => (f x).sim) minimum
        (sortBy (fun x => (f x).sim) l) [] []).map f := by
  rw [winners_eq_gw, sortDesc_eq_sortBy, ← sortBy_map (fun c : Cell => c.sim) f l]
  exact (gw_map (fun c : Cell => c.a.id) (fun c : Cell => c.b.id) (fun c : Cell => c.sim) minimum f _ [] []).symm

end Gedcom.Sim

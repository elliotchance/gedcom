/-
  Sequences of `DeepCopy` calls between documents (Gedcom/Model/CopyDoc.lean):
  `World.step` / `World.run`.  A step does nothing or has an `Effect` (`step_cases`, the one place
  where `World.step` is unfolded).  Over a sequence of operations documents only grow, and only the
  destination of an operation, by new empty FAM records; every event is the event of one step from
  a world the start has grown into (`run_event_step`): every copy consists of new objects only, has
  the value of its source, and later copies are disjoint from earlier ones.
-/
import Gedcom.Lemmas.DocSt
namespace Gedcom

/-- `d'` is `d` with new, empty FAM records (objects `lo ≤ id < hi`) appended -/
def DocGrows (lo hi : Nat) (d d' : DocSt) : Prop :=
  ∃ added, d'.nodes = d.nodes ++ added ∧
    ∀ x ∈ added, x.tag = tagFAM ∧ x.value = [] ∧ x.kids = [] ∧ lo ≤ x.id ∧ x.id < hi

/-- every object of every document was allocated before `next` -/
def World.Below (w : World) : Prop := ∀ d ∈ w.docs, ∀ i ∈ idsList d.nodes, i < w.next

def World.Grows (w w' : World) : Prop :=
  w.next ≤ w'.next ∧ w.docs.length = w'.docs.length ∧
  ∀ (k : Nat) (d : DocSt), w.docs[k]? = some d →
    ∃ d', w'.docs[k]? = some d' ∧ DocGrows w.next w'.next d d'

theorem DocGrows.refl (lo hi : Nat) (d : DocSt) : DocGrows lo hi d d := ⟨[], by simp, by simp⟩

theorem DocGrows.trans {lo mid hi : Nat} {a b c : DocSt} (h1 : DocGrows lo mid a b)
    (h2 : DocGrows mid hi b c) (hlm : lo ≤ mid) (hmh : mid ≤ hi) : DocGrows lo hi a c := by
  obtain ⟨x, hx, px⟩ := h1
  obtain ⟨y, hy, py⟩ := h2
  refine ⟨x ++ y, by rw [hy, hx, List.append_assoc], ?_⟩
  intro z hz
  rcases List.mem_append.mp hz with hz | hz
  · obtain ⟨p1, p2, p3, p4, p5⟩ := px z hz; exact ⟨p1, p2, p3, p4, by omega⟩
  · obtain ⟨p1, p2, p3, p4, p5⟩ := py z hz; exact ⟨p1, p2, p3, by omega, p5⟩

theorem World.Grows.refl (w : World) : World.Grows w w :=
  ⟨Nat.le_refl _, rfl, fun _ d h => ⟨d, h, DocGrows.refl _ _ _⟩⟩

theorem World.Grows.trans {a b c : World} (h1 : World.Grows a b) (h2 : World.Grows b c) :
    World.Grows a c := by
  obtain ⟨n1, l1, g1⟩ := h1
  obtain ⟨n2, l2, g2⟩ := h2
  refine ⟨by omega, l1.trans l2, ?_⟩
  intro k d hd
  obtain ⟨d', hd', gd⟩ := g1 k d hd
  obtain ⟨d'', hd'', gd'⟩ := g2 k d' hd'
  exact ⟨d'', hd'', gd.trans gd' n1 n2⟩

theorem CopyOp.value_of_copy {op : CopyOp} (hn : op.filter = none) {s c : Node}
    (h : pruneNode op.keep s = some c) : c = s := by
  have : op.keep = fun _ => true := by unfold CopyOp.keep; rw [hn]
  rw [this, pruneNode_all] at h
  exact (Option.some.inj h).symm

/-- what one event says, relative to the world `w` it started from and the world `w'` it left -/
structure EventOK (w w' : World) (op : CopyOp) (e : CopyEvent) : Prop where
  op_eq : e.op = op
  start_eq : e.start = w.next
  next_eq : e.result.next = w'.next
  value : pruneNode op.keep e.source.erase = some e.result.copy.erase
  fresh : ∀ i ∈ e.result.copy.ids, w.next ≤ i ∧ i < w'.next
  writes : ∀ i ∈ e.result.writes, w.next ≤ i ∧ i < w'.next
  src : ∃ s r0, w.docs[op.src]? = some s ∧ findRec op.node s.nodes = some (r0, e.source) ∧
    e.ctx = ctxOf r0
  dstDoc : ∃ d', w'.docs[op.dst]? = some d' ∧ e.result.doc = d'.nodes
  notRec : ∀ d' ∈ w'.docs, ∀ i ∈ e.result.copy.ids, i ∉ idsList d'.nodes

theorem step_cases (w : World) (op : CopyOp) :
    w.step op = (w, none) ∨
    ∃ s d r t d' res, w.docs[op.src]? = some s ∧ w.docs[op.dst]? = some d ∧
      findRec op.node s.nodes = some (r, t) ∧ Effect op.keep t w.next d d' res ∧
      w.step op = (⟨w.docs.set op.dst d', res.next⟩, some ⟨op, t, ctxOf r, w.next, res⟩) := by
  unfold World.step CopyOp.keep
  split
  · rename_i s d hs hd
    split
    · exact Or.inl rfl
    · rename_i r t hf
      split
      · split
        · exact Or.inl rfl
        · rename_i hc
          exact Or.inr ⟨s, d, r, t, _, _, hs, hd, hf, Effect.of_deepCopy hc d, rfl⟩
      · split
        · rename_i hfo
          exact Or.inr ⟨s, d, r, t, _, _, hs, hd, hf, (Effect.of_filter hfo).1, rfl⟩
        · exact Or.inl rfl
  · exact Or.inl rfl

theorem step_spec (w : World) (op : CopyOp) (hb : w.Below) :
    (w.step op).1.Below ∧ World.Grows w (w.step op).1 ∧
    (∀ k, k ≠ op.dst → (w.step op).1.docs[k]? = w.docs[k]?) ∧
    ∀ e, (w.step op).2 = some e → EventOK w (w.step op).1 op e := by
  rcases step_cases w op with h | ⟨s, d, r, t, d', res, hs, hd, hf, he, h⟩
  · rw [h]
    exact ⟨hb, World.Grows.refl w, fun _ _ => rfl, fun _ h => by cases h⟩
  rw [h]
  obtain ⟨added, ea, _, eadd⟩ := he.added
  have hdlt : op.dst < w.docs.length := by
    rcases Nat.lt_or_ge op.dst w.docs.length with h | h
    · exact h
    · rw [List.getElem?_eq_none h] at hd; cases hd
  -- an object of the new world is an old one, or one of the new FAM records
  have hobj : ∀ d0 ∈ w.docs.set op.dst d', ∀ i ∈ idsList d0.nodes,
      i < w.next ∨ ((w.next ≤ i ∧ i < res.next) ∧ i ∉ res.copy.ids) := by
    intro d0 hd0 i hi
    rcases List.mem_or_eq_of_mem_set hd0 with hm | rfl
    · exact Or.inl (hb d0 hm i hi)
    · rw [ea, idsList_append] at hi
      rcases List.mem_append.mp hi with hi | hi
      · exact Or.inl (hb d (List.mem_of_getElem? hd) i hi)
      · obtain ⟨x, hx, hix⟩ := idsList_mem.mp hi
        obtain ⟨_, _, p3, p4, p5, p6⟩ := eadd x hx
        rw [ids_of_leaf p3, List.mem_singleton] at hix
        subst hix
        exact Or.inr ⟨⟨p4, p5⟩, p6⟩
  refine ⟨?_, ⟨Nat.le_of_lt he.next_lt, by simp, ?_⟩, ?_, ?_⟩
  · intro d0 hd0 i hi
    rcases hobj d0 hd0 i hi with h | h
    · exact Nat.lt_trans h he.next_lt
    · exact h.1.2
  · intro k d0 hk
    by_cases hkd : op.dst = k
    · subst hkd
      rw [hd] at hk
      injection hk with hk
      subst hk
      refine ⟨d', by simp [hdlt], added, ea, fun x hx => ?_⟩
      obtain ⟨p1, p2, p3, p4, p5, _⟩ := eadd x hx
      exact ⟨p1, p2, p3, p4, p5⟩
    · exact ⟨d0, by simp [hkd, hk], DocGrows.refl _ _ _⟩
  · intro k hk
    simp [Ne.symm hk]
  · intro e hev
    injection hev with hev
    subst hev
    refine ⟨rfl, rfl, rfl, he.value, he.fresh, he.writes, ⟨s, r, hs, hf, rfl⟩,
      ⟨d', by simp [hdlt], he.doc⟩, ?_⟩
    intro d0 hd0 i hi hm
    have := he.fresh i hi
    rcases hobj d0 hd0 i hm with h | h
    · omega
    · exact h.2 hi

def eventsOf (l : List (Option CopyEvent)) : List CopyEvent := l.filterMap id

theorem eventsOf_nil : eventsOf [] = [] := rfl

theorem eventsOf_none (l : List (Option CopyEvent)) : eventsOf (none :: l) = eventsOf l := rfl

theorem eventsOf_some (e : CopyEvent) (l : List (Option CopyEvent)) :
    eventsOf (some e :: l) = e :: eventsOf l := rfl

theorem mem_eventsOf_cons {e : CopyEvent} {o : Option CopyEvent} {l : List (Option CopyEvent)} :
    e ∈ eventsOf (o :: l) ↔ o = some e ∨ e ∈ eventsOf l := by
  cases o <;> simp [eventsOf, eq_comm]

theorem run_grows (w : World) (ops : List CopyOp) (hb : w.Below) :
    (w.run ops).1.Below ∧ World.Grows w (w.run ops).1 ∧
    (∀ k, (∀ op ∈ ops, op.dst ≠ k) → (w.run ops).1.docs[k]? = w.docs[k]?) := by
  induction ops generalizing w with
  | nil => exact ⟨hb, World.Grows.refl w, fun _ _ => rfl⟩
  | cons op ops ih =>
    obtain ⟨s1, s2, s3, _⟩ := step_spec w op hb
    obtain ⟨r1, r2, r3⟩ := ih (w.step op).1 s1
    simp only [World.run]
    refine ⟨r1, s2.trans r2, ?_⟩
    intro k hk
    rw [r3 k (fun o ho => hk o (by simp [ho])), s3 k (Ne.symm (hk op (by simp)))]

theorem run_event_step (w : World) (ops : List CopyOp) (hb : w.Below) :
    ∀ e ∈ eventsOf (w.run ops).2, ∃ w1 w2 op, World.Grows w w1 ∧ EventOK w1 w2 op e ∧
      World.Grows w2 (w.run ops).1 := by
  induction ops generalizing w with
  | nil => simp [World.run, eventsOf_nil]
  | cons op ops ih =>
    obtain ⟨s1, s2, _, s5⟩ := step_spec w op hb
    intro e hm
    rcases mem_eventsOf_cons.mp hm with he | hm
    · exact ⟨w, _, op, World.Grows.refl w, s5 e he, (run_grows _ ops s1).2.1⟩
    · obtain ⟨w1, w2, op', g1, ok, g2⟩ := ih _ s1 e hm
      exact ⟨w1, w2, op', s2.trans g1, ok, g2⟩

theorem run_events (w : World) (ops : List CopyOp) (hb : w.Below) :
    ∀ e ∈ eventsOf (w.run ops).2, w.next ≤ e.start ∧
      pruneNode e.op.keep e.source.erase = some e.result.copy.erase ∧
      (∀ i ∈ e.result.copy.ids, e.start ≤ i ∧ i < e.result.next) ∧
      (∀ i ∈ e.result.writes, e.start ≤ i ∧ i < e.result.next) := by
  intro e he
  obtain ⟨w1, w2, op, g1, ok, _⟩ := run_event_step w ops hb e he
  rw [ok.start_eq, ok.next_eq, ok.op_eq]
  exact ⟨g1.1, ok.value, ok.fresh, ok.writes⟩

theorem run_ordered (w : World) (ops : List CopyOp) (hb : w.Below) :
    (eventsOf (w.run ops).2).Pairwise (fun a b => a.result.next ≤ b.start) := by
  induction ops generalizing w with
  | nil => simp [World.run, eventsOf_nil]
  | cons op ops ih =>
    obtain ⟨s1, _, _, s5⟩ := step_spec w op hb
    simp only [World.run]
    cases he : (w.step op).2 with
    | none => rw [eventsOf_none]; exact ih _ s1
    | some e0 =>
      rw [eventsOf_some, List.pairwise_cons, (s5 e0 he).next_eq]
      exact ⟨fun e hm => (run_events _ ops s1 e hm).1, ih _ s1⟩

theorem findRec_append {k : Nat} {l : List INode} {x : INode × INode} (m : List INode)
    (h : findRec k l = some x) : findRec k (l ++ m) = some x := by
  induction l with
  | nil => simp [findRec] at h
  | cons r rs ih =>
    simp only [List.cons_append, findRec] at h ⊢
    split
    · rename_i y hy; rw [hy] at h; exact h
    · rename_i hy; rw [hy] at h; exact ih h

/-- The object copied by an operation is the object as it was in the world
    the sequence started from: an earlier operation of the sequence never changes what a later one
    copies (documents only gain records, and the lookup of an existing object finds it first). -/
theorem run_source_stable (w : World) (ops : List CopyOp) (hb : w.Below) :
    ∀ e ∈ eventsOf (w.run ops).2, ∀ s r t, w.docs[e.op.src]? = some s →
      findRec e.op.node s.nodes = some (r, t) → e.source = t ∧ e.ctx = ctxOf r := by
  intro e he s r t hs hf
  obtain ⟨w1, _, op, g1, ok, _⟩ := run_event_step w ops hb e he
  obtain ⟨s', r0, hs', hf', hctx⟩ := ok.src
  rw [ok.op_eq] at hs hf
  obtain ⟨d', hd', added, hadd, _⟩ := g1.2.2 _ s hs
  rw [hs'] at hd'
  injection hd' with hd'
  subst hd'
  have := findRec_append added hf
  rw [← hadd, hf'] at this
  injection this with this
  injection this with h1 h2
  exact ⟨h2, by rw [hctx, h1]⟩

end Gedcom

/- What the `Decode` loop does with one line is decided by the options, `family != nil`, the number
   of open levels and the line alone (`lineAct`); the decoder's `step` and the reference's
   `scanStep` carry that decision out, each on its own state (`step_act`, `scanStep_act`).  The
   proofs about either machine unfold neither: what can happen to a line, and why, is read off
   `ActReason`.  (Props/C02 `place_is_modelDecide` compares `place` itself with the source's level
   arithmetic and is the one other place where it is unfolded.) -/
import Gedcom.Model.MultiLine
import Gedcom.Lemmas.Machine
namespace Gedcom.Dec

inductive Act
  | keep
  | extend (x : Str)
  /-- a node for the parsed line `l`, placed at level `k` -/
  | node (k : Nat) (l : Line)
  | error
  | panic

def contAct (o : Opts) (len : Nat) (line : Str) : Act :=
  if o.allowMultiLine && len != 0 then .extend (LF :: line) else .error

def placeAct (allow : Bool) (len : Nat) (l : Line) : Act :=
  if l.level ≤ len then .node l.level l
  else if allow then (if len = 0 then .error else .node len l)
  else .panic

/-- `len` is the number of open levels: 0 before the first node, else one more than the level of
    the previous node -/
def lineAct (o : Opts) (sf : Bool) (len : Nat) (line : Str) : Act :=
  if line = [] then (if o.allowMultiLine && len != 0 then .extend [LF] else .keep)
  else match parseLine line with
    | none => contAct o len line
    | some l => if isRoleTag l.tag && !sf then contAct o len line else placeAct o.allowInvalidIndents len l

def St.act (s : St) : Act → StepResult
  | .keep => .next s
  | .extend x => .next (appendTop x s)
  | .node k l => .next (push (closeTo k (trimTop (setFam (s.seenFam || l.tag == tFAM) s))) (hdrOf l))
  | .error => .error
  | .panic => .panic .indentTooLarge

def ScanSt.depth (sc : ScanSt) : Nat :=
  match sc.last with
  | none => 0
  | some e => e.level + 1

def ScanSt.act (sc : ScanSt) : Act → ScanResult
  | .keep => .next sc
  | .extend x => .next { sc with last := sc.last.map (·.extend x) }
  | .node k l => .next (ScanSt.emit { sc with seenFam := sc.seenFam || l.tag == tFAM } ⟨k, hdrOf l⟩)
  | .error => .error
  | .panic => .panic .indentTooLarge

theorem isEmpty_stack (s : St) : (!s.stack.isEmpty) = (s.stack.length != 0) := by
  cases s.stack <;> rfl

theorem unparsable_act (o : Opts) (s : St) (line : Str) :
    unparsable o s line = s.act (contAct o s.stack.length line) := by
  unfold unparsable contAct
  rw [isEmpty_stack]
  cases o.allowMultiLine && s.stack.length != 0 <;> rfl

theorem place_act (o : Opts) (s : St) (l : Line) :
    place o (setFam (s.seenFam || l.tag == tFAM) s) l =
      s.act (placeAct o.allowInvalidIndents s.stack.length l) := by
  unfold place placeAct
  rw [setFam_stack]
  by_cases h0 : l.level = 0
  · rw [if_pos h0, if_pos (h0 ▸ Nat.zero_le _), St.act, h0]
  · rw [if_neg h0]
    by_cases hd : l.level ≤ s.stack.length
    · rw [if_neg (show ¬ l.level - 1 ≥ s.stack.length by omega), if_pos hd]; rfl
    · rw [if_pos (show l.level - 1 ≥ s.stack.length by omega), if_neg hd]
      cases o.allowInvalidIndents
      · rfl
      · rw [if_pos rfl, if_pos rfl]
        cases hs : s.stack with
        | nil => rfl
        | cons f fs =>
          -- clamped: nothing is closed
          rw [if_neg (by simp), if_neg (by simp), St.act,
            closeTo_self _ (f :: fs).length (by rw [trimTop_len, setFam_stack, hs]; exact Nat.le_refl _)]

theorem step_act (o : Opts) (s : St) (line : Str) :
    step o s line = s.act (lineAct o s.seenFam s.stack.length line) := by
  unfold step lineAct
  by_cases hl : line = []
  · rw [if_pos hl, if_pos hl, isEmpty_stack]
    cases o.allowMultiLine && s.stack.length != 0 <;> rfl
  · rw [if_neg hl, if_neg hl]
    cases parseLine line with
    | none => exact unparsable_act o s line
    | some l =>
      dsimp only
      by_cases hr : (isRoleTag l.tag && !s.seenFam) = true
      · rw [if_pos hr, if_pos hr]; exact unparsable_act o s line
      · rw [if_neg hr, if_neg hr]; exact place_act o s l

theorem scanUnparsable_act (o : Opts) (sc : ScanSt) (line : Str) :
    scanUnparsable o sc line = sc.act (contAct o sc.depth line) := by
  unfold scanUnparsable contAct ScanSt.depth
  rcases sc with ⟨d, _ | e, sf⟩
  · rw [Bool.and_comm]; rfl
  · cases o.allowMultiLine <;> rfl

theorem scanPlace_act (o : Opts) (sc : ScanSt) (l : Line) :
    scanPlace o { sc with seenFam := sc.seenFam || l.tag == tFAM } l =
      sc.act (placeAct o.allowInvalidIndents sc.depth l) := by
  rcases sc with ⟨d, _ | prev, sf⟩
  · show _ = ScanSt.act _ (placeAct _ 0 l)
    unfold scanPlace placeAct
    by_cases h0 : l.level = 0
    · rw [if_pos h0, if_pos (Nat.le_of_eq h0), ScanSt.act, h0]
    · rw [if_neg h0, if_neg (show ¬ l.level ≤ 0 by omega)]
      cases o.allowInvalidIndents <;> rfl
  · show _ = ScanSt.act _ (placeAct _ (prev.level + 1) l)
    unfold scanPlace placeAct
    by_cases h0 : l.level = 0
    · rw [if_pos h0, if_pos (h0 ▸ Nat.zero_le _), ScanSt.act, h0]
    · rw [if_neg h0]
      dsimp only
      by_cases hd : l.level ≤ prev.level + 1
      · rw [if_neg (show ¬ l.level > prev.level + 1 by omega), if_pos hd]; rfl
      · rw [if_pos (show l.level > prev.level + 1 by omega), if_neg hd]
        cases o.allowInvalidIndents
        · rfl
        · rw [if_pos rfl, if_pos rfl, if_neg (Nat.succ_ne_zero _)]; rfl

theorem scanStep_act (o : Opts) (sc : ScanSt) (line : Str) :
    scanStep o sc line = sc.act (lineAct o sc.seenFam sc.depth line) := by
  unfold scanStep lineAct
  by_cases hl : line = []
  · rw [if_pos hl, if_pos hl]
    unfold ScanSt.depth
    rcases sc with ⟨d, _ | e, sf⟩
    · rw [Bool.and_comm]; rfl
    · cases o.allowMultiLine <;> rfl
  · rw [if_neg hl, if_neg hl]
    cases parseLine line with
    | none => exact scanUnparsable_act o sc line
    | some l =>
      dsimp only
      by_cases hr : (isRoleTag l.tag && !sc.seenFam) = true
      · rw [if_pos hr, if_pos hr]; exact scanUnparsable_act o sc line
      · rw [if_neg hr, if_neg hr]; exact scanPlace_act o sc l

/-- a line that does not become a node: outside the line grammar, or a HUSB/WIFE/CHIL line before
    any family -/
def NotNode (sf : Bool) (line : Str) : Prop :=
  parseLine line = none ∨ ∃ pl, parseLine line = some pl ∧ isRoleTag pl.tag = true ∧ sf = false

theorem contOKB_iff {sf : Bool} {line : Str} : contOKB sf line = true ↔ line = [] ∨ NotNode sf line := by
  unfold contOKB NotNode
  rw [Bool.or_eq_true, List.isEmpty_iff]
  refine or_congr_right ?_
  cases parseLine line with
  | none => simp
  | some l => simp

/-- everything the loop can do with a line, with the reason -/
inductive ActReason (o : Opts) (sf : Bool) (len : Nat) (line : Str) : Act → Prop
  | keep : line = [] → ActReason o sf len line .keep
  | extend : contOKB sf line = true → o.allowMultiLine = true → len ≠ 0 →
      ActReason o sf len line (.extend (LF :: line))
  | reject : line ≠ [] → NotNode sf line → (o.allowMultiLine = false ∨ len = 0) →
      ActReason o sf len line .error
  /-- at its own level, or with `AllowInvalidIndents` one below the previous node -/
  | node (l : Line) (k : Nat) : parseLine line = some l → (!isRoleTag l.tag || sf) = true → k ≤ len →
      ActReason o sf len line (.node k l)
  | orphan (l : Line) : parseLine line = some l → l.level ≠ 0 → len = 0 →
      o.allowInvalidIndents = true → ActReason o sf len line .error
  | panic (l : Line) : parseLine line = some l → len < l.level → o.allowInvalidIndents = false →
      ActReason o sf len line .panic

theorem contAct_spec (o : Opts) (sf : Bool) (len : Nat) {line : Str} (hl : line ≠ [])
    (h : NotNode sf line) : ActReason o sf len line (contAct o len line) := by
  unfold contAct
  cases hm : o.allowMultiLine
  · exact .reject hl h (Or.inl hm)
  · by_cases h0 : len = 0
    · rw [h0]; exact .reject hl h (Or.inr rfl)
    · rw [Bool.true_and, if_pos (by simpa using h0)]; exact .extend (contOKB_iff.mpr (Or.inr h)) hm h0

theorem lineAct_spec (o : Opts) (sf : Bool) (len : Nat) (line : Str) :
    ActReason o sf len line (lineAct o sf len line) := by
  unfold lineAct
  by_cases hl : line = []
  · rw [if_pos hl]
    by_cases hc : (o.allowMultiLine && len != 0) = true
    · rw [if_pos hc]
      rw [Bool.and_eq_true, bne_iff_ne] at hc
      subst hl; exact .extend rfl hc.1 hc.2
    · rw [if_neg hc]; exact .keep hl
  · rw [if_neg hl]
    cases hp : parseLine line with
    | none => exact contAct_spec o sf len hl (Or.inl hp)
    | some l =>
      dsimp only
      by_cases hr : (isRoleTag l.tag && !sf) = true
      · rw [if_pos hr]
        rw [Bool.and_eq_true, Bool.not_eq_true'] at hr
        exact contAct_spec o sf len hl (Or.inr ⟨l, hp, hr⟩)
      · rw [if_neg hr]
        have hr' := (role_guard _ _).mpr (Bool.eq_false_iff.mpr hr)
        unfold placeAct
        by_cases hd : l.level ≤ len
        · rw [if_pos hd]; exact .node l _ hp hr' hd
        · rw [if_neg hd]
          cases hi : o.allowInvalidIndents
          · exact .panic l hp (by omega) hi
          · rw [if_pos rfl]
            by_cases h0 : len = 0
            · rw [if_pos h0]; exact .orphan l hp (by omega) h0 hi
            · rw [if_neg h0]; exact .node l _ hp hr' (Nat.le_refl _)

theorem lineAct_node (o : Opts) {sf : Bool} {len : Nat} {line : Str} {l : Line}
    (hp : parseLine line = some l) (hrole : (!isRoleTag l.tag || sf) = true) (hl : l.level ≤ len) :
    lineAct o sf len line = .node l.level l := by
  have hne : line ≠ [] := fun e => by subst e; cases hp
  unfold lineAct placeAct
  rw [if_neg hne, hp]
  dsimp only
  rw [(role_guard _ _).mp hrole, if_neg Bool.false_ne_true, if_pos hl]

theorem lineAct_nil (o : Opts) (sf : Bool) (len : Nat) :
    lineAct o sf len [] = if o.allowMultiLine && len != 0 then .extend [LF] else .keep := rfl

theorem lineAct_notNode (o : Opts) {sf : Bool} (len : Nat) {line : Str} (hne : line ≠ [])
    (h : NotNode sf line) : lineAct o sf len line = contAct o len line := by
  unfold lineAct
  rw [if_neg hne]
  rcases h with hp | ⟨pl, hp, hr, hsf⟩
  · rw [hp]
  · rw [hp]
    dsimp only
    rw [hr, hsf, if_pos (by decide)]

theorem lineAct_cont {o : Opts} {sf : Bool} {len : Nat} {line : Str} (hm : o.allowMultiLine = true)
    (h0 : len ≠ 0) (hc : contOKB sf line = true) : lineAct o sf len line = .extend (LF :: line) := by
  have hcond : (o.allowMultiLine && len != 0) = true := by rw [hm, Bool.true_and, bne_iff_ne]; exact h0
  by_cases hl : line = []
  · rw [hl, lineAct_nil, if_pos hcond]
  · rw [lineAct_notNode o len hl ((contOKB_iff.mp hc).resolve_left hl), contAct, if_pos hcond]

end Gedcom.Dec

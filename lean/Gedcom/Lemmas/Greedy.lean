/-
  Greedy matching ⇔ existence of a perfect matching (DESIGN Appendix A.4), for any relation that
  is symmetric and transitive on the elements of the two lists; `removeFirst` is the model's
  (Gedcom/Model/Equal.lean).
-/
import Gedcom.Model.Equal
import Gedcom.Lemmas.Basics
import Gedcom.Lemmas.Matching
namespace Gedcom.G
variable {α : Type}

def greedy (R : α → α → Bool) : List α → List α → Bool
  | [], r => r.isEmpty
  | l :: ls, r => match removeFirst (R l) r with
    | none => false
    | some r' => greedy R ls r'

theorem greedy_refl (R : α → α → Bool) (l : List α) (h : ∀ x ∈ l, R x x = true) :
    greedy R l l = true := by
  induction l with
  | nil => simp [greedy]
  | cons x xs ih =>
    simp only [greedy]
    have : removeFirst (R x) (x :: xs) = some xs := by simp [removeFirst, h x (by simp)]
    rw [this]
    exact ih (fun y hy => h y (by simp [hy]))

theorem removeFirst_some {p : α → Bool} {r r' : List α} (h : removeFirst p r = some r') :
    ∃ y, p y = true ∧ r.Perm (y :: r') := by
  induction r generalizing r' with
  | nil => simp [removeFirst] at h
  | cons x xs ih =>
    simp only [removeFirst] at h
    by_cases hx : p x = true
    · simp [hx] at h; subst h; exact ⟨x, hx, List.Perm.refl _⟩
    · simp [hx] at h
      obtain ⟨r'', hr'', rfl⟩ := h
      obtain ⟨y, hy, hp⟩ := ih hr''
      exact ⟨y, hy, (List.Perm.cons x hp).trans (List.Perm.swap y x r'')⟩

theorem removeFirst_none {p : α → Bool} {r : List α} (h : removeFirst p r = none) :
    ∀ z ∈ r, p z = false := by
  induction r with
  | nil => simp
  | cons x xs ih =>
    simp only [removeFirst] at h
    by_cases hx : p x = true
    · simp [hx] at h
    · simp [hx] at h
      intro z hz
      simp at hz
      rcases hz with rfl | hz
      · simpa using hx
      · exact ih h z hz

theorem greedy_sound (R : α → α → Bool) (l r : List α) (h : greedy R l r = true) : Matched R l r := by
  induction l generalizing r with
  | nil => simp [greedy] at h; subst h; exact .nil
  | cons x xs ih =>
    simp only [greedy] at h
    cases hrf : removeFirst (R x) r with
    | none => simp [hrf] at h
    | some r' =>
      simp [hrf] at h
      obtain ⟨y, hy, hp⟩ := removeFirst_some hrf
      exact .cons hy (ih _ h) hp

theorem Matched.replace_on {R : α → α → Bool} {l s s0 : List α} {z y : α}
    (h : Matched R l s) (hs : s.Perm (z :: s0)) (hzy : ∀ w ∈ l, R w z = true → R w y = true) :
    Matched R l (y :: s0) := by
  induction h generalizing s0 with
  | nil => exact absurd hs.symm.eq_nil (by simp)
  | @cons x' y' xs' s' r hxy hm hr ih =>
    have h1 : (y' :: s').Perm (z :: s0) := hr.symm.trans hs
    have hzy' : ∀ w ∈ xs', R w z = true → R w y = true := fun w hw => hzy w (by simp [hw])
    by_cases hyz : y' = z
    · subst hyz
      exact .cons (hzy x' (by simp) hxy) (hm.perm h1.cons_inv) (List.Perm.refl _)
    · obtain ⟨t, hs', h3⟩ := perm_cons_exchange h1 hyz
      exact .cons hxy (ih hs' hzy') ((List.Perm.cons y h3).trans (List.Perm.swap y' y t))

theorem Matched.replace {R : α → α → Bool} {l s s0 : List α} {z y : α}
    (h : Matched R l s) (hs : s.Perm (z :: s0)) (hzy : ∀ w, R w z = true → R w y = true) :
    Matched R l (y :: s0) :=
  h.replace_on hs fun w _ => hzy w

theorem greedy_complete_on (Q : α → Bool) (R : α → α → Bool)
    (symm : ∀ a b, Q a = true → Q b = true → R a b = true → R b a = true)
    (trans : ∀ a b c, Q a = true → Q b = true → Q c = true →
      R a b = true → R b c = true → R a c = true)
    (l r : List α) (hl : ∀ x ∈ l, Q x = true) (hr : ∀ x ∈ r, Q x = true)
    (h : Matched R l r) : greedy R l r = true := by
  induction l generalizing r with
  | nil => cases h; simp [greedy]
  | cons x xs ih =>
    cases h with
    | @cons _ y _ s _ hxy hm hp =>
      have hx := hl x (by simp)
      have hy := hr y (hp.symm.subset (by simp))
      simp only [greedy]
      cases hrf : removeFirst (R x) r with
      | none =>
        have := removeFirst_none hrf y (hp.symm.subset (by simp))
        simp [hxy] at this
      | some r2 =>
        simp
        obtain ⟨z, hz, hp2⟩ := removeFirst_some hrf
        have hzQ := hr z (hp2.symm.subset (by simp))
        refine ih r2 (fun w hw => hl w (by simp [hw]))
          (fun w hw => hr w (hp2.symm.subset (by simp [hw]))) ?_
        have h1 : (y :: s).Perm (z :: r2) := hp.symm.trans hp2
        by_cases hyz : y = z
        · subst hyz; exact hm.perm h1.cons_inv
        · -- the greedy choice z is as good as y: every left node related to z is related to y
          obtain ⟨t, hs, h3⟩ := perm_cons_exchange h1 hyz
          have hrep := hm.replace_on hs fun w hw hwz =>
            have hwQ := hl w (by simp [hw])
            trans w x y hwQ hx hy (trans w z x hwQ hzQ hx hwz (symm x z hx hzQ hz)) hxy
          exact hrep.perm h3.symm

theorem greedy_iff_on (Q : α → Bool) (R : α → α → Bool)
    (symm : ∀ a b, Q a = true → Q b = true → R a b = true → R b a = true)
    (trans : ∀ a b c, Q a = true → Q b = true → Q c = true →
      R a b = true → R b c = true → R a c = true)
    (l r : List α) (hl : ∀ x ∈ l, Q x = true) (hr : ∀ x ∈ r, Q x = true) :
    greedy R l r = true ↔ Matched R l r :=
  ⟨greedy_sound R l r, greedy_complete_on Q R symm trans l r hl hr⟩

theorem greedy_iff (R : α → α → Bool)
    (symm : ∀ a b, R a b = true → R b a = true)
    (trans : ∀ a b c, R a b = true → R b c = true → R a c = true)
    (l r : List α) : greedy R l r = true ↔ Matched R l r :=
  greedy_iff_on (fun _ => true) R (fun a b _ _ => symm a b) (fun a b c _ _ _ => trans a b c) l r
    (fun _ _ => rfl) (fun _ _ => rfl)

end Gedcom.G

/-
  What `parseDateParts` can return (`Parsed`), the canonical sentence `Date.String` prints for it,
  and that the printed date and the printed range parse back.
-/
import Gedcom.Lemmas.DateRangeGrammar
import Gedcom.Lemmas.Basics
namespace Gedcom

/-! ## the image of `parseDateParts` -/

/-- a date as `parseDateParts` returns it when it reports no error -/
structure Parsed (d : PDate) : Prop where
  err : d.parseError = false
  month : d.month = 0 ∨ ∃ wm ∈ Generated.monthWords, wm.2 = d.month
  day : d.day = 0 ∨ calendarOK d.day d.month d.year = true
  dayLe : d.day ≤ maxInt
  yearLe : d.year ≤ maxInt

theorem atoi_le (s : Str) : atoi s ≤ maxInt := by
  unfold atoi
  simp only
  split
  · exact Nat.min_le_right _ _
  · exact Nat.zero_le _

theorem failed_isZero (c : Constraint) : (PDate.failed c).isZero = true := rfl

theorem parsed_of_nonzero {a : Str} (h : (parseDateParts a).isZero = false) : Parsed (parseDateParts a) := by
  obtain ⟨p, _, hday, _, hv⟩ := parseDateParts_nonzero h
  rw [hv]
  refine ⟨rfl, ?_, ?_, ?_, ?_⟩
  -- the fields of the literal are reduced first: left to the unifier, `atoi` gets unfolded
  all_goals dsimp only
  · cases hmo : monthOf (cleanSpace (lowerStr p.month)) with
    | none => exact Or.inl rfl
    | some m => exact Or.inr ⟨_, lookup_mem hmo, rfl⟩
  · rcases hday with hd | hc
    · exact Or.inl (by rw [hd]; exact atoi_nil)
    · exact Or.inr hc
  · exact atoi_le _
  · exact atoi_le _

theorem parse_ends (s : Str) :
    ∃ a b, (parseDateRange s).start = parseDateParts a ∧ (parseDateRange s).end_ = parseDateParts b := by
  cases hx : matchRange (cleanSpace s) with
  | some x => obtain ⟨bw, x, aw, y⟩ := x; rw [parseDateRange_of_range hx]; exact ⟨_, _, rfl, rfl⟩
  | none => rw [parseDateRange_of_single hx]; exact ⟨_, _, rfl, rfl⟩

theorem parsed_of_valid {s : Str} (h : (parseDateRange s).isValid = true) :
    Parsed (parseDateRange s).start ∧ Parsed (parseDateRange s).end_ := by
  obtain ⟨a, b, ha, hb⟩ := parse_ends s
  simp only [DateRange.isValid, Bool.and_eq_true, Bool.not_eq_true'] at h
  rw [ha, hb] at h ⊢
  exact ⟨parsed_of_nonzero h.1, parsed_of_nonzero h.2⟩

theorem eq_of_is {a b : PDate} (h : a.is b = true) (ha : a.parseError = false)
    (hb : b.parseError = false) : a = b := by
  cases a with
  | mk ad am ay ac ae =>
    cases b with
    | mk bd bm bY bc be =>
      simp only [PDate.is, Bool.and_eq_true, beq_iff_eq] at h
      obtain ⟨⟨⟨hday, hmonth⟩, hyear⟩, hconstraint⟩ := h
      simp only at ha hb
      subst hday hmonth hyear hconstraint ha hb
      rfl

/-! ## the canonical sentence of a parsed date -/

def canonKw (c : Constraint) : Option Str :=
  if c = .exact then none else some (Generated.constraintSpelling c)

def canonMonth (m : Nat) : Str := (Generated.monthAbbrev[m - 1]?).getD []

def canonBody (d : PDate) : Body :=
  if d.month = 0 then .Y 0 d.year
  else if d.day = 0 then .MY (canonMonth d.month) 0 d.year
  else .DMY 0 d.day (canonMonth d.month) 0 d.year

/-- keyword as `DateConstraint.String` prints it, day and year without leading zeros, month as
    `Date.String` abbreviates it -/
def canon (d : PDate) : Sentence := ⟨canonKw d.constraint, canonBody d⟩

theorem spelling_facts (c : Constraint) (h : c ≠ .exact) :
    KwTok (Generated.constraintSpelling c) ∧
    constraintFromString (Generated.constraintSpelling c) = c := by
  cases c with
  | exact => exact absurd rfl h
  | about => exact ⟨by unfold KwTok; decide, by decide⟩
  | before => exact ⟨by unfold KwTok; decide, by decide⟩
  | after => exact ⟨by unfold KwTok; decide, by decide⟩

theorem spelling_exact : Generated.constraintSpelling .exact = [] := by decide

/-- every month of the table: the abbreviation `Date.String` prints for it is a month word in some
    letter case and maps back to that month -/
theorem monthAbbrev_facts :
    ∀ wm ∈ Generated.monthWords,
      (match Generated.monthAbbrev[wm.2 - 1]? with
       | some ab => monthOf (lowerStr ab) == some wm.2 &&
                    Generated.monthWords.any (fun w => lowerStr w.1 == lowerStr ab)
       | none => false) = true := by decide +kernel

theorem Parsed.day_zero_of_month_zero {d : PDate} (hp : Parsed d) (hm : d.month = 0) : d.day = 0 := by
  rcases hp.day with h | h
  · exact h
  · simp [calendarOK, hm] at h

theorem canonMonth_facts {m : Nat} (h : ∃ wm ∈ Generated.monthWords, wm.2 = m) :
    MonthTok (canonMonth m) m := by
  obtain ⟨wm, hwm, rfl⟩ := h
  have := monthAbbrev_facts wm hwm
  unfold canonMonth
  cases hab : Generated.monthAbbrev[wm.2 - 1]? with
  | none => rw [hab] at this; simp at this
  | some ab =>
    rw [hab] at this
    simp only [Bool.and_eq_true, beq_iff_eq, List.any_eq_true] at this
    obtain ⟨h1, w, hw, h2⟩ := this
    -- `ab` is a case variant of some table word `w`, which need not be `wm`
    exact { monthVariant_facts hw h2.symm with month := h1, pos := (monthVariant_facts hwm rfl).pos }

theorem Parsed.canonMonth {d : PDate} (hp : Parsed d) (hm : d.month ≠ 0) :
    MonthTok (canonMonth d.month) d.month :=
  canonMonth_facts (hp.month.resolve_left hm)

theorem canonBody_word {d : PDate} {M : Str} :
    (canonBody d).word = some M → d.month ≠ 0 ∧ M = canonMonth d.month := by
  fun_cases canonBody d with
  | case1 => intro h; cases h
  | case2 hm | case3 hm => intro h; exact ⟨hm, by injection h with h; exact h.symm⟩

theorem canon_wf {d : PDate} (hp : Parsed d) : (canon d).WF := by
  refine wf_of_monthTok ?_ fun M hM => ?_
  · intro T hT
    simp only [canon, canonKw] at hT
    split at hT
    · cases hT
    · next hc =>
      injection hT with hT; subst hT
      obtain ⟨hkw, _⟩ := spelling_facts _ hc
      exact hkw
  · obtain ⟨hm, rfl⟩ := canonBody_word hM
    exact ⟨_, hp.canonMonth hm⟩

theorem numeral_zero (n : Nat) : numeral 0 n = natToDec n := by simp [numeral]

@[simp] theorem spaces_zero : spaces 0 = [] := rfl
@[simp] theorem spaces_one : spaces 1 = [32] := rfl
@[simp] theorem spaces_two : spaces 2 = [32, 32] := rfl
@[simp] theorem spaces_three : spaces 3 = [32, 32, 32] := rfl

/-- `Date.String` pastes keyword, day, month and year, each possibly empty, with single spaces and
    cleans up; of a parsed date with a year that is the canonical sentence, single-spaced -/
theorem toString_eq {d : PDate} (hp : Parsed d) (hy : 1 ≤ d.year) : d.toString = (canon d).str := by
  -- day, month and year with the space in front of each: the tokens of the body, with gaps
  obtain ⟨gt, hr, htok, hgap⟩ : ∃ gt : List (Nat × Str),
      [32] ++ (if d.day != 0 then natToDec d.day else []) ++ [32] ++
        (if d.month != 0 then canonMonth d.month else []) ++ [32] ++
        (if d.year != 0 then natToDec d.year else []) = render gt 0 ∧
      gt.map (·.2) = (canonBody d).tokens ∧ ∀ q ∈ gt, 1 ≤ q.1 := by
    have hy0 : d.year ≠ 0 := by omega
    fun_cases canonBody d with
    | case1 hm =>
      have hd := hp.day_zero_of_month_zero hm
      exact ⟨[(3, natToDec d.year)], by simp [hm, hd, hy0, render],
        by simp [Body.tokens, numeral_zero], by simp⟩
    | case2 hm hd =>
      exact ⟨[(2, canonMonth d.month), (1, natToDec d.year)], by simp [hm, hd, hy0, render],
        by simp [Body.tokens, numeral_zero], by simp⟩
    | case3 hm hd =>
      exact ⟨[(1, natToDec d.day), (1, canonMonth d.month), (1, natToDec d.year)],
        by simp [hm, hd, hy0, render], by simp [Body.tokens, numeral_zero], by simp⟩
  have hsolid : ∀ t ∈ gt.map (·.2), Solid t := htok ▸ (canonBody d).tokens_solid (canon_wf hp).body
  have hstr : d.toString = cleanSpace (Generated.constraintSpelling d.constraint ++ render gt 0) := by
    rw [← hr]; simp [PDate.toString, canonMonth]
  rw [hstr]
  unfold canon Sentence.str Sentence.tokens canonKw
  by_cases hc : d.constraint = .exact
  · have hg : GapsOK gt := by
      cases gt with
      | nil => exact absurd htok.symm (canonBody d).tokens_ne_nil
      | cons p rest => exact fun q hq => hgap q (by simp [hq])
    rw [hc, spelling_exact, List.nil_append, cleanSpace_render gt 0 hg hsolid, htok]
    rfl
  · obtain ⟨hkw, _⟩ := spelling_facts _ hc
    have hK := solid_of_kwTok hkw
    have := cleanSpace_render ((0, Generated.constraintSpelling d.constraint) :: gt) 0 hgap
      (List.forall_mem_cons.mpr ⟨hK, hsolid⟩)
    simpa [render, hc, htok] using this

theorem canon_kwText {d : PDate} : constraintFromString (canon d).kwText = d.constraint := by
  simp only [canon, Sentence.kwText, canonKw]
  by_cases hc : d.constraint = .exact
  · simp only [hc, if_true, Option.getD_none]; exact constraint_nil
  · obtain ⟨_, hback⟩ := spelling_facts _ hc
    simp only [hc, if_false, Option.getD_some]; exact hback

theorem PDate.eq_mk {d : PDate} {a b : Nat} (h1 : d.day = a) (h2 : d.month = b)
    (h3 : d.parseError = false) : ⟨a, b, d.year, d.constraint, false⟩ = d := by
  cases d
  simp only at h1 h2 h3
  subst h1 h2 h3
  rfl

theorem canon_result {d : PDate} (hp : Parsed d) : (canon d).result = d := by
  have hk : ∀ b, constraintFromString (⟨canonKw d.constraint, b⟩ : Sentence).kwText = d.constraint :=
    fun _ => canon_kwText
  have hyr : min d.year maxInt = d.year := Nat.min_eq_left hp.yearLe
  unfold Sentence.result Body.parts canon
  fun_cases canonBody d with
  | case1 hm =>
    rw [Body.groups, partsResult_Y, hk, hyr]
    exact PDate.eq_mk (hp.day_zero_of_month_zero hm) hm hp.err
  | case2 hm hd =>
    obtain ⟨hw, hmo, _⟩ := hp.canonMonth hm
    rw [Body.groups, partsResult_MY _ hw.solid, hk, hmo, hyr]
    exact PDate.eq_mk hd rfl hp.err
  | case3 hm hd =>
    obtain ⟨hw, hmo, _⟩ := hp.canonMonth hm
    rw [Body.groups, partsResult_DMY _ _ _ hw.solid, hk, hmo, hyr, Nat.min_eq_left hp.dayLe]
    simp only [if_pos (hp.day.resolve_left hd)]
    exact PDate.eq_mk rfl rfl hp.err

theorem canon_notAnd {d : PDate} (hp : Parsed d) : ∀ M, (canon d).body.word = some M → NotAnd M := by
  intro M hM
  obtain ⟨hm, rfl⟩ := canonBody_word hM
  exact (hp.canonMonth hm).notAnd

/-! ## printing a range -/

/-- the fixed words of `DateRange.String` / `DateNode.String` are a between-word followed by a
    space and an and-word between spaces -/
theorem range_words :
    ∃ BW AW, Generated.rangePrefix = BW ++ [32] ∧ Generated.rangeInfix = 32 :: (AW ++ [32]) ∧
      (∃ bk ∈ Generated.wordsBetween, lowerStr BW = lowerStr bk) ∧
      (∃ aw ∈ Generated.wordsAnd, lowerStr AW = lowerStr aw) :=
  ⟨Generated.rangePrefix.dropLast, (Generated.rangeInfix.drop 1).dropLast,
    by decide, by decide, by decide, by decide⟩

theorem parse_toString {d : PDate} (hp : Parsed d) (hy : 1 ≤ d.year) :
    (parseDateRange d.toString).start = d ∧ (parseDateRange d.toString).end_ = d := by
  rw [toString_eq hp hy, (canon d).parse (s := (canon d).str) (canon_wf hp)
    (spacing_joinSp (canon d).tokens_ne_nil), canon_result hp]
  exact ⟨rfl, rfl⟩

theorem parse_rangeText {a b : PDate} (ha : Parsed a) (hb : Parsed b) (hya : 1 ≤ a.year)
    (hyb : 1 ≤ b.year) :
    (parseDateRange (rangeText a b)).start = a ∧ (parseDateRange (rangeText a b)).end_ = b := by
  obtain ⟨BW, AW, e1, e2, hbw, haw⟩ := range_words
  have : rangeText a b = joinSp (BW :: (canon a).tokens ++ AW :: (canon b).tokens) := by
    rw [joinSp_range BW AW (canon a).tokens_ne_nil (canon b).tokens_ne_nil]
    unfold rangeText
    rw [e1, e2, toString_eq ha hya, toString_eq hb hyb]
    simp [Sentence.str]
  rw [this, range_parse (canon a) (canon b) (canon_wf ha) (canon_wf hb) (canon_notAnd hb) hbw haw
    (spacing_joinSp (by simp)), canon_result ha, canon_result hb]
  exact ⟨rfl, rfl⟩

/-- one date when both ends are the same date, else both: either way the ends come back -/
theorem parse_dateNodeToString {r : DateRange} (h1 : Parsed r.start) (h2 : Parsed r.end_)
    (hy1 : 1 ≤ r.start.year) (hy2 : 1 ≤ r.end_.year) :
    (parseDateRange (dateNodeToString r)).start = r.start ∧
    (parseDateRange (dateNodeToString r)).end_ = r.end_ := by
  unfold dateNodeToString
  split
  · next his =>
    rw [← eq_of_is his h1.err h2.err]
    exact parse_toString h1 hy1
  · exact parse_rangeText h1 h2 hy1 hy2

end Gedcom

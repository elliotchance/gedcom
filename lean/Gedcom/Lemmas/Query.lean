/-
  The outcome monad of the query evaluator (Model/Query.lean); what `mapO`, `filterO`, First /
  Last, Combine and a variable lookup return (`mapO_ok`, `filterO_ok`, `firstLast_eq`, `combine_eq`,
  `lookupVar_stmt`); non-divergence (`ND`): the evaluator diverges only through the lookup of a
  variable.
-/
import Gedcom.Model.Query
namespace Gedcom.Q

namespace Outcome

@[simp] theorem pure_eq {α} (a : α) : (pure a : Outcome α) = .ok a := rfl
@[simp] theorem ok_bind {α β} (a : α) (f : α → Outcome β) : (Outcome.ok a >>= f) = f a := rfl
@[simp] theorem error_bind {α β} (k) (f : α → Outcome β) : (Outcome.error k >>= f) = .error k := rfl
@[simp] theorem panic_bind {α β} (p) (f : α → Outcome β) : (Outcome.panic p >>= f) = .panic p := rfl
@[simp] theorem diverged_bind {α β} (f : α → Outcome β) : (Outcome.diverged >>= f) = .diverged := rfl
@[simp] theorem unsupported_bind {α β} (w) (f : α → Outcome β) : (Outcome.unsupported w >>= f) = .unsupported w := rfl
@[simp] theorem bind_def {α β} (x : Outcome α) (f : α → Outcome β) : Outcome.bind x f = (x >>= f) := rfl

instance : LawfulMonad Outcome := LawfulMonad.mk'
  (id_map := by intro α x; cases x <;> rfl)
  (pure_bind := by intros; rfl)
  (bind_assoc := by intro α β γ x f g; cases x <;> rfl)

/-- `Val` has no decidable equality: this is what closes the evaluator's test vectors by `decide`. -/
instance decEqError {α} (o : Outcome α) (k : ErrKind) : Decidable (o = .error k) :=
  match o with
  | .error k' => decidable_of_iff (k' = k) ⟨congrArg _, Outcome.error.inj⟩
  | .ok _ | .panic _ | .diverged | .unsupported _ => isFalse nofun

end Outcome

theorem mapO_ok {α β} (f : α → Outcome β) (g : α → β) :
    ∀ (l : List α), (∀ x ∈ l, f x = .ok (g x)) → mapO f l = .ok (l.map g)
  | [], _ => rfl
  | a :: l, h => by
    have ⟨ha, hl⟩ := List.forall_mem_cons.mp h
    rw [mapO, ha, mapO_ok f g l hl]
    rfl

theorem filterO_ok {α} (f : α → Outcome Bool) (p : α → Bool) :
    ∀ (l : List α), (∀ x ∈ l, f x = .ok (p x)) → filterO f l = .ok (l.filter p)
  | [], _ => rfl
  | a :: l, h => by
    have ⟨ha, hl⟩ := List.forall_mem_cons.mp h
    rw [filterO, ha, filterO_ok f p l hl]
    cases hp : p a <;> simp only [List.filter, hp] <;> rfl

theorem evalArgs_eq_mapO {env lk} (v : Val) : ∀ ss, evalArgs env lk ss v = mapO (fun s => evalStmt env lk s v) ss
  | [] => rfl
  | s :: ss => by rw [evalArgs, mapO, evalArgs_eq_mapO v ss]

theorem evalFields_eq_mapO {env lk} (v : Val) : ∀ fs, evalFields env lk fs v =
    mapO (fun f => evalStmt env lk f.2 v >>= fun r => pure (f.1, r)) fs
  | [] => rfl
  | (k, s) :: fs => by rw [evalFields, mapO, evalFields_eq_mapO v fs, bind_assoc]; rfl

theorem firstN_eq (vs : List Val) (n : Int) :
    firstN vs n = if n < 0 then .panic .sliceBounds else .ok (vs.take n.toNat) := by
  unfold firstN
  split
  · rw [if_neg (by omega), if_neg (by omega), List.take_of_length_le (by omega), List.take_of_length_le (by omega)]
  · rfl

theorem lastN_eq (vs : List Val) (n : Int) :
    lastN vs n = if n < 0 then .panic .sliceBounds else .ok (vs.drop ((vs.length : Int) - n).toNat) := by
  unfold lastN
  dsimp only
  split
  · next h =>
    rw [eq_of_beq h]
    simp
  · split
    -- `len - n < 0`: the start is clamped to 0, which is what `toNat` makes of it
    · next hl =>
      rw [if_neg (Int.not_lt.mpr (Int.natCast_nonneg _)), if_neg (by omega), Int.toNat_of_nonpos (Int.le_of_lt hl)]
      rfl
    · by_cases hn : n < 0
      · rw [if_pos (by omega), if_pos hn]
      · rw [if_neg (by omega), if_neg hn]

theorem firstLast_eq {isFirst nm e vs arg r s n} (ha : arg () = .ok r) (hs : fmtV r = some s)
    (hn : atoi s = some n) :
    firstLast isFirst (.slice nm e false vs) arg =
      if n < 0 then .panic .sliceBounds
      else .ok (.slice nm e false (if isFirst then vs.take n.toNat else vs.drop ((vs.length : Int) - n).toNat)) := by
  simp only [firstLast, wrapSlice, ha, hs, hn, Outcome.ok_bind, Bool.false_eq_true, if_false, firstN_eq, lastN_eq]
  by_cases h : n < 0
  · simp only [h, if_true]
    cases isFirst <;> rfl
  · simp only [h, if_false]
    cases isFirst <;> rfl

theorem evalCombine_cons {env lk e e' s ss v acc ws nm isNil}
    (hs : evalStmt env lk s v = .ok (.slice nm e' isNil ws)) :
    evalCombine env lk e (s :: ss) v acc =
      if e' == e then evalCombine env lk e ss v (acc ++ ws) else .panic .appendSlice := by
  rw [evalCombine, hs]
  rfl

theorem combine_eq {env lk f a rest v nm e n1 xs} (hf : fnOf f = .combine)
    (ha : evalStmt env lk a v = .ok (.slice nm e n1 xs)) :
    evalExpr env lk (.call f (a :: rest)) v =
      (evalCombine env lk e rest v xs >>= fun all => pure (.slice nm e false all)) := by
  unfold evalExpr
  rw [hf]
  simp only [ha, Outcome.ok_bind]

theorem accessElem_ok {now docs acc x r} (h : accessSingle now docs acc x = .ok r) (hr : r ≠ .nil) :
    accessElem now docs acc x = .ok r := by
  unfold accessElem
  rw [h]
  cases r with
  | nil => exact absurd rfl hr
  | _ => rfl

theorem mapDeep_nonslice {rt f v} (h : v.isSlice = false) : mapDeep rt f v = f v := by
  cases v with
  | slice => cases h
  | _ => rfl

theorem lookupVar_stmt {n eng x s} (h : lookupVar n eng x = some (.stmt s)) : s ∈ eng ∧ s.name = x := by
  unfold lookupVar at h
  split at h
  · cases h
  · obtain ⟨s', hf, hs⟩ := Option.map_eq_some_iff.mp h
    cases hs
    exact ⟨List.mem_of_find?_eq_some hf, by simpa using List.find?_some hf⟩

/-- not a divergence (stack overflow by unbounded variable recursion) -/
structure ND {α} (o : Outcome α) : Prop where
  ne : o ≠ .diverged

theorem ND_bind {α β} {x : Outcome α} {f : α → Outcome β} (hx : ND x) (hf : ∀ a, ND (f a)) : ND (x >>= f) := by
  cases x
  case ok a => exact hf a
  case diverged => exact absurd rfl hx.ne
  all_goals exact ⟨nofun⟩

theorem ND_ok {α} (a : α) : ND (Outcome.ok a) := ⟨nofun⟩
theorem ND_error {α} (k) : ND (Outcome.error k : Outcome α) := ⟨nofun⟩
theorem ND_panic {α} (k) : ND (Outcome.panic k : Outcome α) := ⟨nofun⟩
theorem ND_unsupported {α} (k) : ND (Outcome.unsupported k : Outcome α) := ⟨nofun⟩

theorem ND_mapO {α β} (f : α → Outcome β) : ∀ (l : List α), (∀ a ∈ l, ND (f a)) → ND (mapO f l)
  | [], _ => ND_ok _
  | _ :: l, h =>
    have ⟨ha, hl⟩ := List.forall_mem_cons.mp h
    ND_bind ha fun _ => ND_bind (ND_mapO f l hl) fun _ => ND_ok _

theorem ND_filterO {α} (f : α → Outcome Bool) : ∀ (l : List α), (∀ a ∈ l, ND (f a)) → ND (filterO f l)
  | [], _ => ND_ok _
  | _ :: l, h =>
    have ⟨ha, hl⟩ := List.forall_mem_cons.mp h
    ND_bind ha fun _ => ND_bind (ND_filterO f l hl) fun _ => ND_ok _

/-! the parts of the evaluator that look up no variable never diverge: the leaf functions are case
    trees with constructors other than `diverged` at the leaves -/

theorem ND_accessSingle (now docs acc v) : ND (accessSingle now docs acc v) := by
  unfold accessSingle MenuResult.toOutcome
  repeat' split
  all_goals exact ⟨nofun⟩

theorem ND_returnType (elem acc) : ND (returnType elem acc) := by
  unfold returnType
  repeat' split
  all_goals exact ⟨nofun⟩

theorem ND_accessElem (now docs acc v) : ND (accessElem now docs acc v) :=
  ND_bind (ND_accessSingle _ _ _ _) fun r => by split <;> exact ⟨nofun⟩

theorem ND_evalAccessor (now docs q v) : ND (evalAccessor now docs q v) := by
  unfold evalAccessor
  split
  · exact ND_ok _
  · exact ND_bind (ND_returnType _ _) fun rt =>
      ND_bind (ND_mapO _ _ fun a _ => ND_accessElem _ _ _ a) fun rs => ND_ok _
  · exact ND_accessSingle _ _ _ _

theorem ND_questionList (recv vars) : ND (questionList recv vars) := by
  unfold questionList
  dsimp only
  repeat' split
  all_goals exact ⟨nofun⟩

theorem ND_questionTy (vars : List Str) (t : Ty) : ND (questionTy vars t) := by
  induction t with
  | slice nm e ih =>
    unfold questionTy
    split
    · exact ND_panic _
    · split
      · exact ND_panic _
      · exact ND_unsupported _
    · exact ih
  | «opaque» => exact ND_unsupported _
  | nodeI => exact ND_panic _
  | _ => exact ND_questionList _ _

theorem ND_questionOf (vars v) : ND (questionOf vars v) := by
  unfold questionOf
  split
  · exact ND_panic _
  · exact ND_questionTy _ _

theorem ND_firstN (vs n) : ND (firstN vs n) := by
  rw [firstN_eq]
  split <;> exact ⟨nofun⟩

theorem ND_lastN (vs n) : ND (lastN vs n) := by
  rw [lastN_eq]
  split <;> exact ⟨nofun⟩

theorem ND_firstLast (isFirst v) (arg : Unit → Outcome Val) (h : ND (arg ())) : ND (firstLast isFirst v arg) := by
  unfold firstLast
  split
  · exact ND_ok _
  · split
    · exact ND_ok _
    · refine ND_bind h fun r => ?_
      split
      · exact ND_unsupported _
      · split
        · exact ND_error _
        · dsimp only
          split
          · exact ND_bind (ND_firstN _ _) fun out => ND_ok _
          · exact ND_bind (ND_lastN _ _) fun out => ND_ok _

theorem ND_keepIf (r) : ND (keepIf r) := by
  unfold keepIf
  split <;> exact ⟨nofun⟩

theorem ND_onlyWith (v) (cond : Val → Outcome Val) (h : ∀ x, ND (cond x)) : ND (onlyWith v cond) := by
  unfold onlyWith
  split
  · split
    · exact ND_panic _
    · exact ND_bind (ND_filterO _ _ fun a _ => ND_bind (h a) ND_keepIf) fun keep => ND_ok _
  · exact ND_ok _

theorem ND_tagPathWith (v) (args : Unit → Outcome (List Val)) (h : ND (args ())) : ND (tagPathWith v args) := by
  unfold tagPathWith
  dsimp only
  split
  · exact ND_panic _
  · exact ND_ok _
  · apply ND_bind h
    intro argVals
    split
    · exact ND_unsupported _
    · exact ND_bind (ND_mapO _ _ fun a _ => by split <;> exact ⟨nofun⟩) fun found => ND_ok _

theorem ND_mergeWith (a b : Unit → Outcome Val) (ha : ND (a ())) (hb : ND (b ())) : ND (mergeWith a b) := by
  refine ND_bind ha fun x => ?_
  split
  · refine ND_bind hb fun y => ?_
    split <;> exact ⟨nofun⟩
  · exact ND_error _

mutual
theorem ND_mapDeep (rt : Ty) (f : Val → Outcome Val) (hf : ∀ x, ND (f x)) (v : Val) : ND (mapDeep rt f v) := by
  cases v with
  | slice _ _ _ vs =>
    unfold mapDeep
    exact ND_bind (ND_mapDeepList rt f hf vs) fun rs => ND_ok _
  | _ => exact hf _
theorem ND_mapDeepList (rt : Ty) (f : Val → Outcome Val) (hf : ∀ x, ND (f x)) : ∀ vs, ND (mapDeepList rt f vs)
  | [] => ND_ok _
  | v :: vs => by
    unfold mapDeepList
    refine ND_bind (ND_mapDeep rt f hf v) fun r => ?_
    split
    · exact ND_panic _
    · exact ND_bind (ND_mapDeepList rt f hf vs) fun rs => ND_ok _
end

section
variable {env : Env} {lk : Lookup}

theorem ND_evalArgs_of_members (v : Val) (ss : List Stmt) (h : ∀ s ∈ ss, ND (evalStmt env lk s v)) :
    ND (evalArgs env lk ss v) := by
  rw [evalArgs_eq_mapO]
  exact ND_mapO _ _ h

theorem ND_evalCombine_of_members (e : Ty) (v : Val) : ∀ (ss : List Stmt) (acc : List Val),
    (∀ s ∈ ss, ND (evalStmt env lk s v)) → ND (evalCombine env lk e ss v acc)
  | [], _, _ => ND_ok _
  | s :: ss, acc, h => by
    have ⟨hs, hss⟩ := List.forall_mem_cons.mp h
    unfold evalCombine
    apply ND_bind hs
    intro r
    split
    · split
      · exact ND_evalCombine_of_members e v ss _ hss
      · exact ND_panic _
    · exact ND_panic _

theorem ND_evalCall_of_members (f : Str) (args : List Stmt) (v : Val)
    (h : ∀ s ∈ args, ∀ w, ND (evalStmt env lk s w)) : ND (evalExpr env lk (.call f args) v) := by
  unfold evalExpr
  -- the cases of `fnOf f`, in the order of `Fn`
  split
  · exact ND_ok _
  · exact ND_questionOf _ _
  · split
    · exact ND_firstLast _ _ _ (h _ List.mem_cons_self v)
    · exact ND_error _
  · split
    · exact ND_firstLast _ _ _ (h _ List.mem_cons_self v)
    · exact ND_error _
  · split
    · exact ND_onlyWith _ _ (h _ List.mem_cons_self)
    · exact ND_error _
  · split
    · exact ND_ok _
    · rename_i a rest
      apply ND_bind (h a List.mem_cons_self v)
      intro first
      split
      · exact ND_bind (ND_evalCombine_of_members _ v rest _ fun s hs => h s (List.mem_cons_of_mem _ hs) v)
          fun all => ND_ok _
      · exact ND_panic _
      · exact ND_panic _
  · exact ND_tagPathWith _ _ (ND_evalArgs_of_members .nil args fun s hs => h s hs .nil)
  · split
    · exact ND_mergeWith _ _ (h _ List.mem_cons_self .nil)
        (h _ (List.mem_cons_of_mem _ List.mem_cons_self) .nil)
    · exact ND_error _
  · exact ND_unsupported _

end

/-! the variables mentioned by a piece of syntax -/

mutual
def varsE : Expr → List Str
  | .var n => [n]
  | .call _ args => varsSs args
  | .obj fs => varsFs fs
  | .bin l _ r => varsE l ++ varsE r
  | .const _ | .acc _ | .question => []
def varsEs : List Expr → List Str
  | [] => []
  | e :: es => varsE e ++ varsEs es
def varsS : Stmt → List Str
  | .mk _ es => varsEs es
def varsSs : List Stmt → List Str
  | [] => []
  | s :: ss => varsS s ++ varsSs ss
def varsFs : List (Str × Stmt) → List Str
  | [] => []
  | (_, s) :: fs => varsS s ++ varsFs fs
end

end Gedcom.Q

/-
  Self-merge: merging a tree with (a copy of) itself adds nothing, as long as no two sibling
  nodes are Equal to each other — the result is the tree with its children re-ordered
  (`Reorder`, Gedcom/Lemmas/ReorderEdit.lean: MergeNodeSlices moves merged nodes to the end).
-/
import Gedcom.Lemmas.MergeCover
import Gedcom.Lemmas.MergeFresh
import Gedcom.Lemmas.MergeFuel
import Gedcom.Lemmas.ReorderEdit
namespace Gedcom

/-- pointwise relation between lists of two types; `All2` (Lemmas/Matching.lean) is the case of
    one type -/
inductive Pw {α β : Type} (P : α → β → Prop) : List α → List β → Prop
  | nil : Pw P [] []
  | cons {a : α} {b : β} {l : List α} {r : List β} : P a b → Pw P l r → Pw P (a :: l) (b :: r)

theorem Pw.append {α β : Type} {P : α → β → Prop} {l1 l2 : List α} {r1 r2 : List β}
    (h1 : Pw P l1 r1) (h2 : Pw P l2 r2) : Pw P (l1 ++ l2) (r1 ++ r2) := by
  induction h1 with
  | nil => exact h2
  | cons hab _ ih => exact .cons hab ih

theorem Pw.mono {α β : Type} {P Q : α → β → Prop} {l : List α} {r : List β} (h : Pw P l r)
    (hpq : ∀ a b, P a b → Q a b) : Pw Q l r := by
  induction h with
  | nil => exact .nil
  | cons hab _ ih => exact .cons (hpq _ _ hab) ih

theorem Pw.split_right {α β : Type} {P : α → β → Prop} {l : List α} {pre post : List β} {x : β}
    (h : Pw P l (pre ++ x :: post)) :
    ∃ l1 a l2, l = l1 ++ a :: l2 ∧ Pw P l1 pre ∧ P a x ∧ Pw P l2 post := by
  induction pre generalizing l with
  | nil =>
    cases h with
    | cons hab hr => exact ⟨[], _, _, rfl, .nil, hab, hr⟩
  | cons y ys ih =>
    cases h with
    | cons hab hr =>
      obtain ⟨l1, a, l2, e, h1, h2, h3⟩ := ih hr
      exact ⟨_ :: l1, a, l2, by simp [e], .cons hab h1, h2, h3⟩

theorem Pw.mem_left {α β : Type} {P : α → β → Prop} {l : List α} {r : List β} (h : Pw P l r)
    {a : α} (ha : a ∈ l) : ∃ b ∈ r, P a b := by
  induction h with
  | nil => cases ha
  | @cons a' b' l' r' hab _ ih =>
    rcases List.mem_cons.mp ha with rfl | ha
    · exact ⟨b', by simp, hab⟩
    · obtain ⟨b, hb, hp⟩ := ih ha
      exact ⟨b, by simp [hb], hp⟩

theorem Pw.toReorderL {β : Type} {g : β → Node} {l : List Node} {r : List β}
    (h : Pw (fun k e => Reorder k (g e)) l r) : ReorderL l (r.map g) := by
  induction h with
  | nil => exact .nil
  | cons hab _ ih => exact .cons hab ih

def noEqList : List Node → Bool
  | [] => true
  | k :: ks => ks.all (fun x => !equalsShallow k x && !equalsShallow x k) && noEqList ks

mutual
/-- no sibling group anywhere in the tree contains two Equal nodes -/
def noEqSib : Node → Bool
  | .mk _ _ _ ks => noEqList ks && noEqSibList ks
def noEqSibList : List Node → Bool
  | [] => true
  | k :: ks => noEqSib k && noEqSibList ks
end

theorem noEqSibList_iff (ks : List Node) : noEqSibList ks = true ↔ ∀ k ∈ ks, noEqSib k = true := by
  induction ks with
  | nil => simp [noEqSibList]
  | cons k ks ih => simp [noEqSibList, ih]

theorem noEqSib_iff {n : Node} :
    noEqSib n = true ↔ noEqList n.kids = true ∧ ∀ k ∈ n.kids, noEqSib k = true := by
  cases n with
  | mk t v p ks => simp [noEqSib, noEqSibList_iff, Node.kids]

theorem noEqList_eq {ks : List Node} (h : noEqList ks = true) {a b : Node} (ha : a ∈ ks)
    (hb : b ∈ ks) (he : equalsShallow a b = true) : a = b := by
  induction ks with
  | nil => cases ha
  | cons k ks ih =>
    simp only [noEqList, Bool.and_eq_true, List.all_eq_true, Bool.not_eq_true'] at h
    rcases List.mem_cons.mp ha with ha' | ha'
    · rcases List.mem_cons.mp hb with hb' | hb'
      · rw [ha', hb']
      · subst ha'; have := (h.1 b hb').1; rw [he] at this; cases this
    · rcases List.mem_cons.mp hb with hb' | hb'
      · subst hb'; have := (h.1 a ha').2; rw [he] at this; cases this
      · exact ih h.2 ha' hb'

theorem noEqList_nodup {ks : List Node} (h : noEqList ks = true) : ks.Nodup := by
  induction ks with
  | nil => exact List.nodup_nil
  | cons k ks ih =>
    simp only [noEqList, Bool.and_eq_true, List.all_eq_true, Bool.not_eq_true'] at h
    refine List.nodup_cons.mpr ⟨?_, ih h.2⟩
    intro hk
    have := (h.1 k hk).1
    rw [equalsShallow_refl k] at this; cases this

/-- contract of a merge function on nodes whose values lie in `ks`: it declines two different
    values and merges two equal ones into a re-ordering of that value -/
structure SelfFn (f : MergeFn) (ks : List Node) : Prop where
  decline : ∀ a b s, a.erase ∈ ks → b.erase ∈ ks → a.erase ≠ b.erase → (f a b s).1 = none
  accept : ∀ a b s, a.erase ∈ ks → b.erase = a.erase →
    ∃ m, (f a b s).1 = some m ∧ Reorder a.erase m.erase

theorem contains_cons_false {x y : Nat} {mg : List Nat} :
    (x :: mg).contains y = false ↔ y ≠ x ∧ mg.contains y = false := by
  simp only [List.contains_eq_mem, List.mem_cons, decide_eq_false_iff_not, not_or, ne_eq]

theorem pw_of_map_eq {α β : Type} (g : β → α) : ∀ (l : List β) (ks : List α), l.map g = ks →
    Pw (fun k e => g e = k) ks l := by
  intro l
  induction l with
  | nil => intro ks h; simp at h; subst h; exact .nil
  | cons x xs ih =>
    intro ks h
    cases ks with
    | nil => simp at h
    | cons k ks =>
      simp only [List.map_cons, List.cons.injEq] at h
      exact .cons h.1 (ih ks h.2)

/-- slice element `e` stands for source value `k`: it is a re-ordering of `k`, and exactly `k`
    while it has not been merged -/
def SelfRel (mg : List Nat) (k : Node) (e : Elem) : Prop :=
  Reorder k e.node.erase ∧ (mg.contains e.node.id = false → e.node.erase = k)

/-- Invariant of a self-merge over different values `ks`: every slice element stands for one of
    them, and every right node still to do has an unmerged element of its value.  So a sweep always
    merges, and the branch that appends a right node is dead. -/
structure SelfInv (ks : List Node) (sl : List Elem) (rt : List (Nat × INode)) (mg : List Nat)
    (s : MSt) : Prop where
  below : ∀ e ∈ sl, e.node.id < s.next
  stands : ∃ srcs, srcs.Perm ks ∧ Pw (SelfRel mg) srcs sl
  right_mem : ∀ y ∈ rt, y.2.erase ∈ ks
  right_nodup : (rt.map (·.2.erase)).Nodup
  partner : ∀ y ∈ rt, ∃ e ∈ sl, mg.contains e.node.id = false ∧ e.node.erase = y.2.erase

theorem mergeNodeSlices_self (f : MergeFn) (hfr : FreshFn f) (ks : List Node) (hs : SelfFn f ks)
    (hnd : ks.Nodup) (l r : List INode) (st : MSt) (hl : l.map INode.erase = ks)
    (hr : r.map INode.erase = ks) :
    ∃ srcs, srcs.Perm ks ∧
      ReorderL srcs ((mergeNodeSlices ⟨true, true, true⟩ f l r st).1.map INode.erase) := by
  have hcf := copyLeft_made (Follows.fresh (fl := ⟨true, true, true⟩) rfl rfl hfr l r) (indexed l) st
    indexed_get (Ext.refl _ st)
  have hsl : (copyLeft ⟨true, true, true⟩ (indexed l) st).1.map (·.node.erase) = ks := by
    rw [copyLeft_erase, indexed_map_erase, hl]
  have hre : (indexed r).map (·.2.erase) = ks := by rw [indexed_map_erase, hr]
  have h := mergeLoop_inv ⟨true, true, true⟩ (f := f) (Inv := SelfInv ks)
    ⟨by
      intro sl rt mg e _ _ j r' s s' _ hfe h
      have := (hfr e.node r' s).1
      rw [hfe] at this
      exact { h with below := fun e' he' => Nat.lt_of_lt_of_le (h.below e' he') this.1 },
     by
      intro pre e post rpre j r' rpost mg s m s' hc hfe h
      obtain ⟨h0, ⟨srcs, hperm, hpw⟩, h4, h5, h6⟩ := h
      obtain ⟨s1, k, s2, hsrc, hp1, hpk, hp2⟩ := hpw.split_right
      have hk : e.node.erase = k := hpk.2 hc
      have he : e.node.erase ∈ ks := hk ▸ hperm.subset (hsrc ▸ List.mem_append_cons_self)
      have hr' := h4 (j, r') List.mem_append_cons_self
      have heq : e.node.erase = r'.erase := by
        by_cases heq : e.node.erase = r'.erase
        · exact heq
        · have := hs.decline e.node r' s he hr' heq
          rw [hfe] at this; cases this
      obtain ⟨m', hm', hreo⟩ := hs.accept e.node r' s he heq.symm
      rw [hfe] at hm'
      simp only [Option.some.injEq] at hm'
      subst hm'
      have hfresh := hfr e.node r' s
      rw [hfe] at hfresh
      -- the merged node is a new object: its id is above every id in the slice
      have hm : s.next ≤ m.id ∧ m.id < s'.next := (hfresh.2 m rfl).id
      refine ⟨?_, ?_, fun y hy => h4 y (mem_removed hy),
        h5.sublist (((List.sublist_cons_self (j, r') rpost).append_left rpre).map _), ?_⟩
      · intro e' he'
        rcases mem_merged (e := e) he' with he' | rfl
        · exact Nat.lt_of_lt_of_le (h0 e' he') hfresh.1.1
        · exact hm.2
      · refine ⟨s1 ++ s2 ++ [k], ?_, ?_⟩
        · refine List.Perm.trans ?_ hperm
          rw [hsrc, List.append_assoc]
          exact List.Perm.append_left s1 List.perm_append_comm
        · have hmono : ∀ (a : Node) (b : Elem), SelfRel mg a b → SelfRel (m.id :: mg) a b :=
            fun a b hab => ⟨hab.1, fun hcb => hab.2 (contains_cons_false.mp hcb).2⟩
          refine ((hp1.mono hmono).append (hp2.mono hmono)).append (.cons ⟨?_, ?_⟩ .nil)
          · rw [← hk]; exact hreo
          · intro hcm
            exact absurd rfl (contains_cons_false.mp hcm).1
      · intro y hy
        obtain ⟨ey, hey, hcy, hey'⟩ := h6 y (mem_removed hy)
        have hne : ey.node.id ≠ m.id := Nat.ne_of_lt (Nat.lt_of_lt_of_le (h0 ey hey) hm.1)
        rcases mem_middle.mp hey with rfl | hey
        · -- the right node used was the only one with the value of the element merged
          exact absurd (hey'.symm.trans heq)
            (nodup_map_middle (fun x : Nat × INode => x.2.erase) h5 y hy)
        · exact ⟨ey, List.mem_append_left _ hey, contains_cons_false.mpr ⟨hne, hcy⟩, hey'⟩⟩
    (by
      intro sl j0 r0 rtail mg s hnf h
      exfalso
      obtain ⟨_, _, h4, _, h6⟩ := h
      obtain ⟨e, he, hc, hee⟩ := h6 (j0, r0) List.mem_cons_self
      obtain ⟨s1, s2, hf⟩ := hnf e he hc (j0, r0) List.mem_cons_self
      obtain ⟨m, hm, _⟩ := hs.accept e.node r0 s1 (hee ▸ h4 _ List.mem_cons_self) hee.symm
      rw [hf] at hm; cases hm)
    (copyLeft ⟨true, true, true⟩ (indexed l) st).1 (indexed r) []
    (copyLeft ⟨true, true, true⟩ (indexed l) st).2
    (by
      refine ⟨?_, ⟨ks, List.Perm.refl _, ?_⟩, ?_, by rw [hre]; exact hnd, ?_⟩
      · intro e he
        exact ((hcf.2.2 e he).2.fresh rfl rfl hfr).id.2
      · exact (pw_of_map_eq (fun e : Elem => e.node.erase) _ ks hsl).mono
          (fun a b hab => ⟨by rw [← hab]; exact Reorder.refl _, fun _ => hab⟩)
      · intro y hy
        rw [← hre]; exact List.mem_map_of_mem hy
      · intro y hy
        have : y.2.erase ∈ (copyLeft ⟨true, true, true⟩ (indexed l) st).1.map (·.node.erase) := by
          rw [hsl, ← hre]; exact List.mem_map_of_mem hy
        obtain ⟨e, he, hee⟩ := List.mem_map.mp this
        exact ⟨e, he, rfl, hee⟩)
  obtain ⟨mg, _, ⟨srcs, hperm, hpw⟩, _⟩ := h
  refine ⟨srcs, hperm, ?_⟩
  show ReorderL srcs
    (((mergeNodeSlicesP ⟨true, true, true⟩ f l r st).1.map (·.node)).map INode.erase)
  rw [List.map_map]
  exact (hpw.mono fun a b hab => hab.1).toReorderL

theorem reorder_dates {a a' : Node} (h : Reorder a a') :
    (∀ d ∈ a.dates, ∃ d' ∈ a'.dates, d'.value = d.value) ∧
    (∀ d' ∈ a'.dates, ∃ d ∈ a.dates, d'.value = d.value) := by
  cases h with
  | @mk t v p ks ks'' ks' hro hperm =>
    have hL := hro.filter isDate fun _ _ h => isDate_reorder h
    have hP := hperm.filter isDate
    constructor
    · intro d hd
      obtain ⟨y, hy, hre⟩ := hL.mem_left hd
      exact ⟨y, hP.subset hy, hre.head.2.1.symm⟩
    · intro d' hd'
      obtain ⟨x, hx, hre⟩ := hL.mem_right (hP.symm.subset hd')
      exact ⟨x, hx, hre.head.2.1.symm⟩

/-- under the guard, Equals of a receiver does not change when its children are re-ordered -/
theorem equalsShallow_reorder_iff {D : List Str} {a a' b : Node} (h : Reorder a a')
    (ha : nodeOK D a = true) : equalsShallow a b = true ↔ equalsShallow a' b = true := by
  have hh : sameHdr a a' := h.head
  by_cases hr : a.rule = .resi ∨ a.rule = .even
  · have hr' : a'.rule = .resi ∨ a'.rule = .even := by rw [← hh.rule]; exact hr
    have hd := (nodeOK_iff.mp ha).2 hr
    obtain ⟨c1, c2⟩ := reorder_dates h
    have hd' : a'.dates ≠ [] := by
      obtain ⟨d, hdm⟩ := List.exists_mem_of_ne_nil _ hd
      obtain ⟨d', hd', _⟩ := c1 d hdm
      exact List.ne_nil_of_mem hd'
    rw [equalsShallow_dated_iff hr hd, equalsShallow_dated_iff hr' hd', hh.rule]
    constructor
    · rintro ⟨hb, d, hdm, db, hdb, hv⟩
      obtain ⟨d', hd'm, hv'⟩ := c1 d hdm
      exact ⟨hb, d', hd'm, db, hdb, by rw [hv']; exact hv⟩
    · rintro ⟨hb, d', hdm, db, hdb, hv⟩
      obtain ⟨d, hd'm, hv'⟩ := c2 d' hdm
      exact ⟨hb, d, hd'm, db, hdb, by rw [← hv']; exact hv⟩
  · obtain ⟨h1, h2⟩ := not_or.mp hr
    rw [equalsShallow_congr (b := b) (b' := b) hh ⟨rfl, rfl, rfl⟩ h1 h2]

theorem foldRight_self {D : List Str} (eqf : MergeFn) (hfr : FreshFn eqf) (root : Nat)
    (rootTag : Str) (ks : List Node) (hne : noEqList ks = true) (hok : ∀ k ∈ ks, wideOK D k = true)
    (hself : ∀ k ∈ ks, SelfFn eqf k.kids ∧ k.kids.Nodup)
    (kids cur : List INode) (st : MSt) (hcur : cur.map INode.erase = ks)
    (hkids : kids.map INode.erase = ks) :
    ReorderL ks ((foldRight ⟨true, true, true⟩ eqf root rootTag cur kids st).1.map INode.erase) := by
  have hnd : ks.Nodup := noEqList_nodup hne
  -- `c` stands pointwise for `ks`, exactly while the right partner is still to come: so every
  -- right child finds its Equal partner and the branch that appends a copy is dead
  let Inv : List INode → List INode → MSt → Prop := fun c rest _ =>
    Pw (fun k n => Reorder k n.erase ∧ (k ∈ rest.map INode.erase → n.erase = k)) ks c ∧
    (∀ x ∈ rest, x.erase ∈ ks) ∧ (rest.map INode.erase).Nodup
  have h := foldRight_inv ⟨true, true, true⟩ eqf root rootTag Inv
    (by
      intro pre n post child rest s _ hE h
      obtain ⟨hpw, h2, h3⟩ := h
      obtain ⟨k1, k, k2, hks, hp1, hpk, hp2⟩ := hpw.split_right
      have hkm : k ∈ ks := by rw [hks]; simp
      have hcm : child.erase ∈ ks := h2 child (by simp)
      have hkc : k = child.erase := by
        apply noEqList_eq hne hkm hcm
        exact (equalsShallow_reorder_iff hpk.1 (wideOK_iff.mp (hok k hkm)).1).mpr hE
      have hnk : n.erase = k := hpk.2 (by rw [hkc]; simp)
      have hsk := hself k hkm
      have hm := mergeNodeSlices_self eqf hfr k.kids hsk.1 hsk.2 child.kids n.kids s
        (by rw [← INode.erase_kids, ← hkc]) (by rw [← INode.erase_kids, hnk])
      obtain ⟨srcs, hperm, hro⟩ := hm
      obtain ⟨r', hr', hpw'⟩ := G.All2.perm_left hperm (hro.all2 fun _ _ _ h => h)
      have hnew : Reorder k
          (n.setKids (mergeNodeSlices ⟨true, true, true⟩ eqf child.kids n.kids s).1).erase := by
        rw [INode.setKids_erase, ← hnk, INode.erase_eq n]
        exact .mk (by rw [← INode.erase_kids, hnk]; exact .of_all2 hpw') hr'.symm
      have hnd' := h3
      simp only [List.map_cons, List.nodup_cons] at hnd'
      -- the other children stay what they were, for one right child fewer
      have keep : ∀ (a : Node) (b : INode),
          Reorder a b.erase ∧ (a ∈ (child :: rest).map INode.erase → b.erase = a) →
          Reorder a b.erase ∧ (a ∈ rest.map INode.erase → b.erase = a) :=
        fun a b hab => ⟨hab.1, fun ha => hab.2 (List.mem_cons_of_mem _ ha)⟩
      refine ⟨?_, fun x hx => h2 x (List.mem_cons_of_mem _ hx), hnd'.2⟩
      rw [hks]
      refine (hp1.mono keep).append (.cons ⟨hnew, fun hk => ?_⟩ (hp2.mono keep))
      rw [hkc] at hk
      exact absurd hk hnd'.1)
    (by
      intro c child rest s hnone h
      exfalso
      obtain ⟨hpw, h2, _⟩ := h
      have hcm : child.erase ∈ ks := h2 child (by simp)
      obtain ⟨n, hn, hrel, _⟩ := hpw.mem_left hcm
      have := hnone n hn
      rw [(equalsShallow_reorder_iff hrel (wideOK_iff.mp (hok _ hcm)).1).mp
        (equalsShallow_refl _)] at this
      cases this)
    kids cur st
    (by
      refine ⟨?_, ?_, by rw [hkids]; exact hnd⟩
      · exact (pw_of_map_eq INode.erase cur ks hcur).mono
          (fun a b hab => ⟨by rw [← hab]; exact Reorder.refl _, fun _ => hab⟩)
      · intro x hx; rw [← hkids]; exact List.mem_map_of_mem hx)
  exact (h.1.mono fun a b hab => hab.1).toReorderL

theorem eqMergeWith_self (mn : INode → INode → MSt → MergeOutcome) {ks : List Node}
    (hne : noEqList ks = true)
    (h : ∀ a b s, a.erase ∈ ks → a.erase = b.erase →
      ∃ m s', mn a b s = .ok m s' ∧ Reorder a.erase m.erase) : SelfFn (eqMergeWith mn) ks := by
  constructor
  · intro a b s ha hb hab
    unfold eqMergeWith
    split
    · rename_i hE
      exact absurd (noEqList_eq hne ha hb hE) hab
    · rfl
  · intro a b s ha hb
    obtain ⟨m, s', hm, hre⟩ := h a b s ha hb.symm
    refine ⟨m, ?_, hre⟩
    unfold eqMergeWith
    rw [if_pos (by rw [hb]; exact equalsShallow_refl _), hm]

/-- Of the guard only "every RESI / EVEN node has a DATE child" is used
    (`equalsShallow_reorder_iff`); the budget is the height of the tree. -/
theorem mergeNodesF_self {D : List Str} (fuel : Nat) :
    ∀ (l r : INode) (st : MSt), l.erase = r.erase → l.erase.hgt ≤ fuel → noEqSib l.erase = true →
      wideOK D l.erase = true →
      ∃ m st', mergeNodesF ⟨true, true, true⟩ fuel l r st = .ok m st' ∧ Reorder l.erase m.erase := by
  induction fuel with
  | zero => intro l r st _ h; rw [Node.hgt_eq] at h; omega
  | succ fuel ih =>
    intro l r st heq hh hne hok
    have htag : l.tag = r.tag := by rw [← INode.erase_tag l, ← INode.erase_tag r, heq]
    rw [mergeNodesF_succ, if_neg (by simp [htag])]
    refine ⟨_, _, rfl, ?_⟩
    have hck : (copyM l st).1.kids.map INode.erase = l.erase.kids := by
      rw [copyM_kids_erase, INode.erase_kids]
    have hrk : r.kids.map INode.erase = l.erase.kids := by rw [← INode.erase_kids, heq]
    have hne' := noEqSib_iff.mp hne
    have hok' := wideOK_iff.mp hok
    rw [Node.hgt_eq] at hh
    have hf := foldRight_self (D := D) (eqMergeWith (mergeNodesF ⟨true, true, true⟩ fuel))
      (eqMergeWith_fresh _ (mergeNodesF_fresh fuel)) (copyM l st).1.id l.tag l.erase.kids hne'.1
      (fun k hk => hok'.2 k hk)
      (by
        intro k hk
        have hkne := noEqSib_iff.mp (hne'.2 k hk)
        have hkok := wideOK_iff.mp (hok'.2 k hk)
        have hkh : k.hgt ≤ fuel := by have := hgtList_le.mp (Nat.le_refl _) k hk; omega
        rw [Node.hgt_eq] at hkh
        exact ⟨eqMergeWith_self _ hkne.1 fun a b s ha hab => ih a b s hab
          (by have := hgtList_le.mp (Nat.le_refl _) _ ha; omega) (hkne.2 _ ha) (hkok.2 _ ha),
          noEqList_nodup hkne.1⟩)
      r.kids (copyM l st).1.kids (copyM l st).2 hck hrk
    rw [copyM_setKids_erase, INode.erase_eq l]
    rw [INode.erase_kids] at hf
    exact .mk hf (List.Perm.refl _)

end Gedcom

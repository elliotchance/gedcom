/-
  Perfect matchings between two lists: `G.Matched` along a `Bool`-valued relation (what Lemmas/Greedy.lean
  decides and Lemmas/EqualGuard.lean lifts through the tree) and `PMatch`, the same inductive along a
  `Prop`-valued one (`matched_iff_pmatch`): what holds for every relation (`perm_right`, `length_eq`, `filter`)
  is proved for `PMatch` and read back.  For `Matched`: characterisation through `All2` up to a
  permutation; partners, symmetry, transitivity and counting when the relation behaves on the elements
  involved.  No imports.
-/
namespace Gedcom

inductive PMatch {α : Type} (R : α → α → Prop) : List α → List α → Prop
  | nil : PMatch R [] []
  | cons {x y : α} {xs r s : List α} : R x y → r.Perm (y :: s) → PMatch R xs s → PMatch R (x :: xs) r

namespace PMatch
variable {α : Type} {R : α → α → Prop}

theorem length_eq {l r : List α} (h : PMatch R l r) : l.length = r.length := by
  induction h with
  | nil => rfl
  | cons _ hp _ ih => rw [hp.length_eq]; simp [ih]

theorem perm_right {l r r' : List α} (h : PMatch R l r) (hp : r.Perm r') : PMatch R l r' := by
  cases h with
  | nil => have := hp.nil_eq; subst this; exact PMatch.nil
  | cons hxy hr hm => exact PMatch.cons hxy (hp.symm.trans hr) hm

theorem append {l r l' r' : List α} (h : PMatch R l r) (h' : PMatch R l' r') :
    PMatch R (l ++ l') (r ++ r') := by
  induction h with
  | nil => simpa using h'
  | cons hxy hr _ ih =>
    exact PMatch.cons hxy ((hr.append_right _).trans (by simp)) ih

theorem filter {l r : List α} (p : α → Bool) (h : PMatch R l r)
    (hc : ∀ x ∈ l, ∀ y ∈ r, R x y → p x = p y) : PMatch R (l.filter p) (r.filter p) := by
  induction h with
  | nil => exact PMatch.nil
  | @cons x y xs r s hxy hr _ ih =>
    have hy : y ∈ r := hr.symm.subset (List.mem_cons_self)
    have hs : ∀ z ∈ s, z ∈ r := fun z hz => hr.symm.subset (List.mem_cons_of_mem _ hz)
    have ih' := ih (fun x' hx' y' hy' => hc x' (List.mem_cons_of_mem _ hx') y' (hs y' hy'))
    have hpxy := hc x List.mem_cons_self y hy hxy
    have hrf : (r.filter p).Perm ((y :: s).filter p) := hr.filter p
    cases hpx : p x with
    | true =>
      rw [List.filter_cons_of_pos hpx]
      rw [List.filter_cons_of_pos (hpxy ▸ hpx)] at hrf
      exact PMatch.cons hxy hrf ih'
    | false =>
      rw [List.filter_cons_of_neg (Bool.eq_false_iff.mp hpx)]
      rw [List.filter_cons_of_neg (Bool.eq_false_iff.mp (hpxy ▸ hpx))] at hrf
      exact ih'.perm_right hrf.symm

theorem mono {R' : α → α → Prop} {l r : List α} (h : PMatch R l r)
    (hrr : ∀ x ∈ l, ∀ y ∈ r, R x y → R' x y) : PMatch R' l r := by
  induction h with
  | nil => exact PMatch.nil
  | @cons x y xs r s hxy hr _ ih =>
    have hy : y ∈ r := hr.symm.subset (List.mem_cons_self)
    have hs : ∀ z ∈ s, z ∈ r := fun z hz => hr.symm.subset (List.mem_cons_of_mem _ hz)
    exact PMatch.cons (hrr x List.mem_cons_self y hy hxy) hr
      (ih (fun x' hx' y' hy' => hrr x' (List.mem_cons_of_mem _ hx') y' (hs y' hy')))

end PMatch

end Gedcom

namespace Gedcom.G
variable {α : Type}

/-- A perfect matching of l into r (order of r irrelevant). -/
inductive Matched (R : α → α → Bool) : List α → List α → Prop
  | nil : Matched R [] []
  | cons {x y xs s r} : R x y = true → Matched R xs s → r.Perm (y :: s) → Matched R (x :: xs) r

theorem matched_iff_pmatch {R : α → α → Bool} {l r : List α} :
    Matched R l r ↔ PMatch (fun a b => R a b = true) l r := by
  constructor
  · intro h
    induction h with
    | nil => exact .nil
    | cons hxy _ hr ih => exact .cons hxy hr ih
  · intro h
    induction h with
    | nil => exact .nil
    | cons hxy hr _ ih => exact .cons hxy ih hr

theorem Matched.perm {R : α → α → Bool} {l r r' : List α} (h : Matched R l r) (hp : r.Perm r') :
    Matched R l r' :=
  matched_iff_pmatch.mpr ((matched_iff_pmatch.mp h).perm_right hp)

/-- pointwise relation of two lists (core has no `Forall₂`) -/
inductive All2 {α : Type} (P : α → α → Prop) : List α → List α → Prop
  | nil : All2 P [] []
  | cons {a b : α} {l r : List α} : P a b → All2 P l r → All2 P (a :: l) (b :: r)

theorem matched_iff {R : α → α → Bool} {l r : List α} :
    Matched R l r ↔ ∃ r', r.Perm r' ∧ All2 (fun a b => R a b = true) l r' := by
  constructor
  · intro h
    induction h with
    | nil => exact ⟨[], List.Perm.refl _, All2.nil⟩
    | @cons x y xs s r hxy _ hr ih =>
      obtain ⟨s', hs', hf⟩ := ih
      exact ⟨y :: s', hr.trans (List.Perm.cons y hs'), All2.cons hxy hf⟩
  · rintro ⟨r', hp, hf⟩
    induction hf generalizing r with
    | nil => have := hp.eq_nil; subst this; exact .nil
    | @cons a b l' r'' hab _ ih => exact .cons hab (ih (List.Perm.refl _)) hp

theorem All2.perm_left {P : α → α → Prop} {l l' r : List α} (hp : l.Perm l')
    (hf : All2 P l r) : ∃ r', r.Perm r' ∧ All2 P l' r' := by
  induction hp generalizing r with
  | nil => cases hf; exact ⟨[], List.Perm.refl _, .nil⟩
  | @cons x l1 l2 _ ih =>
    cases hf with
    | @cons _ b _ r1 hxb hf' =>
      obtain ⟨r1', hr, hf''⟩ := ih hf'
      exact ⟨b :: r1', List.Perm.cons b hr, .cons hxb hf''⟩
  | swap x y l0 =>
    cases hf with
    | @cons _ b1 _ r1 h1 hf' =>
      cases hf' with
      | @cons _ b2 _ r0 h2 hf'' =>
        exact ⟨b2 :: b1 :: r0, List.Perm.swap b2 b1 r0, .cons h2 (.cons h1 hf'')⟩
  | trans _ _ ih1 ih2 =>
    obtain ⟨r1, hr1, hf1⟩ := ih1 hf
    obtain ⟨r2, hr2, hf2⟩ := ih2 hf1
    exact ⟨r2, hr1.trans hr2, hf2⟩

theorem All2.refl {P : α → α → Prop} {l : List α} (h : ∀ x ∈ l, P x x) : All2 P l l := by
  induction l with
  | nil => exact .nil
  | cons x xs ih => exact .cons (h x (by simp)) (ih fun y hy => h y (by simp [hy]))

theorem All2.mem_left {P : α → α → Prop} {l r : List α} (hf : All2 P l r) {x : α} (hx : x ∈ l) :
    ∃ y ∈ r, P x y := by
  induction hf with
  | nil => cases hx
  | @cons a b l' r' hab _ ih =>
    rcases List.mem_cons.mp hx with rfl | hx
    · exact ⟨b, by simp, hab⟩
    · obtain ⟨y, hy, hxy⟩ := ih hx
      exact ⟨y, by simp [hy], hxy⟩

theorem Matched.length_eq {R : α → α → Bool} {l r : List α} (h : Matched R l r) :
    l.length = r.length :=
  (matched_iff_pmatch.mp h).length_eq

theorem Matched.exists_right {R : α → α → Bool} {l r : List α} (h : Matched R l r) {x : α}
    (hx : x ∈ l) : ∃ z ∈ r, R x z = true := by
  obtain ⟨r', hp, hf⟩ := matched_iff.mp h
  obtain ⟨y, hy, hxy⟩ := hf.mem_left hx
  exact ⟨y, hp.symm.subset hy, hxy⟩

theorem Matched.perm_left {R : α → α → Bool} {l l' r : List α} (h : Matched R l r)
    (hp : l.Perm l') : Matched R l' r := by
  obtain ⟨r', hr, hf⟩ := matched_iff.mp h
  obtain ⟨r'', hr', hf'⟩ := All2.perm_left hp hf
  exact matched_iff.mpr ⟨r'', hr.trans hr', hf'⟩

theorem Matched.filter {R : α → α → Bool} {l r : List α} (f : α → Bool)
    (hf : ∀ a b, R a b = true → f a = f b) (h : Matched R l r) :
    Matched R (l.filter f) (r.filter f) :=
  matched_iff_pmatch.mpr ((matched_iff_pmatch.mp h).filter f fun a _ b _ => hf a b)

theorem Matched.symm_on {R : α → α → Bool} {l r : List α}
    (h : ∀ a ∈ l, ∀ b ∈ r, R a b = true → R b a = true) (hm : Matched R l r) :
    Matched R r l := by
  induction hm with
  | nil => exact .nil
  | @cons x y xs s r hxy _ hr ih =>
    have hs := ih fun a ha b hb => h a (by simp [ha]) b (hr.symm.subset (by simp [hb]))
    exact (Matched.cons (h x (by simp) y (hr.symm.subset (by simp)) hxy) hs
      (List.Perm.refl _)).perm_left hr.symm

theorem Matched.trans_on {R : α → α → Bool} {l m r : List α}
    (h : ∀ a ∈ l, ∀ b ∈ m, ∀ c ∈ r, R a b = true → R b c = true → R a c = true)
    (h1 : Matched R l m) (h2 : Matched R m r) : Matched R l r := by
  induction h1 generalizing r with
  | nil => cases h2; exact .nil
  | @cons x y xs s m hxy _ hm ih =>
    cases h2.perm_left hm with
    | @cons _ z _ t _ hyz h2' hr =>
      exact .cons (h x (by simp) y (hm.symm.subset (by simp)) z (hr.symm.subset (by simp)) hxy hyz)
        (ih (fun a ha b hb c hc => h a (by simp [ha]) b (hm.symm.subset (by simp [hb])) c
          (hr.symm.subset (by simp [hc]))) h2') hr

theorem Matched.refl_perm {R : α → α → Bool} {l r : List α} (h : ∀ x ∈ l, R x x = true)
    (hp : l.Perm r) : Matched R l r :=
  matched_iff.mpr ⟨l, hp.symm, .refl h⟩

theorem Matched.countP_eq {R : α → α → Bool} {l r : List α} (z : α)
    (h : ∀ a ∈ l, ∀ b ∈ r, R a b = true → R z a = R z b) (hm : Matched R l r) :
    l.countP (R z) = r.countP (R z) := by
  obtain ⟨r', hr, hf⟩ := matched_iff.mp hm
  rw [hr.countP_eq]
  have h' : ∀ a ∈ l, ∀ b ∈ r', R a b = true → R z a = R z b :=
    fun a ha b hb => h a ha b (hr.symm.subset hb)
  clear hr hm h
  induction hf with
  | nil => rfl
  | @cons a b l' r'' hab _ ih =>
    have e := h' a (by simp) b (by simp) hab
    have ih' := ih (fun x hx y hy => h' x (by simp [hx]) y (by simp [hy]))
    simp only [List.countP_cons, e, ih']

end Gedcom.G

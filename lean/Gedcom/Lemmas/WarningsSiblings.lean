/- C20: the sibling check — the test in the loop body against the day numbers of the two births, and
   what the report says about a pair.  `Gedcom.C20.SibDays` and `SibSpecG` of the specification stand
   here because Props/C20 and Props/C20General both rest on their lemmas. -/
import Gedcom.Lemmas.WarningsDays
import Gedcom.Model.WarningsSpec
namespace Gedcom.C20
open Gedcom.Warn

/-- the sibling condition over the four day numbers: neither birth range is 274 days wide or wider,
    the starts are at least 2 days apart, and the starts or the ends are fewer than 274 days apart -/
def SibDays (s1 e1 s2 e2 : Int) : Prop :=
  e1 - s1 < 274 ∧ s1 - e1 < 275 ∧ e2 - s2 < 274 ∧ s2 - e2 < 275 ∧
  (2 ≤ s1 - s2 ∨ 2 ≤ s2 - s1) ∧
  ((s1 - s2 < 274 ∧ s2 - s1 < 274) ∨ (e1 - e2 < 274 ∧ e2 - e1 < 274))

instance (s1 e1 s2 e2 : Int) : Decidable (SibDays s1 e1 s2 e2) := by unfold SibDays; exact inferInstance

/-- the documented sibling condition on two children, general birth dates: different people, both
    have a birth date (first DATE of the first dated BIRT) without a parse error, and the day
    numbers of its start and end satisfy `SibDays` -/
def SibSpecG (d : Doc) (c1 c2 : Nat) : Prop :=
  c1 ≠ c2 ∧ ∃ x1 x2, birthOf (indiOf d c1) = some x1 ∧ birthOf (indiOf d c2) = some x2 ∧
    x1.parseErr = false ∧ x2.parseErr = false ∧ SibDays (dayS x1) (dayE x1) (dayS x2) (dayE x2)

end Gedcom.C20

namespace Gedcom.Warn
open Gedcom.C20

theorem birthOf_indiOf_some {d : Doc} {c : Nat} {x : DateV} (h : birthOf (indiOf d c) = some x) :
    ∃ i, indiOf d c = some i := by
  cases hi : indiOf d c with
  | none => simp [hi, birthOf] at h
  | some i => exact ⟨i, rfl⟩

theorem sameIndi_iff {d : Doc} {c1 c2 : Nat} {x1 x2 : DateV} (h1 : birthOf (indiOf d c1) = some x1)
    (h2 : birthOf (indiOf d c2) = some x2) : sameIndi (indiOf d c1) (indiOf d c2) = true ↔ c1 = c2 := by
  obtain ⟨i1, hi1⟩ := birthOf_indiOf_some h1
  obtain ⟨i2, hi2⟩ := birthOf_indiOf_some h2
  rw [hi1, hi2]
  simp [sameIndi, (indiOf_some hi1).2, (indiOf_some hi2).2]

theorem siblingHit_true {d : Doc} {c1 c2 : Nat} :
    siblingHit d c1 c2 = true ↔
      (¬ dateSub (endI (birthOf (indiOf d c1))) (startI (birthOf (indiOf d c1))) ≥ nineMonths) ∧
      sameIndi (indiOf d c1) (indiOf d c2) = false ∧
      subErr (birthOf (indiOf d c1)) (birthOf (indiOf d c2)) = false ∧
      (¬ dateSub (endI (birthOf (indiOf d c2))) (startI (birthOf (indiOf d c2))) ≥ nineMonths) ∧
      (¬ dateSub (startI (birthOf (indiOf d c1))) (startI (birthOf (indiOf d c2))) < twoDays) ∧
      (dateSub (startI (birthOf (indiOf d c1))) (startI (birthOf (indiOf d c2))) < nineMonths ∨
       dateSub (endI (birthOf (indiOf d c1))) (endI (birthOf (indiOf d c2))) < nineMonths) := by
  simp only [siblingHit, Bool.and_eq_true, Bool.or_eq_true, Bool.not_eq_true', decide_eq_true_eq,
    decide_eq_false_iff_not, and_assoc]

def errO : Option DateV → Bool
  | some x => x.parseErr
  | none => false

theorem subErr_eq (b1 b2 : Option DateV) : subErr b1 b2 = (errO b1 || errO b2) := by
  rcases b1 with _ | x1 <;> rcases b2 with _ | x2
  · rfl
  · cases x2 <;> rfl
  · cases x1 <;> simp [subErr, errO, DateV.parseErr]
  · cases x1 <;> cases x2 <;> simp [subErr, errO, DateV.parseErr]

theorem sameIndi_comm (a b : Option Indi) : sameIndi a b = sameIndi b a := by
  cases a <;> cases b <;> simp [sameIndi, Bool.beq_comm]

theorem siblingHit_comm (d : Doc) (a b : Nat) : siblingHit d a b = siblingHit d b a := by
  simp only [siblingHit, subErr_eq, dateSub_comm (startI (birthOf (indiOf d b))),
    dateSub_comm (endI (birthOf (indiOf d b))) (endI _), sameIndi_comm (indiOf d b),
    Bool.or_comm (errO (birthOf (indiOf d b)))]
  ac_rfl

/-- the instants of a birth date and their day numbers: Go's zero time, day 1 (absent, or years 0 /
    above 9999), or whole days from day 276 on (3 Oct of the year 1, 275 days after the zero time: an
    earlier birth would be "close" to it) -/
def Days (S E s e : Int) : Prop :=
  (S = zeroTime ∧ E = zeroTime ∧ s = 1 ∧ e = 1) ∨
  (S = s * nsPerDay ∧ E = (e + 1) * nsPerDay - 1 ∧ 276 ≤ s ∧ 276 ≤ e)

def Shape (b : Option DateV) : Prop :=
  errO b = true ∨ Days (startI b) (endI b) (startI b / nsPerDay) (endI b / nsPerDay)

theorem Shape.days {x : DateV} (h : Shape (some x)) (hp : x.parseErr = false) :
    (dayS x = 1 ∧ dayE x = 1) ∨ (276 ≤ dayS x ∧ 276 ≤ dayE x) := by
  rcases h with e | ⟨_, _, z⟩ | ⟨_, _, w⟩
  · rw [errO, hp] at e
    cases e
  · exact Or.inl z
  · exact Or.inr w

theorem notZero_of_day {p : PDate} {I : Int} (h : 1 < (if timeOK p then I else zeroTime) / nsPerDay) :
    p.isZero = false := by
  cases ht : timeOK p with
  | false => simp [ht, zeroTime, nsPerDay] at h
  | true =>
    simp only [timeOK, Bool.and_eq_true, decide_eq_true_eq] at ht
    simp only [PDate.isZero, Bool.and_eq_false_iff, beq_eq_false_iff_ne]
    omega

/-- an end away from Go's zero time (day 1) has a year of 1..9999: it is not the zero date -/
theorem valid_of_days {x : DateV} (hp : x.parseErr = false) (hs : 1 < dayS x) (he : 1 < dayE x) :
    x.valid = true := by
  cases x with
  | ok t => rfl
  | bad l => cases hp
  | gen l s e =>
    simp only [DateV.valid, notZero_of_day hs, notZero_of_day he]
    rfl

theorem nineMonths_le : nineMonths ≤ maxDur := by decide
theorem twoDays_le : twoDays ≤ maxDur := by decide

/-- two births at the zero time count as twins, and the zero time is too far from day 276.  The
    repaired `NewDuration` saturates above both thresholds (`dateSub_lt_iff`): no bound on the
    distance of the births is needed, and what is left is linear in the day numbers. -/
theorem sib_arith {S1 E1 s1 e1 S2 E2 s2 e2 : Int} (h1 : Days S1 E1 s1 e1) (h2 : Days S2 E2 s2 e2) :
    (((¬ dateSub E1 S1 ≥ nineMonths) ∧ (¬ dateSub E2 S2 ≥ nineMonths) ∧ (¬ dateSub S1 S2 < twoDays) ∧
      (dateSub S1 S2 < nineMonths ∨ dateSub E1 E2 < nineMonths)) ↔ SibDays s1 e1 s2 e2) ∧
    (SibDays s1 e1 s2 e2 → 276 ≤ s1 ∧ 276 ≤ s2) := by
  rcases h1 with ⟨rfl, rfl, rfl, rfl⟩ | ⟨rfl, rfl, a1, b1⟩ <;>
    rcases h2 with ⟨rfl, rfl, rfl, rfl⟩ | ⟨rfl, rfl, a2, b2⟩
  all_goals
    simp only [ge_iff_le, Int.not_le, dateSub_lt_iff _ _ _ nineMonths_le, dateSub_lt_iff _ _ _ twoDays_le]
    simp only [nsPerDay, nineMonths, twoDays, zeroTime, SibDays, Generated.siblingMaxDays,
      Generated.siblingMinDays]
    omega

theorem siblingHit_iff_shape {d : Doc} (hs : ∀ c, Shape (birthOf (indiOf d c))) (c1 c2 : Nat) :
    siblingHit d c1 c2 = true ↔ SibSpecG d c1 c2 := by
  rw [siblingHit_true, subErr_eq]
  unfold SibSpecG
  have sh1 := hs c1
  have sh2 := hs c2
  generalize hb1 : birthOf (indiOf d c1) = b1 at *
  generalize hb2 : birthOf (indiOf d c2) = b2 at *
  -- a parse error on either side: `Sub` fails, and the condition asks for none
  by_cases herr : errO b1 = true ∨ errO b2 = true
  · constructor
    · rintro ⟨_, _, h3, _⟩
      rcases herr with e | e <;> simp [e] at h3
    · rintro ⟨_, y1, y2, rfl, rfl, p1, p2, _⟩
      rcases herr with e | e
      · rw [errO, p1] at e; cases e
      · rw [errO, p2] at e; cases e
  obtain ⟨ha, hw⟩ := sib_arith (sh1.resolve_left fun e => herr (Or.inl e))
    (sh2.resolve_left fun e => herr (Or.inr e))
  constructor
  · rintro ⟨h1, h2, _, h4, h5, h6⟩
    have hd := ha.mp ⟨h1, h4, h5, h6⟩
    obtain ⟨w1, w2⟩ := hw hd
    -- an absent birth date sits at day 1
    cases b1 with
    | none => exact absurd w1 (by decide)
    | some x1 =>
      cases b2 with
      | none => exact absurd w2 (by decide)
      | some x2 =>
        refine ⟨fun e => ?_, x1, x2, rfl, rfl, Bool.eq_false_iff.mpr fun e => herr (Or.inl e),
          Bool.eq_false_iff.mpr fun e => herr (Or.inr e), hd⟩
        rw [(sameIndi_iff hb1 hb2).mpr e] at h2
        cases h2
  · rintro ⟨hne, y1, y2, rfl, rfl, p1, p2, hd⟩
    obtain ⟨h1, h4, h5, h6⟩ := ha.mpr hd
    exact ⟨h1, Bool.eq_false_iff.mpr fun hq => hne ((sameIndi_iff hb1 hb2).mp hq),
      by simp [errO, p1, p2], h4, h5, h6⟩

theorem dayOf_ge {t : Date} (hy : 1000 ≤ t.year) : 106753 ≤ dayOf t := by
  have hc := cum_nonneg (isLeap t.year) t.month
  unfold dayOf dayNumber daysBeforeYear
  omega

/-- an absent birth date sits at the zero time -/
theorem shape_of_dates {d : Doc}
    (h : ∀ i, Rec.indi i ∈ d → ∀ e ∈ i.events, ∀ x ∈ e.dates, Shape (some x)) (c : Nat) :
    Shape (birthOf (indiOf d c)) := by
  cases hb : birthOf (indiOf d c) with
  | none => exact Or.inr (Or.inl ⟨rfl, rfl, by decide, by decide⟩)
  | some x => exact birthOf_all h hb

theorem shape_exact {x : DateV} (h : x.exact = true) : Shape (some x) := by
  cases x with
  | gen l s e => exact Bool.noConfusion h
  | bad l => exact Or.inl rfl
  | ok t =>
    obtain ⟨hf, hy⟩ := DateV.exact_ok h
    have hd := dayOf_ge (t := t) hy
    exact Or.inr (Or.inr ⟨(whole_ok t).1, (whole_ok t).2, by rw [← dayS, dayS_full hf]; omega,
      by rw [← dayE, dayE_full hf]; omega⟩)

/-- the documented sibling condition on two resolved children, over civil day numbers -/
def SibSpec (d : Doc) (c1 c2 : Nat) : Prop :=
  c1 ≠ c2 ∧ ∃ t1 t2, birthOf (indiOf d c1) = some (.ok t1) ∧ birthOf (indiOf d c2) = some (.ok t2) ∧
    ((2 ≤ dayOf t1 - dayOf t2 ∧ dayOf t1 - dayOf t2 < 274) ∨
     (2 ≤ dayOf t2 - dayOf t1 ∧ dayOf t2 - dayOf t1 < 274))

theorem ok_of_noErr {x : DateV} (hf : x.Fine) (hp : x.parseErr = false) : ∃ t, x = .ok t := by
  cases x with
  | ok t => exact ⟨t, rfl⟩
  | bad l => exact Bool.noConfusion hp
  | gen l s e => exact hf.elim

theorem sibSpecG_exact {d : Doc} (hx : ExactDates d) (c1 c2 : Nat) : SibSpecG d c1 c2 ↔ SibSpec d c1 c2 := by
  constructor
  · rintro ⟨hne, x1, x2, h1, h2, p1, p2, hd⟩
    have f1 := birthOf_fine hx h1
    have f2 := birthOf_fine hx h2
    obtain ⟨t1, rfl⟩ := ok_of_noErr f1 p1
    obtain ⟨t2, rfl⟩ := ok_of_noErr f2 p2
    rw [dayS_full f1, dayE_full f1, dayS_full f2, dayE_full f2] at hd
    exact ⟨hne, t1, t2, h1, h2, by unfold SibDays at hd; omega⟩
  · rintro ⟨hne, t1, t2, h1, h2, hd⟩
    have f1 : C05.Full t1 := birthOf_fine hx h1
    have f2 : C05.Full t2 := birthOf_fine hx h2
    refine ⟨hne, .ok t1, .ok t2, h1, h2, rfl, rfl, ?_⟩
    rw [dayS_full f1, dayE_full f1, dayS_full f2, dayE_full f2]
    unfold SibDays; omega

theorem siblingHit_iff {d : Doc} (hx : ExactDates d) (c1 c2 : Nat) :
    siblingHit d c1 c2 = true ↔ SibSpec d c1 c2 :=
  (siblingHit_iff_shape (shape_of_dates fun _ hi _ he _ hx' => shape_exact (allDates_indi hx hi he hx'))
    c1 c2).trans (sibSpecG_exact hx c1 c2)

/-- the sibling loops, read through any description `S` of the test in the loop body -/
theorem siblings_reported {d : Doc} {now : Date} {S : Nat → Nat → Prop}
    (hS : ∀ a b, siblingHit d a b = true ↔ S a b) (a b : Nat) :
    (∃ fp, Warning.siblingsBornTooClose fp a b ∈ warnings d now ∨
           Warning.siblingsBornTooClose fp b a ∈ warnings d now) ↔
      ∃ f, Rec.fam f ∈ d ∧ a ∈ f.chil ∧ b ∈ f.chil ∧ S a b := by
  have sound : ∀ {fp x y}, Warning.siblingsBornTooClose fp x y ∈ warnings d now →
      ∃ f, Rec.fam f ∈ d ∧ x ∈ f.chil ∧ y ∈ f.chil ∧ siblingHit d x y = true := by
    intro fp x y h
    obtain ⟨f, hf, hq⟩ := mem_rawWarnings_siblings.mp ((oncePerPair_sublist _).subset h)
    rw [siblings_eq_oncePerPair] at hq
    exact ⟨f, hf, (mem_sibHits.mp ((oncePerPair_sublist _).subset hq)).2⟩
  constructor
  · rintro ⟨fp, h | h⟩
    · obtain ⟨f, hf, ha, hb, hh⟩ := sound h
      exact ⟨f, hf, ha, hb, (hS a b).mp hh⟩
    · obtain ⟨f, hf, hb, ha, hh⟩ := sound h
      exact ⟨f, hf, ha, hb, (hS a b).mp ((siblingHit_comm d a b).trans hh)⟩
  · rintro ⟨f, hf, ha, hb, hs⟩
    have raw : ∀ {fp x y}, Warning.siblingsBornTooClose fp x y ∈ siblingsBornTooClose d f →
        ∃ fp, Warning.siblingsBornTooClose fp x y ∈ warnings d now ∨
          Warning.siblingsBornTooClose fp y x ∈ warnings d now :=
      fun h => oncePerPair_sib_kept ⟨_, mem_rawWarnings_siblings.mpr ⟨f, hf, h⟩⟩
    obtain ⟨f', h | h⟩ := oncePerPair_sib_kept
      ⟨f.ptr, mem_sibHits.mpr ⟨rfl, ha, hb, (hS a b).mpr hs⟩⟩
    · exact raw (siblings_eq_oncePerPair d f ▸ h)
    · obtain ⟨f'', h'⟩ := raw (siblings_eq_oncePerPair d f ▸ h)
      exact ⟨f'', h'.symm⟩

end Gedcom.Warn

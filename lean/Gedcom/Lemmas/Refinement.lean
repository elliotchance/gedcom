/- C02: the stack machine of the decoder refines the stack-free reference `scan`. -/
import Gedcom.Lemmas.LineAct
import Gedcom.Lemmas.Listing
namespace Gedcom.Dec

/-- listing of the open nodes, outermost first; the frame at stack position with `k` frames
    below it sits at level `k` -/
def frameListing : List Frame → List Entry
  | [] => []
  | f :: fs => frameListing fs ++ (⟨fs.length, f.hdr⟩ :: listingF (fs.length + 1) f.kids)

/-- the preorder listing of everything read so far -/
def stListing (s : St) : List Entry := listingF 0 s.roots ++ frameListing s.stack

theorem closeOne_listing (s : St) : stListing (closeOne s) = stListing s := by
  rcases s with ⟨r, _ | ⟨f, _ | ⟨g, fs⟩⟩, sf⟩
  · rfl
  · simp [closeOne, stListing, frameListing, listingF_append, listingF, listingT, Frame.close]
  · simp [closeOne, stListing, frameListing, listingF_append, listingF, listingT, Frame.close,
      List.append_assoc]

theorem closeN_listing (k : Nat) (s : St) : stListing (closeN k s) = stListing s := by
  induction k generalizing s with
  | zero => rfl
  | succ k ih => simp [closeN, ih, closeOne_listing]

theorem closeTo_listing (n : Nat) (s : St) : stListing (closeTo n s) = stListing s :=
  closeN_listing _ s

theorem push_listing (s : St) (h : Hdr) :
    stListing (push s h) = stListing s ++ [⟨s.stack.length, h⟩] := by
  simp [push, stListing, frameListing, listingF, List.append_assoc]

theorem ScanSt.finish_eq (s : ScanSt) : s.finish = s.done ++ (s.last.map Entry.trim).toList := by
  unfold ScanSt.finish
  cases s.last <;> simp

theorem ScanSt.emit_eq (s : ScanSt) (e : Entry) : s.emit e = ⟨s.finish, some e, s.seenFam⟩ := by
  unfold ScanSt.emit ScanSt.finish
  cases s.last <;> rfl

/-- the reference state a decoder state stands for: what is listed before the deepest open node is
    done, that node is the open entry -/
def St.abs (s : St) : ScanSt :=
  match s.stack with
  | [] => ⟨listingF 0 s.roots, none, s.seenFam⟩
  | f :: fs => ⟨listingF 0 s.roots ++ frameListing fs, some ⟨fs.length, f.hdr⟩, s.seenFam⟩

/-- the deepest open node has no children yet: it is the node of the last node line -/
def Fresh (s : St) : Prop := ∀ f fs, s.stack = f :: fs → f.kids = []

theorem abs_seen (s : St) : s.abs.seenFam = s.seenFam := by
  unfold St.abs; cases s.stack <;> rfl

theorem abs_depth (s : St) : s.abs.depth = s.stack.length := by
  unfold St.abs; cases s.stack <;> rfl

theorem abs_setFam (b : Bool) (s : St) : (setFam b s).abs = { s.abs with seenFam := b } := by
  unfold St.abs setFam; cases s.stack <;> rfl

theorem abs_appendTop (x : Str) (s : St) :
    (appendTop x s).abs = { s.abs with last := s.abs.last.map (·.extend x) } := by
  rcases s with ⟨r, _ | ⟨f, fs⟩, sf⟩ <;> rfl

theorem Fresh.appendTop {s : St} (h : Fresh s) (x : Str) : Fresh (appendTop x s) := by
  rcases s with ⟨r, _ | ⟨f, fs⟩, sf⟩
  · exact h
  · intro g gs hg
    cases hg
    exact h f fs rfl

theorem Fresh_push (s : St) (hd : Hdr) : Fresh (push s hd) := by
  intro f fs hf
  cases hf
  rfl

theorem abs_finish {s : St} (h : Fresh s) : s.abs.finish = stListing (trimTop s) := by
  rcases s with ⟨r, _ | ⟨f, fs⟩, sf⟩
  · simp [St.abs, ScanSt.finish, trimTop, stListing, frameListing]
  · simp [St.abs, ScanSt.finish, trimTop, stListing, frameListing, Entry.trim, h f fs rfl, listingF]

theorem abs_push (s : St) (hd : Hdr) :
    (push s hd).abs = ⟨stListing s, some ⟨s.stack.length, hd⟩, s.seenFam⟩ := rfl

theorem abs_node {s : St} (h : Fresh s) (k : Nat) (hd : Hdr) (hk : k ≤ s.stack.length) :
    (push (closeTo k (trimTop s)) hd).abs = s.abs.emit ⟨k, hd⟩ := by
  rw [abs_push, closeTo_listing, closeTo_len k _ (by rw [trimTop_len]; exact hk), closeTo_seen, trimTop_seen,
    ScanSt.emit_eq, abs_finish h, abs_seen]

theorem abs_end {s : St} (h : Fresh s) : listingF 0 (closeTo 0 (trimTop s)).roots = s.abs.finish := by
  have hlen : (closeTo 0 (trimTop s)).stack = [] :=
    List.eq_nil_of_length_eq_zero (closeTo_len 0 (trimTop s) (Nat.zero_le _))
  rw [abs_finish h, ← closeTo_listing 0, stListing, hlen, frameListing, List.append_nil]

theorem run_sim (o : Opts) (s : St) (n : Nat) (ls : List Str) (h : Fresh s) :
    scanRun o s.abs n ls = Sum.map Outcome.listing St.abs (run o s n ls) ∧
      ∀ s', run o s n ls = .inr s' → Fresh s' := by
  induction ls generalizing s n with
  | nil => exact ⟨rfl, fun s' hs => by cases hs; exact h⟩
  | cons l ls ih =>
    -- both machines carry out the same decision
    rw [run, scanRun, step_act, scanStep_act, abs_seen, abs_depth]
    have ha := lineAct_spec o s.seenFam s.stack.length l
    generalize lineAct o s.seenFam s.stack.length l = a at ha
    cases ha with
    | keep => exact ih _ _ h
    | extend =>
      rw [St.act, ScanSt.act, ← abs_appendTop]
      exact ih _ _ (h.appendTop _)
    | node pl k _ _ hk =>
      have hf : Fresh (setFam (s.seenFam || pl.tag == tFAM) s) := h
      rw [St.act, ScanSt.act, abs_seen, ← abs_setFam, ← abs_node hf k _ hk]
      exact ih _ _ (Fresh_push _ _)
    | reject | orphan | panic => exact ⟨rfl, nofun⟩

end Gedcom.Dec

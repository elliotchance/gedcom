/-
  Two deep-equal inputs give an all-two-sided diff (C08).  `PMatch R l r` (Lemmas/Matching.lean): there is
  a perfect matching between `l` and `r` along `R` (the order of `r` is irrelevant by construction).  Under the guard the
  diff children produced by the two passes are decomposed class by class: the first entry collects
  exactly the nodes equal to its first node, the remaining nodes behave as if they were traversed alone.
  C07's `deepEqual` supplies the matching: the greedy child matching of `DeepEqualNodes` is sound
  whatever the relation.
-/
import Gedcom.Lemmas.Diff
import Gedcom.Lemmas.Equal
import Gedcom.Lemmas.Ident
namespace Gedcom
open Diff

theorem PMatch.flatMap_kids {R : INode → INode → Prop} {l r : List INode} (h : PMatch R l r)
    (hk : ∀ x y, R x y → PMatch R x.kids y.kids) :
    PMatch R (l.flatMap INode.kids) (r.flatMap INode.kids) := by
  induction h with
  | nil => exact PMatch.nil
  | @cons x y xs r s hxy hr _ ih =>
    have hp : (r.flatMap INode.kids).Perm (y.kids ++ s.flatMap INode.kids) := hr.flatMap_right _
    exact ((hk x y hxy).append ih).perm_right hp.symm

theorem traverseKids_append (eq : INode → INode → Bool) (b : Bool) : ∀ (a c : List INode) (cs : List Diff),
    traverseKids eq b (a ++ c) cs = traverseKids eq b c (traverseKids eq b a cs)
  | [], c, cs => by rw [List.nil_append, traverseKids]
  | k :: a, c, cs => by
    rw [List.cons_append, traverseKids, traverseKids, traverseKids_append eq b a c]

/-- `nd.traverse(n₁, b); nd.traverse(n₂, b); …` -/
def feedDiff (eq : INode → INode → Bool) (b : Bool) : List INode → Diff → Diff
  | [], e => e
  | n :: ns, e => feedDiff eq b ns (traverse eq b n e)

/-- only the first node traversed into an entry can set a side -/
theorem feed_cons (eq : INode → INode → Bool) (b : Bool) : ∀ (ns : List INode) (n : INode) (e : Diff),
    feedDiff eq b (n :: ns) e = .mk (fillL b n e.left) (fillR b n e.right)
      (traverseKids eq b ((n :: ns).flatMap INode.kids) e.kids)
  | [], n, e => by
    cases n
    rw [feedDiff, feedDiff, traverse, List.flatMap_cons, List.flatMap_nil, List.append_nil]
    rfl
  | m :: ms, n, e => by
    rw [feedDiff, feed_cons eq b ms m, traverse_left, traverse_right, traverse_kids, fillL_fillL, fillR_fillR,
      ← traverseKids_append, List.flatMap_cons (x := n)]

theorem feed_class (eq : INode → INode → Bool) (k y : INode) (ks ys : List INode) :
    feedDiff eq false (y :: ys) (feedDiff eq true (k :: ks) Diff.empty) =
      .mk (some k) (some y) (twoPass eq ((k :: ks).flatMap INode.kids) ((y :: ys).flatMap INode.kids)) := by
  rw [feed_cons, feed_cons]
  rfl

section split
variable (eq : INode → INode → Bool) (k1 : INode)

/-- An entry whose left node is `k1` receives exactly the nodes that `k1` equals, and the others are traversed
    as if it were not there.  Transitivity from `k1` (among the nodes `K` of the level) is what keeps a node the
    entry has received on the right from attracting nodes that `k1` does not equal. -/
theorem pass_split (b : Bool) (K : List INode)
    (htrans : ∀ y ∈ K, ∀ k ∈ K, eq k1 y = true → eq y k = true → eq k1 k = true) :
    ∀ (ks : List INode) (e1 : Diff) (cs : List Diff), (∀ k ∈ ks, k ∈ K) → e1.left = some k1 →
      (∀ y, e1.right = some y → y ∈ K ∧ eq k1 y = true) →
      traverseKids eq b ks (e1 :: cs) =
        feedDiff eq b (ks.filter (eq k1)) e1 :: traverseKids eq b (ks.filter (fun k => !eq k1 k)) cs
  | [], e1, cs, _, _, _ => by simp [traverseKids, feedDiff]
  | k :: ks, e1, cs, hK, hl, hy => by
    have hK' : ∀ k' ∈ ks, k' ∈ K := fun k' h => hK k' (List.mem_cons_of_mem _ h)
    have hmk : Diff.matchesNode eq k e1 = eq k1 k := by
      cases hre : e1.right with
      | none => simp [Diff.matchesNode, hl, hre]
      | some y =>
        obtain ⟨hyK, h1y⟩ := hy y hre
        simp only [Diff.matchesNode, hl, hre]
        cases h2 : eq y k with
        | false => exact Bool.or_false _
        | true => rw [htrans y hyK k (hK k List.mem_cons_self) h1y h2]; rfl
    rw [traverseKids, placeWith, hmk]
    cases hq : eq k1 k with
    | true =>
      rw [if_pos rfl, pass_split b K htrans ks _ cs hK' (by rw [traverse_left, hl, fillL_some]),
        List.filter_cons_of_pos hq, feedDiff, List.filter_cons_of_neg (by rw [hq]; decide)]
      intro y hy'
      rw [traverse_right] at hy'
      cases hre : e1.right with
      | some y0 => rw [hre, fillR_some] at hy'; exact hy y (hre.trans hy')
      | none =>
        rw [hre] at hy'
        cases b with
        | true => cases hy'
        | false => cases hy'; exact ⟨hK k List.mem_cons_self, hq⟩
    | false =>
      rw [if_neg (by simp), pass_split b K htrans ks e1 _ hK' hl hy,
        List.filter_cons_of_neg (Bool.eq_false_iff.mp hq), List.filter_cons_of_pos (by rw [hq]; rfl), traverseKids]

theorem twoPass_cons (rest KR : List INode)
    (htrans : ∀ y ∈ (k1 :: rest) ++ KR, ∀ k ∈ (k1 :: rest) ++ KR,
      eq k1 y = true → eq y k = true → eq k1 k = true) :
    twoPass eq (k1 :: rest) KR =
      feedDiff eq false (KR.filter (eq k1)) (feedDiff eq true (k1 :: rest.filter (eq k1)) Diff.empty) ::
        twoPass eq (rest.filter (fun k => !eq k1 k)) (KR.filter (fun k => !eq k1 k)) := by
  have h : (feedDiff eq true (k1 :: rest.filter (eq k1)) Diff.empty).left = some k1 ∧
      (feedDiff eq true (k1 :: rest.filter (eq k1)) Diff.empty).right = none := by
    rw [feed_cons]; exact ⟨rfl, rfl⟩
  rw [feedDiff] at h ⊢
  unfold twoPass
  rw [traverseKids, placeWith,
    pass_split eq k1 true _ htrans rest _ [] (fun _ h => List.mem_append_left _ (List.mem_cons_of_mem _ h))
      (by rw [traverse_left]; rfl) (by rw [traverse_right]; nofun),
    pass_split eq k1 false _ htrans KR _ _ (fun _ h => List.mem_append_right _ h) h.1 (by rw [h.2]; nofun)]
end split

def BelowLevel (S : List INode) (d : Nat) (a : INode) : Prop := ∃ s ∈ S, INode.At s d a

theorem belowLevel_zero {S : List INode} {a : INode} : BelowLevel S 0 a ↔ a ∈ S :=
  ⟨fun ⟨_, hs, hat⟩ => hat.zero ▸ hs, fun h => ⟨a, h, INode.At.root a⟩⟩

theorem belowLevel_flatMap_kids {S : List INode} {d : Nat} {x : INode} :
    BelowLevel (S.flatMap INode.kids) d x ↔ BelowLevel S (d + 1) x := by
  constructor
  · rintro ⟨k, hk, hat⟩
    obtain ⟨s, hs, hks⟩ := List.mem_flatMap.mp hk
    exact ⟨s, hs, INode.At.succ_iff.mpr ⟨k, hks, hat⟩⟩
  · rintro ⟨s, hs, hat⟩
    obtain ⟨k, hk, hatk⟩ := INode.At.succ_iff.mp hat
    exact ⟨k, List.mem_flatMap.mpr ⟨s, hs, hk⟩, hatk⟩

theorem belowLevel_kids_append {l r x : INode} {d : Nat} :
    BelowLevel (l.kids ++ r.kids) d x ↔ INode.At l (d + 1) x ∨ INode.At r (d + 1) x := by
  rw [INode.At.succ_iff, INode.At.succ_iff]
  unfold BelowLevel
  simp only [List.mem_append, or_and_right, exists_or]

/-- `eq` is reflexive, symmetric and transitive among the nodes of each level below `S` -/
def EquivGuard (eq : INode → INode → Bool) (S : List INode) : Prop :=
  ∀ d a b c, BelowLevel S d a → BelowLevel S d b → BelowLevel S d c →
    eq a a = true ∧ (eq a b = true → eq b a = true) ∧ (eq a b = true → eq b c = true → eq a c = true)

theorem EquivGuard.of_lift {eq : INode → INode → Bool} {S S' : List INode} (k : Nat) (h : EquivGuard eq S)
    (lift : ∀ d x, BelowLevel S' d x → BelowLevel S (d + k) x) : EquivGuard eq S' :=
  fun d a b c ha hb hc => h (d + k) a b c (lift d a ha) (lift d b hb) (lift d c hc)

theorem EquivGuard.subset {eq : INode → INode → Bool} {S S' : List INode} (h : EquivGuard eq S)
    (hs : ∀ a ∈ S', a ∈ S) : EquivGuard eq S' :=
  h.of_lift 0 (fun _ _ ⟨s, hs', hat⟩ => ⟨s, hs s hs', hat⟩)

theorem EquivGuard.flatMap_kids {eq : INode → INode → Bool} {S : List INode} (h : EquivGuard eq S) :
    EquivGuard eq (S.flatMap INode.kids) :=
  h.of_lift 1 (fun _ _ => belowLevel_flatMap_kids.mp)

theorem EquivGuard.level0 {eq : INode → INode → Bool} {S : List INode} (h : EquivGuard eq S) {a b c : INode}
    (ha : a ∈ S) (hb : b ∈ S) (hc : c ∈ S) :
    eq a a = true ∧ (eq a b = true → eq b a = true) ∧ (eq a b = true → eq b c = true → eq a c = true) :=
  h 0 a b c (belowLevel_zero.mpr ha) (belowLevel_zero.mpr hb) (belowLevel_zero.mpr hc)

theorem EquivGuard.class_congr {eq : INode → INode → Bool} {S : List INode} (h : EquivGuard eq S)
    {k x y : INode} (hk : k ∈ S) (hx : x ∈ S) (hy : y ∈ S) (hxy : eq x y = true) : eq k x = eq k y :=
  Bool.eq_iff_iff.mpr ⟨fun hkx => (h.level0 hk hx hy).2.2 hkx hxy,
    fun hky => (h.level0 hk hy hx).2.2 hky ((h.level0 hx hy hy).2.1 hxy)⟩

theorem EquivGuard.nil (eq : INode → INode → Bool) : EquivGuard eq [] :=
  fun _ _ _ _ ⟨_, hs, _⟩ => nomatch hs

theorem equivOnB_sound (eq : INode → INode → Bool) (S : List INode) (h : equivOnB eq S = true) :
    ∀ a ∈ S, ∀ b ∈ S, ∀ c ∈ S,
      eq a a = true ∧ (eq a b = true → eq b a = true) ∧ (eq a b = true → eq b c = true → eq a c = true) := by
  unfold equivOnB at h
  simp only [Bool.and_eq_true, List.all_eq_true, Bool.or_eq_true, Bool.not_eq_true', List.mem_map,
    forall_exists_index, and_imp, forall_apply_eq_imp_iff₂, beq_iff_eq] at h
  obtain ⟨hrefl, hrows⟩ := h
  have row : ∀ a ∈ S, ∀ b ∈ S, eq a b = true → ∀ c ∈ S, eq a c = eq b c := by
    intro a ha b hb hab c hc
    rcases hrows a ha b hb with h1 | h1
    · rw [hab] at h1; cases h1
    · exact List.map_inj_left.mp h1 c hc
  intro a ha b hb c hc
  refine ⟨hrefl a ha, ?_, ?_⟩
  · intro hab
    rw [← row a ha b hb hab a ha]
    exact hrefl a ha
  · intro hab hbc
    rw [row a ha b hb hab c hc]
    exact hbc

theorem guardB_sound (eq : INode → INode → Bool) : ∀ (n : Nat) (S : List INode),
    guardB eq n S = true → EquivGuard eq S
  | 0, S, h => by
    rw [guardB, List.isEmpty_iff] at h
    exact h ▸ EquivGuard.nil eq
  | n + 1, S, h => by
    rw [guardB, Bool.or_eq_true, Bool.and_eq_true, List.isEmpty_iff] at h
    rcases h with h | ⟨h1, h2⟩
    · exact h ▸ EquivGuard.nil eq
    · have ih := guardB_sound eq n _ h2
      have h0 := equivOnB_sound eq S h1
      intro d a b c ha hb hc
      cases d with
      | zero =>
        exact h0 a (belowLevel_zero.mp ha) b (belowLevel_zero.mp hb) c (belowLevel_zero.mp hc)
      | succ d =>
        exact ih d a b c (belowLevel_flatMap_kids.mpr ha) (belowLevel_flatMap_kids.mpr hb)
          (belowLevel_flatMap_kids.mpr hc)

section classes
variable (eq : INode → INode → Bool) (DE : INode → INode → Prop)
  (hD1 : ∀ a b, DE a b → eq a b = true)
  (hD2 : ∀ a b, DE a b → PMatch DE a.kids b.kids)

include hD1 in
/-- Under the guard every entry of a level is that of one class of `eq` (`feed_class`); the class of
    the first left node makes the first entry, the others are compared as if it were not there
    (a recursion on filtered lists, hence the bound `n` on the length of `KL`). -/
theorem twoPass_classes : ∀ (n : Nat) (KL KR : List INode), KL.length ≤ n → PMatch DE KL KR →
    EquivGuard eq (KL ++ KR) → ∀ c ∈ twoPass eq KL KR, ∃ k ks y ys,
      PMatch DE (k :: ks) (y :: ys) ∧ EquivGuard eq ((k :: ks) ++ (y :: ys)) ∧
        c = .mk (some k) (some y) (twoPass eq ((k :: ks).flatMap INode.kids) ((y :: ys).flatMap INode.kids))
  | _, [], _, _, hm, _ => by cases hm; exact fun _ hc => nomatch hc
  | 0, _ :: _, _, hn, _, _ => nomatch hn
  | n + 1, k1 :: rest, KR, hn, hm, hg => by
    have hk1 : k1 ∈ (k1 :: rest) ++ KR := List.mem_append_left _ List.mem_cons_self
    have hL : ∀ k ∈ k1 :: rest, k ∈ (k1 :: rest) ++ KR := fun k hk => List.mem_append_left _ hk
    have hR : ∀ k ∈ KR, k ∈ (k1 :: rest) ++ KR := fun k hk => List.mem_append_right _ hk
    have hrefl : eq k1 k1 = true := (hg.level0 hk1 hk1 hk1).1
    -- matched partners lie in the same class, so the matching splits along the class of `k1`
    have hclass : ∀ x ∈ k1 :: rest, ∀ y ∈ KR, DE x y → eq k1 x = eq k1 y :=
      fun x hx y hy hxy => hg.class_congr hk1 (hL x hx) (hR y hy) (hD1 x y hxy)
    have hmq := hm.filter (eq k1) hclass
    have hmnq := hm.filter (fun k => !eq k1 k) (fun x hx y hy hxy => congrArg not (hclass x hx y hy hxy))
    rw [List.filter_cons_of_pos hrefl] at hmq
    rw [List.filter_cons_of_neg (by rw [hrefl]; decide)] at hmnq
    rw [twoPass_cons eq k1 rest KR (fun y hy k hk => (hg.level0 hk1 hy hk).2.2)]
    intro c hc
    rcases List.mem_cons.mp hc with rfl | hc
    · -- the class is not empty on the right either
      cases hY : KR.filter (eq k1) with
      | nil => rw [hY] at hmq; cases hmq.length_eq
      | cons y ys =>
        refine ⟨k1, rest.filter (eq k1), y, ys, hY ▸ hmq, hg.subset ?_, feed_class eq k1 y _ ys⟩
        intro z hz
        rcases List.mem_append.mp hz with hz | hz
        · exact hL z (List.mem_filter.mp (List.filter_cons_of_pos hrefl ▸ hz)).1
        · exact hR z (List.mem_filter.mp (hY ▸ hz)).1
    · refine twoPass_classes n _ _ ?_ hmnq (hg.subset ?_) c hc
      · exact Nat.le_trans (List.length_filter_le _ rest) (Nat.le_of_succ_le_succ hn)
      · intro a ha
        rcases List.mem_append.mp ha with ha | ha
        · exact hL a (List.mem_cons_of_mem _ (List.mem_filter.mp ha).1)
        · exact hR a (List.mem_filter.mp ha).1

include hD1 hD2 in
theorem twoPass_two_sided : ∀ (d : Nat) (k y : INode) (KL KR : List INode), PMatch DE KL KR →
    EquivGuard eq (KL ++ KR) → ∀ e, EntryAt (.mk (some k) (some y) (twoPass eq KL KR)) d e →
      e.left.isSome = true ∧ e.right.isSome = true := by
  intro d
  induction d with
  | zero =>
    intro k y KL KR _ _ e he
    rw [EntryAt.zero_iff.mp he]
    exact ⟨rfl, rfl⟩
  | succ d ih =>
    intro k y KL KR hm hg e he
    obtain ⟨c, hc, he'⟩ := EntryAt.succ_iff.mp he
    obtain ⟨k', ks, y', ys, hm', hg', rfl⟩ := twoPass_classes eq DE hD1 _ KL KR (Nat.le_refl _) hm hg c hc
    exact ih k' y' _ _ (hm'.flatMap_kids hD2) (List.flatMap_append ▸ hg'.flatMap_kids) e he'
end classes

/-- `DeepEqual(a, b)` on id-carrying nodes -/
def DeepEq (a b : INode) : Prop := deepEqual a.erase b.erase = true

theorem PMatch.of_matched_map {α β : Type} {R : β → β → Bool} (f : α → β) {l' r' : List β}
    (h : G.Matched R l' r') : ∀ (l r : List α), l.map f = l' → (r.map f).Perm r' →
      PMatch (fun a b => R (f a) (f b) = true) l r := by
  induction h with
  | nil =>
    intro l r hl hr
    rw [List.map_eq_nil_iff.mp hl, List.map_eq_nil_iff.mp hr.eq_nil]
    exact PMatch.nil
  | @cons x y xs s r0 hxy _ hperm ih =>
    intro l r hl hr
    obtain ⟨a, as, rfl, rfl, rfl⟩ := List.map_eq_cons_iff.mp hl
    have hr' := hr.trans hperm
    obtain ⟨b, hb, rfl⟩ := List.mem_map.mp (hr'.symm.subset List.mem_cons_self)
    obtain ⟨s1, s2, rfl⟩ := List.append_of_mem hb
    refine PMatch.cons hxy List.perm_middle (ih as (s1 ++ s2) rfl ?_)
    exact List.Perm.cons_inv (((List.perm_middle.map f).symm.trans hr'))

theorem iequals_refl (x : INode) : iequals x x = true := equalsShallow_refl _

theorem DeepEq.shallow {a b : INode} (h : DeepEq a b) : iequals a b = true := by
  rw [DeepEq, deepEqual_eq, Bool.and_eq_true] at h
  exact h.1

theorem DeepEq.kids {a b : INode} (h : DeepEq a b) : PMatch DeepEq a.kids b.kids := by
  rw [DeepEq, deepEqual_eq, Bool.and_eq_true, INode.erase_kids, INode.erase_kids] at h
  exact PMatch.of_matched_map INode.erase (deepEqualNodes_sound h.2) _ _ rfl (List.Perm.refl _)

end Gedcom

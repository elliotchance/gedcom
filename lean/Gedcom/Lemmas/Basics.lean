/-
  Facts about lists, options, bytes, integers and rationals that mention nothing of the model and that Lean's
  core library does not have: the one place for them, imported wherever one is needed.  No imports.
-/
namespace Gedcom
universe u v
variable {α : Type u} {β : Type v}

/-! ## membership -/

theorem mem_middle {pre post : List α} {e x : α} :
    x ∈ pre ++ e :: post ↔ x = e ∨ x ∈ pre ++ post := by
  simp only [List.mem_append, List.mem_cons]
  exact or_left_comm

theorem mem_removed {pre post : List α} {e x : α} (h : x ∈ pre ++ post) :
    x ∈ pre ++ e :: post :=
  mem_middle.mpr (Or.inr h)

theorem mem_replaced {pre post : List α} {n n' y : α} (h : y ∈ pre ++ n :: post) :
    y = n ∨ y ∈ pre ++ n' :: post :=
  (mem_middle.mp h).imp_right mem_removed

theorem mem_added {l : List α} {a x : α} (h : x ∈ l ++ [a]) : x ∈ l ∨ x = a :=
  (List.mem_append.mp h).imp_right List.mem_singleton.mp

theorem mem_merged {pre post : List α} {e me x : α} (h : x ∈ pre ++ post ++ [me]) :
    x ∈ pre ++ e :: post ∨ x = me :=
  (mem_added h).imp_left mem_removed

/-! ## `lookup`, `find?`, `findSome?`, `foldl` -/

theorem lookup_mem [BEq α] [LawfulBEq α] {l : List (α × β)} {k : α} {v : β}
    (h : l.lookup k = some v) : (k, v) ∈ l := by
  obtain ⟨_, _, rfl, _⟩ := List.lookup_eq_some_iff.mp h
  exact List.mem_append_cons_self

/-- a `find?` for something at most one member has does not depend on the order -/
theorem find_perm_unique (p : α → Bool) (l l' : List α) (hp : l.Perm l')
    (hu : ∀ a ∈ l, ∀ b ∈ l, p a = true → p b = true → a = b) : l.find? p = l'.find? p := by
  induction hp with
  | nil => rfl
  | cons x _ ih =>
    simp only [List.find?_cons]
    split
    · rfl
    · exact ih (fun a ha b hb => hu a (List.mem_cons_of_mem _ ha) b (List.mem_cons_of_mem _ hb))
  | swap x y l =>
    simp only [List.find?_cons]
    cases hx : p x <;> cases hy : p y <;> simp
    exact hu y (by simp) x (by simp) hy hx
  | trans h1 _ ih1 ih2 =>
    rw [ih1 hu]
    exact ih2 (fun a ha b hb => hu a (h1.mem_iff.mpr ha) b (h1.mem_iff.mpr hb))

theorem foldl_last (q : α → Bool) : ∀ (l : List α) (init : Option α),
    l.foldl (fun acc x => if q x then some x else acc) init = (l.reverse.find? q).or init
  | [], init => by simp
  | x :: xs, init => by
    rw [List.foldl_cons, foldl_last q xs, List.reverse_cons, List.find?_append]
    cases h : q x <;> cases (xs.reverse.find? q) <;> simp [h]

theorem find?_congr_mem {p q : α → Bool} (l : List α) (h : ∀ x ∈ l, p x = q x) :
    l.find? p = l.find? q := by
  rw [← List.head?_filter, ← List.head?_filter, List.filter_congr h]

theorem any_congr_mem {p q : α → Bool} (l : List α) (h : ∀ x ∈ l, p x = q x) : l.any p = l.any q := by
  show l.any (id ∘ p) = l.any (id ∘ q)
  rw [← List.any_map, ← List.any_map, List.map_congr_left h]

theorem flatMap_congr_mem {f g : α → List β} (l : List α) (h : ∀ x ∈ l, f x = g x) :
    l.flatMap f = l.flatMap g := by
  rw [List.flatMap_def, List.flatMap_def, List.map_congr_left h]

theorem contains_congr [BEq α] [LawfulBEq α] {f f' : List α} (h : ∀ x, x ∈ f ↔ x ∈ f') (x : α) :
    f.contains x = f'.contains x := by
  rw [Bool.eq_iff_iff, List.contains_iff_mem, List.contains_iff_mem, h]

theorem count_ids [BEq β] (f : α → β) (l : List α) (x : β) :
    l.countP (fun a => f a == x) = (l.map f).count x := by
  rw [List.count_eq_countP, List.countP_map]
  rfl

/-! ## lists without repetitions, permutations -/

/-- two members of a list whose positions are pairwise separated by `D` are the same member as soon
    as `D` does not separate them -/
theorem eq_of_pairwise {D : α → α → Prop} {l : List α} (h : l.Pairwise D) {a b : α} (ha : a ∈ l)
    (hb : b ∈ l) (hab : ¬ D a b) (hba : ¬ D b a) : a = b :=
  List.Pairwise.forall_of_forall_of_flip (R := fun a b => ¬ D a b → ¬ D b a → a = b)
    (fun _ _ _ _ => rfl) (h.imp fun d n _ => absurd d n) (h.imp fun d _ n => absurd d n) ha hb hab hba

theorem inj_of_nodup_map (f : α → β) {l : List α} (h : (l.map f).Nodup) {a b : α}
    (ha : a ∈ l) (hb : b ∈ l) (e : f a = f b) : a = b :=
  eq_of_pairwise (List.pairwise_map.mp h) ha hb (fun n => n e) (fun n => n e.symm)

theorem nodup_of_map (f : α → β) {l : List α} (h : (l.map f).Nodup) : l.Nodup := by
  rw [List.Nodup, List.pairwise_map] at h
  exact h.imp fun hne e => hne (congrArg f e)

theorem nodup_map {f : α → β} (hf : ∀ a b, f a = f b → a = b) {l : List α} (h : l.Nodup) :
    (l.map f).Nodup := by
  rw [List.Nodup, List.pairwise_map]
  exact h.imp fun hne e => hne (hf _ _ e)

theorem nodup_of_sorted {lt : α → α → Prop} (hasym : ∀ x y, lt x y → ¬ lt y x) {l : List α}
    (hl : l.Pairwise lt) : l.Nodup :=
  hl.imp fun {a b} (h : lt a b) (e : a = b) => hasym b b (e ▸ h) (e ▸ h)

theorem nodup_map_middle (g : α → β) {A B : List α} {x : α}
    (h : ((A ++ x :: B).map g).Nodup) : ∀ y ∈ A ++ B, g y ≠ g x := by
  rw [List.map_append, List.map_cons, List.nodup_append] at h
  obtain ⟨_, h2, h3⟩ := h
  rw [List.nodup_cons] at h2
  intro y hy hxy
  rcases List.mem_append.mp hy with hy | hy
  · exact h3 (g y) (List.mem_map_of_mem hy) (g x) (by simp) hxy
  · exact h2.1 (by rw [← hxy]; exact List.mem_map_of_mem hy)

theorem exists_perm_sublist [DecidableEq α] {l m : List α} (hl : l.Nodup) (hm : m.Nodup)
    (h : ∀ a ∈ l, a ∈ m) : ∃ L : List α, L.Perm l ∧ L.Sublist m :=
  ⟨m.filter (l.contains ·),
    (List.perm_ext_iff_of_nodup (hm.sublist List.filter_sublist) hl).mpr fun a => by
      simpa [List.mem_filter] using h a,
    List.filter_sublist⟩

open Classical in
theorem perm_cons_exchange {y z : α} {s r : List α} (h : (y :: s).Perm (z :: r)) (hyz : y ≠ z) :
    ∃ t, s.Perm (z :: t) ∧ r.Perm (y :: t) := by
  have hz : z ∈ s := by
    rcases List.mem_cons.mp (h.symm.subset List.mem_cons_self) with e | hz
    · exact absurd e.symm hyz
    · exact hz
  have hs : s.Perm (z :: s.erase z) := List.perm_cons_erase hz
  refine ⟨s.erase z, hs, ?_⟩
  have : (z :: r).Perm (z :: y :: s.erase z) :=
    h.symm.trans ((List.Perm.cons y hs).trans (List.Perm.swap z y _))
  exact this.cons_inv

theorem perm_flatMap_left (l : List α) {f g : α → List β}
    (h : ∀ a, (f a).Perm (g a)) : (l.flatMap f).Perm (l.flatMap g) := by
  induction l with
  | nil => exact .refl _
  | cons a l ih => exact (h a).append ih

/-! ## `takeWhile`, `filter`, first and last -/

theorem takeWhile_append_stop (p : α → Bool) (a b : List α)
    (ha : ∀ x ∈ a, p x = true) (hb : ∀ y, b.head? = some y → p y = false) :
    (a ++ b).takeWhile p = a ∧ (a ++ b).dropWhile p = b := by
  rw [List.takeWhile_append_of_pos ha, List.dropWhile_append_of_pos ha]
  cases b with
  | nil => simp
  | cons y ys => simp [hb y rfl]

theorem filter_flatMap_map (g : α → α) (P : α → Bool) (f : α → List β)
    (hP : ∀ a, P (g a) = P a) (hf : ∀ a, P a = true → f (g a) = f a) (l : List α) :
    ((l.map g).filter P).flatMap f = (l.filter P).flatMap f := by
  induction l with
  | nil => rfl
  | cons a as ih =>
    simp only [List.map_cons, List.filter_cons, hP]
    split
    · rename_i h
      simp only [List.flatMap_cons, hf a h, ih]
    · exact ih

theorem eq_first_inside_last {v : List α} {a b : α} (hl : 2 ≤ v.length) (ha : v.head? = some a)
    (hb : v.getLast? = some b) : v = [a] ++ (v.drop 1).take (v.length - 2) ++ [b] := by
  match v, hl with
  | x :: y :: l, _ =>
    obtain rfl : x = a := Option.some.inj ha
    have hne : y :: l ≠ [] := nofun
    rw [List.getLast?_cons_cons, List.getLast?_eq_some_getLast hne] at hb
    obtain rfl := Option.some.inj hb
    have hin : ((x :: y :: l).drop 1).take ((x :: y :: l).length - 2) = (y :: l).dropLast :=
      (List.dropLast_eq_take ..).symm
    rw [hin, List.append_assoc, List.dropLast_concat_getLast hne]
    rfl

/-! ## positions: `zipIdx`, `getElem?`, `getD` -/

theorem zipIdx_increasing (l : List α) (k : Nat) : (l.zipIdx k).Pairwise (fun p q => p.2 < q.2) := by
  rw [← List.pairwise_map (f := Prod.snd) (R := (· < ·)), List.zipIdx_map_snd]
  exact List.pairwise_lt_range'

theorem zipIdx_find (l : List α) (k i : Nat) :
    (l.zipIdx k).find? (fun e => e.2 == i + k) = (l[i]?).map (fun x => (x, i + k)) := by
  induction l generalizing k i with
  | nil => simp
  | cons x xs ih =>
    simp only [List.zipIdx_cons, List.find?_cons]
    cases i with
    | zero => simp
    | succ i =>
      have hne : (k == i + 1 + k) = false := by simp
      simp only [hne]
      have := ih (k + 1) i
      have he : i + (k + 1) = i + 1 + k := by omega
      rw [he] at this
      simpa using this

theorem zipIdx_snd_unique (l : List α) (k : Nat) :
    ∀ a ∈ l.zipIdx k, ∀ b ∈ l.zipIdx k, a.2 = b.2 → a = b := by
  intro a ha b hb h
  obtain ⟨a1, a2⟩ := a
  obtain ⟨b1, b2⟩ := b
  have ha' := List.mem_zipIdx ha
  have hb' := List.mem_zipIdx hb
  simp only at h ha' hb'
  subst h
  obtain ⟨_, _, e1⟩ := ha'
  obtain ⟨_, _, e2⟩ := hb'
  simp [e1, e2]

theorem zipIdx_map (g : α → β) (l : List α) (k : Nat) :
    (l.zipIdx k).map (fun p => g p.1) = l.map g := by
  rw [show (fun p : α × Nat => g p.1) = g ∘ Prod.fst from rfl, ← List.map_map,
    List.zipIdx_map_fst]

theorem zipIdx_flatMap (g : α → List β) (l : List α) (k : Nat) :
    (l.zipIdx k).flatMap (fun p => g p.1) = l.flatMap g := by
  have := List.flatMap_map (f := Prod.fst) (g := g) (l := l.zipIdx k)
  rw [List.zipIdx_map_fst] at this
  exact this.symm

theorem lt_of_getElem? {l : List α} {i : Nat} {a : α} (h : l[i]? = some a) :
    i < l.length :=
  let ⟨hlt, _⟩ := List.getElem?_eq_some_iff.mp h; hlt

theorem getD_all (p : α → Bool) (l : List α) (h : l.all p = true) (i : Nat) (d : α) (hd : p d = true) :
    p (l.getD i d) = true := by
  rw [List.getD_eq_getElem?_getD]
  cases hq : l[i]? with
  | none => exact hd
  | some a => exact List.all_eq_true.mp h a (List.mem_of_getElem? hq)

theorem all_of_getD (p : α → Bool) (l : List α) (d : α) (h : ∀ i, p (l.getD i d) = true) :
    l.all p = true :=
  List.all_eq_true.mpr fun a ha => by
    obtain ⟨i, hi⟩ := List.mem_iff_getElem?.mp ha
    simpa [List.getD_eq_getElem?_getD, hi] using h i

theorem getD_map_eq (f : α → β) (l l' : List α) (h : l'.map f = l.map f) (i : Nat) (d : α) :
    f (l'.getD i d) = f (l.getD i d) := by
  have := congrArg (fun m => m.getD i (f d)) h
  simpa [List.getD_eq_getElem?_getD, List.getElem?_map, Option.getD_map] using this

theorem map_eq_of_getD (f : α → β) (l l' : List α) (d : α) (hlen : l'.length = l.length)
    (h : ∀ i, f (l'.getD i d) = f (l.getD i d)) : l'.map f = l.map f :=
  List.ext_getElem (by simpa using hlen) fun i h1 h2 => by
    simp only [List.length_map] at h1 h2
    simpa [List.getD_eq_getElem?_getD, List.getElem?_eq_getElem, h1, h2] using h i

theorem getD_mem_cons (e : α) (es : List α) (i : Nat) : (e :: es).getD i e ∈ e :: es := by
  rw [List.getD_eq_getElem?_getD]
  cases hq : (e :: es)[i]? with
  | none => simp
  | some t => simpa using List.mem_cons.mp (List.mem_of_getElem? hq)

/-! ## `if`, bytes, integers -/

theorem ite_ne_of_ne {p : Prop} [Decidable p] {x y r : α} (hx : x ≠ r) (hy : y ≠ r) :
    (if p then x else y) ≠ r := by
  split <;> assumption

theorem mem_ite_singleton {c : Prop} [Decidable c] {a b : α} :
    a ∈ (if c then [b] else []) ↔ a = b ∧ c := by
  rw [List.mem_ite_nil_right, List.mem_singleton, and_comm]

theorem toNat_ne {b c : UInt8} (h : b ≠ c) : b.toNat ≠ c.toNat := fun e => h (UInt8.toNat_inj.mp e)

theorem toNat_ofNat_byte (b : UInt8) : (Char.ofNat b.toNat).toNat = b.toNat := by
  have h : b.toNat.isValidChar := Or.inl (Nat.lt_trans b.toNat_lt (by decide))
  rw [Char.ofNat, dif_pos h]
  rfl

theorem test_eq_of_bytes {f g : UInt8 → Bool} (h : ∀ n, n < 256 → f (UInt8.ofNat n) = g (UInt8.ofNat n)) :
    f = g := by
  funext b
  have := h b.toNat b.toNat_lt
  simpa using this

theorem ediv_step (y : Int) {k : Int} (hk : 0 < k) :
    y / k = (y - 1) / k + if y % k = 0 then 1 else 0 := by
  have e := Int.emod_add_mul_ediv y k
  have h0 := Int.emod_nonneg y (Int.ne_of_gt hk)
  have h1 := Int.emod_lt_of_pos y hk
  -- `y - 1 = r + k * q` with `0 ≤ r < k` has quotient `q`
  have quot (r q : Int) (hr0 : 0 ≤ r) (hr : r < k) (hy : y - 1 = r + k * q) : (y - 1) / k = q := by
    rw [hy, Int.add_mul_ediv_left _ _ (Int.ne_of_gt hk), Int.ediv_eq_zero_of_lt hr0 hr, Int.zero_add]
  split
  next h =>
    rw [quot (k - 1) (y / k - 1) (by omega) (by omega) (by rw [Int.mul_sub, Int.mul_one]; omega)]
    omega
  next h =>
    rw [quot (y % k - 1) (y / k) (by omega) (by omega) (by omega)]
    omega

theorem cross_lt_trans {x y z dx dy dz : Int} (hx : 0 < dx) (hy : 0 < dy) (hz : 0 < dz)
    (h1 : x * dy < y * dx) (h2 : y * dz < z * dy) : x * dz < z * dx := by
  have : x * dz * dy < z * dx * dy :=
    calc x * dz * dy = x * dy * dz := Int.mul_right_comm _ _ _
      _ < y * dx * dz := Int.mul_lt_mul_of_pos_right h1 hz
      _ = y * dz * dx := Int.mul_right_comm _ _ _
      _ < z * dy * dx := Int.mul_lt_mul_of_pos_right h2 hx
      _ = z * dx * dy := Int.mul_right_comm _ _ _
  exact Int.lt_of_mul_lt_mul_right this (Int.le_of_lt hy)

/-! ## rationals -/

theorem rat_div_self {a : Rat} (h : a ≠ 0) : a / a = 1 := by
  rw [Rat.div_def]; exact Rat.mul_inv_cancel a h

/-! A weighted mean of values of the unit interval, in three steps: a sum `s` of such values under
    non-negative weights of total `w` has `0 ≤ s ∧ s ≤ w`. -/

theorem weighted_mul {x w : Rat} (hx : 0 ≤ x ∧ x ≤ 1) (hw : 0 ≤ w) : 0 ≤ x * w ∧ x * w ≤ w := by
  have := Rat.mul_le_mul_of_nonneg_right hx.2 hw
  rw [Rat.one_mul] at this
  exact ⟨Rat.mul_nonneg hx.1 hw, this⟩

theorem weighted_add {s w s' w' : Rat} (h : 0 ≤ s ∧ s ≤ w) (h' : 0 ≤ s' ∧ s' ≤ w') :
    0 ≤ s + s' ∧ s + s' ≤ w + w' :=
  ⟨Rat.add_nonneg h.1 h'.1, Rat.le_trans (Rat.add_le_add_right.mpr h.2) (Rat.add_le_add_left.mpr h'.2)⟩

theorem weighted_div {s w : Rat} (h : 0 ≤ s ∧ s ≤ w) (hw : 0 < w) : 0 ≤ s / w ∧ s / w ≤ 1 := by
  have hi : 0 ≤ w⁻¹ := Rat.le_of_lt (Rat.inv_pos.mpr hw)
  have h2 := Rat.mul_le_mul_of_nonneg_right h.2 hi
  rw [Rat.mul_inv_cancel w (Rat.ne_of_lt hw).symm] at h2
  rw [Rat.div_def]
  exact ⟨Rat.mul_nonneg h.1 hi, h2⟩

theorem rat_lt_asymm (a b : Rat) (h : a < b) : ¬ b < a :=
  Rat.not_lt.mpr (Rat.le_of_lt h)

theorem rat_not_lt_trans (a b c : Rat) (h1 : ¬ b < a) (h2 : ¬ c < b) : ¬ c < a :=
  Rat.not_lt.mpr (Rat.le_trans (Rat.not_lt.mp h1) (Rat.not_lt.mp h2))

theorem convex_bounds (x y t : Rat) (hx0 : 0 ≤ x) (hx1 : x ≤ 1) (hy0 : 0 ≤ y) (hy1 : y ≤ 1)
    (ht0 : 0 ≤ t) (ht1 : t ≤ 1) : 0 ≤ x * t + y * (1 - t) ∧ x * t + y * (1 - t) ≤ 1 := by
  have h := weighted_add (weighted_mul ⟨hx0, hx1⟩ ht0)
    (weighted_mul ⟨hy0, hy1⟩ ((Rat.le_iff_sub_nonneg t 1).mp ht1))
  have e : t + (1 - t) = 1 := by grind
  rw [e] at h
  exact h

theorem mean_bounds {x y : Rat} (hx : 0 ≤ x ∧ x ≤ 1) (hy : 0 ≤ y ∧ y ≤ 1) :
    0 ≤ (x + y) / 2 ∧ (x + y) / 2 ≤ 1 :=
  weighted_div ((by decide +kernel : (1 : Rat) + 1 = 2) ▸ weighted_add hx hy) (by decide)

theorem rat_mul_self_nonneg (x : Rat) : 0 ≤ x * x := by
  rcases (Rat.le_total : (0:Rat) ≤ x ∨ x ≤ 0) with h | h
  · exact Rat.mul_nonneg h h
  · have := Rat.mul_nonneg (show (0 : Rat) ≤ -x by grind) (show (0 : Rat) ≤ -x by grind)
    grind

theorem abs_mul_self (u : Rat) : u.abs * u.abs = u * u := by
  unfold Rat.abs; split <;> grind

theorem sq_le_sq_of_abs {u v : Rat} (h : u.abs ≤ v.abs) : u * u ≤ v * v := by
  rw [← abs_mul_self u, ← abs_mul_self v]
  have a := Rat.mul_le_mul_of_nonneg_left h (Rat.abs_nonneg (x := u))
  have b := Rat.mul_le_mul_of_nonneg_right h (Rat.abs_nonneg (x := v))
  exact Rat.le_trans a b

theorem ratio_sq (u m : Rat) : (u / m) * (u / m) = (u * u) * (m⁻¹ * m⁻¹) := by
  rw [Rat.div_def]; grind

theorem one_lt_mul_self {t : Rat} (h : 1 < t) : 1 < t * t := by
  have := Rat.mul_lt_mul_of_pos_left h (show 0 < t by grind)
  grind

theorem rat_div_one (a : Rat) : a / 1 = a := by
  rw [Rat.div_def, show (1 : Rat)⁻¹ = 1 by decide +kernel, Rat.mul_one]

end Gedcom

/-
  The range pattern on `between X and Y`, `X` and `Y` sentences (`range_parse`), and what the two
  patterns together ask of the word in the month position (`MonthTok`).
-/
import Gedcom.Lemmas.DateGrammar
namespace Gedcom

/-! ## a keyword standing exactly at a token -/

theorem kwAt_exact {k Tok : Str} (R : Str) (h : lowerStr k = lowerStr Tok) :
    hasPrefixCI k (Tok ++ 32 :: R) = true ∧ (Tok ++ 32 :: R).take k.length = Tok ∧
    (Tok ++ 32 :: R).drop k.length = 32 :: R := by
  have hl : k.length = Tok.length := length_eq_of_lower_eq h
  refine ⟨?_, by rw [hl, List.take_left], by rw [hl, List.drop_left]⟩
  rw [hasPrefixCI_iff, hl, List.take_left]
  exact ⟨by simp, h.symm⟩

theorem kwScan_exact {β : Type} {ks : List Str} (hks : ∀ k ∈ ks, solidStr k = true) {Tok : Str}
    (R : Str) (h : ∃ k ∈ ks, lowerStr Tok = lowerStr k)
    (g : Str → Str → Option β) : kwScan ks g (Tok ++ 32 :: R) = g Tok R := by
  cases hv : kwScan ks g (Tok ++ 32 :: R) with
  | some v => exact (kwScan_tok (ts := [R]) hks (solid_of_variant hks h) hv).2.2.symm
  | none =>
    -- the alternative `k` fires and gives `g Tok R`
    obtain ⟨k, hk, hl⟩ := h
    obtain ⟨h1, h2, h3⟩ := kwAt_exact R hl.symm
    have := List.findSome?_eq_none_iff.mp hv k hk
    simpa only [if_pos h1, h3, h2] using this.symm

/-! ## the separator -/

def NotAnd (Tok : Str) : Prop := ∀ aw ∈ andKeywords, lowerStr aw ≠ lowerStr Tok

theorem sepWordAt_none_tok {Tok : Str} {ts : List Str} (hT : Solid Tok) (hna : NotAnd Tok) :
    sepWordAt (joinSp (Tok :: ts)) = none := by
  rw [sepWordAt_eq_kwScan, Option.eq_none_iff_forall_ne_some]
  intro v hv
  obtain ⟨⟨k, hk, hl⟩, _⟩ := kwScan_tok andKeywords_solid hT hv
  exact hna k hk hl.symm

theorem sepWordAt_exact {AW : Str} (R : Str) (h : ∃ aw ∈ andKeywords, lowerStr AW = lowerStr aw) :
    sepWordAt (AW ++ 32 :: R) = some (AW, R) :=
  (sepWordAt_eq_kwScan _).trans (kwScan_exact andKeywords_solid R h _)

theorem findSep_split {AWR AW R : Str} (hno : ∀ acc, findSep acc AWR = none)
    (hsep : sepWordAt AWR = some (AW, R)) (hR : R ≠ []) (L acc : Str) (hne : acc ≠ [] ∨ L ≠ []) :
    findSep acc (L ++ 32 :: AWR) = some (acc.reverse ++ L, AW, R) := by
  induction L generalizing acc with
  | nil =>
    have hacc : acc ≠ [] := by rcases hne with h | h; exact h; exact absurd rfl h
    have : acc.isEmpty = false := by cases acc <;> simp at hacc ⊢
    have hRe : R.isEmpty = false := by cases R <;> simp at hR ⊢
    rw [List.nil_append, findSep, hno]
    simp [this, hsep, hRe]
  | cons x L ih =>
    rw [List.cons_append, findSep, ih (x :: acc) (Or.inl (by simp))]
    simp

theorem findSep_joinSp (toks : List Str) (h : ∀ t ∈ toks, Solid t ∧ NotAnd t) :
    (∀ acc, findSep acc (joinSp toks) = none) ∧ (toks ≠ [] → sepWordAt (joinSp toks) = none) := by
  induction toks with
  | nil => exact ⟨fun _ => rfl, fun h => absurd rfl h⟩
  | cons t ts ih =>
    obtain ⟨hs, hna⟩ := h t (by simp)
    have ih' := ih (fun x hx => h x (by simp [hx]))
    refine ⟨?_, fun _ => sepWordAt_none_tok hs hna⟩
    cases ts with
    | nil =>
      have := findSep_append_none (X := []) hs fun _ => rfl
      simpa [joinSp] using this
    | cons t' ts =>
      exact findSep_append_none hs (findSep_cons_none ih'.1 fun _ => ih'.2 (by simp))

/-! ## the range pattern on `between X and Y` -/

theorem matchRange_range {BW S1 AW S2 : Str}
    (hbw : ∃ bk ∈ betweenKeywords, lowerStr BW = lowerStr bk)
    (haw : ∃ aw ∈ andKeywords, lowerStr AW = lowerStr aw)
    (hS1 : S1 ≠ []) (hS2 : S2 ≠ [])
    (hno : ∀ acc, findSep acc S2 = none) (hno' : sepWordAt S2 = none)
    (hnl : (BW ++ 32 :: (S1 ++ 32 :: (AW ++ 32 :: S2))).contains 10 = false) :
    matchRange (BW ++ 32 :: (S1 ++ 32 :: (AW ++ 32 :: S2))) = some (BW, S1, AW, S2) := by
  have hsepB := findSep_append_none (solid_of_variant andKeywords_solid haw)
    (findSep_cons_none (c := 32) hno fun _ => hno')
  have hfind : findSep [] (S1 ++ 32 :: (AW ++ 32 :: S2)) = some (S1, AW, S2) := by
    have := findSep_split hsepB (sepWordAt_exact S2 haw) hS2 S1 [] (Or.inr hS1)
    simpa using this
  rw [matchRange_eq_kwScan, hnl,
    kwScan_exact (fun k hk => (betweenKeywords_solid k hk).1) _ hbw, hfind]
  rfl

/-! ## tokens that are not and-words -/

theorem and_not_keyword :
    ∀ aw ∈ andKeywords, ∀ kw ∈ dateKeywords, lowerStr aw ≠ lowerStr kw := by decide +kernel

theorem and_head_not_digit : ∀ aw ∈ andKeywords, headNotDigit aw = true := by decide +kernel

theorem notAnd_of_isDigits {s : Str} (h : isDigits s = true) : NotAnd s :=
  fun aw haw => lower_ne_of_isDigits (and_head_not_digit aw haw) h

theorem notAnd_of_kwTok {T : Str} (h : KwTok T) : NotAnd T := by
  obtain ⟨kw, hkw, hlow⟩ := h
  exact fun aw haw e => and_not_keyword aw haw kw hkw (e.trans hlow)

/-! ## the word in the month position -/

theorem dateKeywords_not_month :
    ∀ k ∈ dateKeywords, ∀ wm ∈ Generated.monthWords, hasPrefixCI k wm.1 = false := by decide +kernel

theorem and_not_month :
    ∀ aw ∈ andKeywords, ∀ wm ∈ Generated.monthWords, lowerStr aw ≠ lowerStr wm.1 := by decide +kernel

/-- what the grammar asks of the word in the month position; every month word meets it -/
structure MonthTok (M : Str) (m : Nat) : Prop where
  word : WordTok M
  month : monthOfWord M = some m
  pos : 1 ≤ m
  noKw : NoKwPrefix M
  notAnd : NotAnd M

theorem monthVariant_facts {M : Str} {wm : Str × Nat} (hwm : wm ∈ Generated.monthWords)
    (h : lowerStr M = lowerStr wm.1) : MonthTok M wm.2 := by
  obtain ⟨hl, hm, h1, _⟩ := monthWords_facts wm hwm
  obtain ⟨hw, hlow⟩ := wordTok_of_variant hl h
  refine ⟨hw, by unfold monthOfWord; rw [hlow]; exact hm, h1, ?_, ?_⟩
  · intro k hk
    rw [hasPrefixCI_of_lower_eq k h]
    exact dateKeywords_not_month k hk wm hwm
  · exact fun aw haw e => and_not_month aw haw wm hwm (e.trans h)

theorem wf_of_monthTok {x : Sentence} (hkw : ∀ T, x.kw = some T → KwTok T)
    (hword : ∀ M, x.body.word = some M → ∃ m, MonthTok M m) : x.WF := by
  refine ⟨hkw, fun M hM => ?_, fun _ M yz y hb => ?_⟩
  · obtain ⟨_, ht⟩ := hword M hM
    exact ht.word
  · obtain ⟨_, ht⟩ := hword M (by rw [hb]; rfl)
    exact ht.noKw

/-! ## whole range sentences -/

theorem joinSp_range (BW AW : Str) {t1 t2 : List Str} (h1 : t1 ≠ []) (h2 : t2 ≠ []) :
    joinSp (BW :: t1 ++ AW :: t2) = BW ++ 32 :: (joinSp t1 ++ 32 :: (AW ++ 32 :: joinSp t2)) := by
  have : BW :: t1 ++ AW :: t2 = (BW :: t1) ++ (AW :: t2) := rfl
  rw [this, joinSp_append (by simp) (by simp), joinSp_cons h1, joinSp_cons h2]
  simp

theorem range_parse {BW AW : Str} (x1 x2 : Sentence) (h1 : x1.WF) (h2 : x2.WF)
    (hna : ∀ M, x2.body.word = some M → NotAnd M)
    (hbw : ∃ bk ∈ Generated.wordsBetween, lowerStr BW = lowerStr bk)
    (haw : ∃ aw ∈ Generated.wordsAnd, lowerStr AW = lowerStr aw)
    {s : Str} (hs : Spacing s (BW :: x1.tokens ++ AW :: x2.tokens)) :
    parseDateRange s = ⟨x1.result, x2.result, s⟩ := by
  have hbw : ∃ bk ∈ betweenKeywords, lowerStr BW = lowerStr bk :=
    hbw.imp fun _ h => ⟨mem_sortLenDesc.mpr h.1, h.2⟩
  have haw : ∃ aw ∈ andKeywords, lowerStr AW = lowerStr aw :=
    haw.imp fun _ h => ⟨mem_sortLenDesc.mpr h.1, h.2⟩
  have hBW : Solid BW := solid_of_variant (fun k hk => (betweenKeywords_solid k hk).1) hbw
  have hAW : Solid AW := solid_of_variant andKeywords_solid haw
  have hsolid : ∀ t ∈ BW :: x1.tokens ++ AW :: x2.tokens, Solid t := by
    simp only [List.cons_append, List.forall_mem_cons, List.forall_mem_append]
    exact ⟨hBW, x1.tokens_solid h1, hAW, x2.tokens_solid h2⟩
  have hjoin : joinSp (BW :: x1.tokens ++ AW :: x2.tokens) =
      BW ++ 32 :: (x1.str ++ 32 :: (AW ++ 32 :: x2.str)) :=
    joinSp_range BW AW x1.tokens_ne_nil x2.tokens_ne_nil
  have hclean : cleanSpace s = BW ++ 32 :: (x1.str ++ 32 :: (AW ++ 32 :: x2.str)) := by
    rw [hs.clean hsolid, hjoin]
  -- no token of the second sentence is an and-word: the greedy first `(.+)` stops at `AW`
  have hna2 : ∀ t ∈ x2.tokens, NotAnd t :=
    Sentence.forall_tokens (fun T hT => notAnd_of_kwTok (h2.kw T hT)) (fun _ => notAnd_of_isDigits) hna
  have hsep := findSep_joinSp x2.tokens (fun t ht => ⟨x2.tokens_solid h2 t ht, hna2 t ht⟩)
  have hm := matchRange_range (S1 := x1.str) (S2 := x2.str) hbw haw
    (joinSp_ne_nil x1.tokens_ne_nil (x1.tokens_solid h1))
    (joinSp_ne_nil x2.tokens_ne_nil (x2.tokens_solid h2)) hsep.1 (hsep.2 x2.tokens_ne_nil)
    (by rw [← hjoin]; exact joinSp_no_newline _ hsolid)
  rw [parseDateRange_of_range (by rw [hclean]; exact hm), parseDateParts_of_match (x1.matchDate h1),
    parseDateParts_of_match (x2.matchDate h2)]
  rfl

end Gedcom

/- The tokenizer is run over pieces without reading a data value (`runPieces`); that is the real run because no
   encoder lets `<`, `>` or `"` through (`encode_safe`, `runPieces_sound`).  Fragments that leave the element stack as
   it was (`Balanced`) compose, and what is checked of a fragment survives erasing its data (`eraseP`). -/
import Gedcom.Model.HtmlProg
import Gedcom.Model.Rewrite
import Gedcom.Lemmas.Basics
namespace Gedcom.Html

theorem lexRun_append (st : LState) (a b : Str) :
    lexRun st (a ++ b) = ((lexRun (lexRun st a).1 b).1, (lexRun st a).2 ++ (lexRun (lexRun st a).1 b).2) := by
  induction a generalizing st with
  | nil => simp [lexRun]
  | cons x xs ih => simp [lexRun, ih, List.append_assoc]

theorem lexGo_eq (st : LState) (acc : List Tok) (s : Str) :
    lexGo st acc s = ((lexRun st s).1, acc.reverse ++ (lexRun st s).2) := by
  induction s generalizing st acc with
  | nil => simp [lexGo, lexRun]
  | cons x xs ih => simp [lexGo, lexRun, ih, List.append_assoc]

theorem lexHtml_eq (s : Str) : lexHtml s = lexRun .data s := by
  simp [lexHtml, lexGo_eq]

theorem lexRun_stay (st : LState) (s : Str) (h : ∀ b ∈ s, lexStep st b = (st, [])) :
    lexRun st s = (st, []) := by
  induction s with
  | nil => rfl
  | cons x xs ih =>
    have hxs := ih fun b hb => h b (List.mem_cons_of_mem _ hb)
    simp [lexRun, h x List.mem_cons_self, hxs]

theorem lower_ne_lt (b : UInt8) (h : b ≠ 60) : lower b ≠ 60 := by
  unfold lower
  split
  · rename_i hr
    intro e
    have h1 := UInt8.le_iff_toNat_le.mp hr.1
    have h2 := UInt8.le_iff_toNat_le.mp hr.2
    have := congrArg UInt8.toNat e
    simp only [UInt8.toNat_add, UInt8.toNat_ofNat] at this h1 h2
    omega
  · exact h

theorem lexStep_dataOk {st : LState} (h : dataOk st = true) {b : UInt8} (h60 : b ≠ 60) (h34 : b ≠ 34) :
    lexStep st b = (st, []) := by
  cases st with
  | data => simp [lexStep, h60]
  | quoted c q =>
    have hq : q = 34 := by simpa [dataOk] using h
    simp [lexStep, hq, h34]
  | rawText e m =>
    obtain ⟨rfl, hhead⟩ : m = 0 ∧ e.head? = some 60 := by simpa [dataOk] using h
    obtain ⟨t, rfl⟩ := List.head?_eq_some_iff.mp hhead
    simp [lexStep, lower_ne_lt b h60, h60]
  | _ => simp [dataOk] at h

theorem lexRun_dataOk_stay (st : LState) (h : dataOk st = true) (s : Str) (hs : ∀ b ∈ s, b ≠ 60 ∧ b ≠ 34) :
    lexRun st s = (st, []) :=
  lexRun_stay st s fun b hb => lexStep_dataOk h (hs b hb).1 (hs b hb).2

theorem chk_append (σ : List Str) (a b : List Tok) :
    chk σ (a ++ b) = (chk σ a).bind (fun σ' => chk σ' b) := by
  induction a generalizing σ with
  | nil => simp [chk]
  | cons t ts ih =>
    cases t with
    | «open» n at_ => simp only [List.cons_append, chk]; split <;> exact ih _
    | close n =>
      cases σ with
      | nil => simp [chk]
      | cons m σ => simp only [List.cons_append, chk]; split <;> simp [ih]
    | selfClose n at_ => simp only [List.cons_append, chk]; exact ih _
    | comment => simp only [List.cons_append, chk]; exact ih _
    | bad => simp [chk]

theorem chk_frame (σ σ' ρ : List Str) (ts : List Tok) (h : chk σ ts = some σ') :
    chk (σ ++ ρ) ts = some (σ' ++ ρ) := by
  induction ts generalizing σ with
  | nil => simp [chk] at h; simp [chk, h]
  | cons t ts ih =>
    cases t with
    | «open» n at_ =>
      simp only [chk] at h ⊢
      split at h
      · rename_i hv; rw [if_pos hv]; exact ih σ h
      · rename_i hv; rw [if_neg hv]; exact ih (n :: σ) h
    | close n =>
      cases σ with
      | nil => simp [chk] at h
      | cons m σ =>
        simp only [List.cons_append, chk] at h ⊢
        split at h
        · rename_i hv; rw [if_pos hv]; exact ih σ h
        · simp at h
    | selfClose n at_ => simp only [chk] at h ⊢; exact ih σ h
    | comment => simp only [chk] at h ⊢; exact ih σ h
    | bad => simp [chk] at h

/-- the bytes no encoder may let through: `<`, `>` and `"` -/
def hot (b : UInt8) : Bool := b == 60 || b == 62 || b == 34

/-- the bytes that must not come out of an encoder for content and quoted attributes -/
def hot4 (b : UInt8) : Bool := hot b || b == 39

def tableSafe (bad : List UInt8) (tbl : List (UInt8 × Str)) : Bool :=
  tbl.all (fun e => e.2.all (fun b => !bad.contains b)) && bad.all (fun h => (tbl.lookup h).isSome)

theorem escByte_none {tbl : List (UInt8 × Str)} {x : UInt8} (h : tbl.lookup x = none) : escByte tbl x = [x] := by
  simp [escByte, h]

theorem escByte_some {tbl : List (UInt8 × Str)} {x : UInt8} {e : Str} (h : tbl.lookup x = some e) :
    escByte tbl x = e := by
  simp [escByte, h]

theorem escWith_cons (tbl : List (UInt8 × Str)) (x : UInt8) (xs : Str) :
    escWith tbl (x :: xs) = escByte tbl x ++ escWith tbl xs := List.flatMap_cons

theorem escWith_nil (g : Str) : escWith [] g = g := by
  induction g with
  | nil => rfl
  | cons b t ih =>
    simp only [escWith] at ih ⊢
    simp [List.flatMap_cons, escByte, ih]

theorem escWith_congr_keys (t1 t2 : List (UInt8 × Str))
    (h : ∀ k ∈ (t1 ++ t2).map (·.1), t1.lookup k = t2.lookup k) (s : Str) : escWith t1 s = escWith t2 s := by
  have hb : escByte t1 = escByte t2 := by
    funext b
    by_cases hk : b ∈ (t1 ++ t2).map (·.1)
    · simp [escByte, h b hk]
    · have off : ∀ t, t ⊆ t1 ++ t2 → t.lookup b = none := fun t ht =>
        List.lookup_eq_none_iff.mpr fun p hp => by
          simpa using fun e => hk (List.mem_map.mpr ⟨p, ht hp, Eq.symm e⟩)
      rw [escByte_none (off t1 (List.subset_append_left ..)), escByte_none (off t2 (List.subset_append_right ..))]
  rw [escWith, hb]; rfl

theorem escByte_safe (bad : List UInt8) (tbl : List (UInt8 × Str)) (hs : tableSafe bad tbl = true)
    (x b : UInt8) (h : b ∈ escByte tbl x) : b ∉ bad := by
  unfold tableSafe at hs
  simp only [Bool.and_eq_true, List.all_eq_true] at hs
  obtain ⟨h1, h2⟩ := hs
  cases hx : tbl.lookup x with
  | some e =>
    rw [escByte_some hx] at h
    simpa using h1 _ (lookup_mem hx) b h
  | none =>
    rw [escByte_none hx] at h
    have hb : b = x := by simpa using h
    intro hbad
    have := h2 b hbad
    simp [hb, hx] at this

theorem escWith_safe (bad : List UInt8) (tbl : List (UInt8 × Str)) (hs : tableSafe bad tbl = true)
    {s : Str} {b : UInt8} (h : b ∈ escWith tbl s) : b ∉ bad := by
  obtain ⟨x, _, hx⟩ := List.mem_flatMap.mp h
  exact escByte_safe bad tbl hs x b hx

/-- the five entities of `html.EscapeString` -/
def entities : List Str :=
  [[38, 35, 51, 52, 59], [38, 97, 109, 112, 59], [38, 35, 51, 57, 59], [38, 108, 116, 59], [38, 103, 116, 59]]

/-- strings made of plain bytes (none of `& < > " '`) and entities from `ents` -/
inductive EscapedWith (ents : List Str) : Str → Prop
  | nil : EscapedWith ents []
  | plain (b : UInt8) (rest : Str) : b ≠ 38 → b ≠ 60 → b ≠ 62 → b ≠ 34 → b ≠ 39 →
      EscapedWith ents rest → EscapedWith ents (b :: rest)
  | entity (e rest : Str) : e ∈ ents → EscapedWith ents rest → EscapedWith ents (e ++ rest)

/-- the output language of `html.EscapeString`: plain bytes and the five entities -/
abbrev Escaped : Str → Prop := EscapedWith entities

theorem EscapedWith.mono {e1 e2 : List Str} (hs : ∀ e ∈ e1, e ∈ e2) {s : Str} (h : EscapedWith e1 s) :
    EscapedWith e2 s := by
  induction h with
  | nil => exact .nil
  | plain b rest h1 h2 h3 h4 h5 _ ih => exact .plain b rest h1 h2 h3 h4 h5 ih
  | entity e rest he _ ih => exact .entity e rest (hs e he) ih

theorem escWith_escaped {tbl : List (UInt8 × Str)} {ents : List Str}
    (hkeys : ∀ k ∈ ([38, 60, 62, 34, 39] : List UInt8), (tbl.lookup k).isSome = true)
    (hents : ∀ p ∈ tbl, p.2 ∈ ents) (s : Str) : EscapedWith ents (escWith tbl s) := by
  induction s with
  | nil => exact .nil
  | cons x xs ih =>
    rw [escWith_cons]
    cases hx : tbl.lookup x with
    | some e => rw [escByte_some hx]; exact .entity e _ (hents _ (lookup_mem hx)) ih
    | none =>
      have hne : ∀ k ∈ ([38, 60, 62, 34, 39] : List UInt8), x ≠ k := by
        intro k hk e
        have := hkeys k hk
        rw [← e, hx] at this
        cases this
      rw [escByte_none hx]
      exact .plain x _ (hne 38 (by simp)) (hne 60 (by simp)) (hne 62 (by simp)) (hne 34 (by simp))
        (hne 39 (by simp)) ih

/-- every replacement starts with a byte `m` the table replaces itself, and none is a prefix of
    another: the output can be cut back into its pieces in one way only -/
def PrefixCode (m : UInt8) (tbl : List (UInt8 × Str)) : Prop :=
  (tbl.lookup m).isSome = true ∧ (∀ p ∈ tbl, p.2.head? = some m) ∧
    ∀ p ∈ tbl, ∀ q ∈ tbl, p.2 <+: q.2 → p = q

theorem PrefixCode.head {m : UInt8} {tbl : List (UInt8 × Str)} (hc : PrefixCode m tbl) {x : UInt8} {e : Str}
    (h : tbl.lookup x = some e) : ∃ t, e = m :: t :=
  List.head?_eq_some_iff.mp (hc.2.1 _ (lookup_mem h))

theorem escByte_cancel {m : UInt8} {tbl : List (UInt8 × Str)} (hc : PrefixCode m tbl) (x y : UInt8) (r1 r2 : Str)
    (h : escByte tbl x ++ r1 = escByte tbl y ++ r2) : x = y ∧ r1 = r2 := by
  have ⟨hm, _, noPrefix⟩ := hc
  have plain_vs_coded : ∀ {a b : UInt8} {e s1 s2 : Str}, tbl.lookup a = none → tbl.lookup b = some e →
      [a] ++ s1 = e ++ s2 → False := by
    intro a b e s1 s2 ha hb h
    obtain ⟨t, rfl⟩ := hc.head hb
    have : a = m := by simpa using (List.cons.inj h).1
    rw [← this, ha] at hm
    cases hm
  cases hx : tbl.lookup x with
  | none =>
    cases hy : tbl.lookup y with
    | none =>
      rw [escByte_none hx, escByte_none hy] at h
      exact ⟨(List.cons.inj h).1, (List.cons.inj h).2⟩
    | some e =>
      rw [escByte_none hx, escByte_some hy] at h
      exact (plain_vs_coded hx hy h).elim
  | some e =>
    cases hy : tbl.lookup y with
    | none =>
      rw [escByte_some hx, escByte_none hy] at h
      exact (plain_vs_coded hy hx h.symm).elim
    | some e' =>
      rw [escByte_some hx, escByte_some hy] at h
      have hp : e <+: e' ∨ e' <+: e :=
        List.prefix_or_prefix_of_prefix ⟨r1, rfl⟩ ⟨r2, h.symm⟩
      have heq : (x, e) = (y, e') := by
        rcases hp with hp | hp
        · exact noPrefix _ (lookup_mem hx) _ (lookup_mem hy) hp
        · exact (noPrefix _ (lookup_mem hy) _ (lookup_mem hx) hp).symm
      cases heq
      exact ⟨rfl, List.append_cancel_left h⟩

theorem escByte_ne_nil {m : UInt8} {tbl : List (UInt8 × Str)} (hc : PrefixCode m tbl) (x : UInt8) :
    escByte tbl x ≠ [] := by
  cases hx : tbl.lookup x with
  | none => rw [escByte_none hx]; simp
  | some e => obtain ⟨t, rfl⟩ := hc.head hx; rw [escByte_some hx]; simp

theorem escWith_injective {m : UInt8} {tbl : List (UInt8 × Str)} (hc : PrefixCode m tbl) (a b : Str)
    (h : escWith tbl a = escWith tbl b) : a = b := by
  induction a generalizing b with
  | nil =>
    cases b with
    | nil => rfl
    | cons y ys =>
      rw [escWith_cons] at h
      exact absurd (List.append_eq_nil_iff.mp h.symm).1 (escByte_ne_nil hc y)
  | cons x xs ih =>
    cases b with
    | nil =>
      rw [escWith_cons] at h
      exact absurd (List.append_eq_nil_iff.mp h).1 (escByte_ne_nil hc x)
    | cons y ys =>
      rw [escWith_cons, escWith_cons] at h
      obtain ⟨hxy, hr⟩ := escByte_cancel hc x y _ _ h
      rw [hxy, ih ys hr]

theorem isPrefix_split (o s : Str) (h : isPrefix o s = true) : ∃ r, s = o ++ r := by
  induction o generalizing s with
  | nil => exact ⟨s, rfl⟩
  | cons a as ih =>
    cases s with
    | nil => simp [isPrefix] at h
    | cons b bs =>
      obtain ⟨rfl, hrest⟩ : a = b ∧ isPrefix as bs = true := by simpa [isPrefix] using h
      obtain ⟨r, rfl⟩ := ih bs hrest
      exact ⟨r, rfl⟩

theorem replaceGo_skip (o n : Str) (d r : Str) : replaceGo o n d.length (d ++ r) = replaceGo o n 0 r := by
  induction d with
  | nil => rfl
  | cons x xs ih => simp [replaceGo, ih]

theorem replaceGo_copy (a : UInt8) (as n p r : Str) (hp : ∀ b ∈ p, b ≠ a) :
    replaceGo (a :: as) n 0 (p ++ r) = p ++ replaceGo (a :: as) n 0 r := by
  induction p with
  | nil => rfl
  | cons x xs ih =>
    have hx : (a == x) = false := by simpa using (hp x (by simp)).symm
    simp only [List.cons_append, replaceGo, isPrefix, hx, Bool.false_and]
    simp [ih (fun b hb => hp b (by simp [hb]))]

/-- the entities after `core.Text`: the five of `html.EscapeString` and `&nbsp;` -/
def textEntities : List Str := Generated.textReplaceAfter.2 :: entities

theorem replace_marker_escaped {ents : List Str} {a : UInt8} {as new : Str}
    (hent : ∀ e ∈ ents, e.head? = some 38) (hamp : ∀ b ∈ a :: as, b ≠ 38)
    (hfree : ∀ e ∈ ents, ∀ b ∈ e, b ≠ a) (e : Str) (h : EscapedWith ents e) :
    EscapedWith (new :: ents) (replaceGo (a :: as) new 0 e) := by
  -- a match swallows plain bytes only: generalised to every rest of `e` after bytes other than `&`
  suffices ∀ d r, e = d ++ r → (∀ b ∈ d, b ≠ 38) → EscapedWith (new :: ents) (replaceGo (a :: as) new 0 r) from
    this [] e rfl (by simp)
  induction h with
  | nil =>
    intro d r hd _
    rw [(List.append_eq_nil_iff.mp hd.symm).2]
    exact .nil
  | plain b rest h1 h2 h3 h4 h5 _ ih =>
    intro d r hd hdp
    cases d with
    | cons x d' => exact ih d' r (List.cons.inj hd).2 fun b hb => hdp b (List.mem_cons_of_mem _ hb)
    | nil =>
      subst hd
      simp only [replaceGo]
      split
      · rename_i hp
        obtain ⟨r', hr'⟩ := isPrefix_split _ _ hp
        have hrest : rest = as ++ r' := (List.cons.inj hr').2
        have hlen : (a :: as).length - 1 = as.length := by simp
        rw [hrest, hlen, replaceGo_skip]
        exact .entity _ _ List.mem_cons_self (ih as r' hrest fun b hb => hamp b (List.mem_cons_of_mem _ hb))
      · exact .plain b _ h1 h2 h3 h4 h5 (ih [] rest rfl (by simp))
  | entity ent rest he _ ih =>
    intro d r hd hdp
    obtain ⟨t, rfl⟩ := List.head?_eq_some_iff.mp (hent ent he)
    cases d with
    | cons x d' => exact absurd (List.cons.inj hd).1.symm (hdp x List.mem_cons_self)
    | nil =>
      subst hd
      rw [replaceGo_copy a as new _ rest (hfree _ he)]
      exact .entity _ _ (List.mem_cons_of_mem _ he) (ih [] rest rfl (by simp))

theorem EscapedWith.safe {ents : List Str} (hents : ∀ e ∈ ents, ∀ b ∈ e, hot4 b = false) {s : Str}
    (h : EscapedWith ents s) : ∀ b ∈ s, hot4 b = false := by
  induction h with
  | nil => simp
  | plain b rest _ h2 h3 h4 h5 _ ih =>
    exact List.forall_mem_cons.mpr ⟨by simp [hot4, hot, h2, h3, h4, h5], ih⟩
  | entity e rest he _ ih => exact List.forall_mem_append.mpr ⟨hents e he, ih⟩

theorem renderText_escaped (s : Str) : EscapedWith textEntities (renderText s) := by
  have hmarker : Generated.textReplaceAfter.1 = 126 :: [126, 115, 112, 97, 99, 101, 126, 126] := rfl
  -- the marker `~~space~~` is made of plain bytes, and no entity contains a `~`
  have hent : ∀ e ∈ entities, e.head? = some 38 := by decide
  have hplain : ∀ b ∈ (126 :: [126, 115, 112, 97, 99, 101, 126, 126] : Str), b ≠ 38 := by decide
  have hfree : ∀ e ∈ entities, ∀ b ∈ e, b ≠ 126 := by decide
  unfold renderText replaceAll
  rw [hmarker, if_neg (by simp)]
  exact replace_marker_escaped hent hplain hfree _ (escWith_escaped (by decide) (by decide) _)

theorem renderText_safe (s : Str) (b : UInt8) (h : b ∈ renderText s) : hot b = false ∧ b ≠ 39 := by
  simpa [hot4] using (renderText_escaped s).safe (by decide) b h

theorem hot_ne {b : UInt8} : hot b = false ↔ b ≠ 60 ∧ b ≠ 62 ∧ b ≠ 34 := by
  simp [hot, and_assoc]

theorem encode_safe (e : Enc) (v : Str) (b : UInt8) (h : b ∈ encode e v) : hot b = false := by
  have table : ∀ tbl, tableSafe [60, 62, 34] tbl = true → b ∈ escWith tbl v → hot b = false :=
    fun tbl hs h => hot_ne.mpr (by simpa using escWith_safe _ tbl hs h)
  cases e with
  | text => exact (renderText_safe v b h).1
  | head => exact table _ (by decide) h
  | anchor => exact table _ (by decide) h
  | attr => exact table _ (by decide) h

theorem runPieces_sound (st st' : LState) (ps : List Piece) (ts : List Tok)
    (h : runPieces st ps = some (st', ts)) : lexRun st (flat ps) = (st', ts) := by
  induction ps generalizing st ts with
  | nil => simp [runPieces] at h; simp [flat, lexRun, h]
  | cons p ps ih =>
    cases p with
    | lit s =>
      simp only [runPieces] at h
      split at h
      · rename_i st2 t2 h2
        cases h
        have := ih _ _ h2
        simp only [flat, List.flatMap_cons, Piece.bytes] at this ⊢
        rw [lexRun_append, this]
      · simp at h
    | data e v =>
      simp only [runPieces] at h
      split at h
      · rename_i hok
        have ih' := ih _ _ h
        simp only [flat, List.flatMap_cons, Piece.bytes] at ih' ⊢
        have hstay := lexRun_dataOk_stay st hok (encode e v) fun b hb =>
          have hb := hot_ne.mp (encode_safe e v b hb)
          ⟨hb.1, hb.2.2⟩
        rw [lexRun_append, hstay]
        simp [ih']
      · simp at h

theorem runPieces_append (st : LState) (p q : List Piece) :
    runPieces st (p ++ q) =
      match runPieces st p with
      | some (st1, t1) =>
        (match runPieces st1 q with
         | some (st2, t2) => some (st2, t1 ++ t2)
         | none => none)
      | none => none := by
  induction p generalizing st with
  | nil => simp [runPieces]; cases runPieces st q <;> simp
  | cons x xs ih =>
    cases x with
    | lit s =>
      simp only [List.cons_append, runPieces, ih]
      cases h1 : runPieces (lexRun st s).1 xs with
      | none => simp
      | some r =>
        obtain ⟨st1, t1⟩ := r
        simp only []
        cases h2 : runPieces st1 q with
        | none => simp
        | some r2 => obtain ⟨st2, t2⟩ := r2; simp [List.append_assoc]
    | data e v =>
      simp only [List.cons_append, runPieces]
      split
      · exact ih st
      · simp

/-- a fragment that starts and ends in element content and leaves every element stack as it was -/
def Balanced (ps : List Piece) : Prop :=
  ∃ ts, runPieces .data ps = some (.data, ts) ∧ ∀ σ, chk σ ts = some σ

theorem Balanced.nil : Balanced [] := ⟨[], by simp [runPieces], by simp [chk]⟩

theorem Balanced.append {p q : List Piece} (hp : Balanced p) (hq : Balanced q) : Balanced (p ++ q) := by
  obtain ⟨t1, h1, c1⟩ := hp
  obtain ⟨t2, h2, c2⟩ := hq
  refine ⟨t1 ++ t2, ?_, ?_⟩
  · rw [runPieces_append, h1]; simp [h2]
  · intro σ; rw [chk_append, c1 σ]; simp [c2 σ]

theorem Balanced.data (e : Enc) (v : Str) : Balanced [.data e v] :=
  ⟨[], by simp [runPieces, dataOk], by simp [chk]⟩

theorem Balanced.of_leafOk {ps : List Piece} (h : leafOk ps = true) : Balanced ps := by
  unfold leafOk at h
  split at h
  · rename_i ts hr
    refine ⟨ts, hr, ?_⟩
    have : chk [] ts = some [] := by simpa using h
    intro σ
    simpa using chk_frame [] [] σ ts this
  · simp at h

theorem Balanced.leafOk {ps : List Piece} (h : Balanced ps) : leafOk ps = true := by
  obtain ⟨ts, hr, hc⟩ := h
  simp [Html.leafOk, hr, hc []]

theorem Balanced.wrap {pre post mid : List Piece} (h : wrapOk pre post = true) (hm : Balanced mid) :
    Balanced (pre ++ mid ++ post) := by
  unfold wrapOk at h
  split at h
  · rename_i t1 t2 h1 h2
    split at h
    · rename_i ρ hρ
      have h3 : chk ρ t2 = some [] := by simpa using h
      obtain ⟨tm, hm1, hm2⟩ := hm
      refine ⟨t1 ++ tm ++ t2, ?_, ?_⟩
      · rw [runPieces_append, runPieces_append, h1]; simp [hm1, h2]
      · intro σ
        have e1 := chk_frame [] ρ σ t1 hρ
        have e3 := chk_frame ρ [] σ t2 h3
        simp only [List.nil_append] at e1 e3
        rw [chk_append, chk_append, e1]; simp [hm2, e3]
    · simp at h
  · simp at h

/-! ### data values are never looked at -/

def eraseP : Piece → Piece
  | .lit s => .lit s
  | .data e _ => .data e []

theorem runPieces_erase (st : LState) (ps : List Piece) :
    runPieces st (ps.map eraseP) = runPieces st ps := by
  induction ps generalizing st with
  | nil => rfl
  | cons p ps ih =>
    cases p with
    | lit s => simp only [List.map_cons, eraseP, runPieces, ih]
    | data e v => simp only [List.map_cons, eraseP, runPieces, ih]

theorem runPieces_congr {p q : List Piece} (h : p.map eraseP = q.map eraseP) (st : LState) :
    runPieces st p = runPieces st q := by
  rw [← runPieces_erase st p, h, runPieces_erase]

theorem leafOk_congr {p q : List Piece} (h : p.map eraseP = q.map eraseP) : leafOk p = leafOk q := by
  simp only [leafOk, runPieces_congr h]

theorem fmtPieces_map (φ : Piece → Piece) (hφ : ∀ s, φ (.lit s) = .lit s) (f : Str) (args : List Piece) :
    fmtPieces f (args.map φ) = (fmtPieces f args).map φ := by
  induction f, args using fmtPieces.induct with
  | case1 args => simp [fmtPieces]
  | case2 b args => simp [fmtPieces, hφ]
  | case3 b c t args hb hc ih => simp [fmtPieces, hb, hc, ih, hφ]
  | case4 b c t hb hc a rest ih => simp [fmtPieces, hb, hc, ih]
  | case5 b c t hb hc ih => simp [fmtPieces, hb, hc, hφ] at ih ⊢; exact ih
  | case6 b c t args hb ih => simp [fmtPieces, hb, ih, hφ]

theorem fmtPieces_erase (f : Str) (e : Enc) (v : Str) :
    (fmtPieces f [.data e v]).map eraseP = (fmtPieces f [.data e []]).map eraseP := by
  rw [← fmtPieces_map eraseP (fun _ => rfl), ← fmtPieces_map eraseP (fun _ => rfl)]; rfl

theorem attrs_erase (a : List (Str × Str)) :
    (a.flatMap attrPieces).map eraseP = ((a.map fun kv => (kv.1, ([] : Str))).flatMap attrPieces).map eraseP := by
  induction a with
  | nil => rfl
  | cons kv rest ih =>
    simp only [List.flatMap_cons, List.map_append, List.map_cons, ih]
    simp [attrPieces, eraseP, lit]

theorem head_erase (cols : List Str) :
    (headPieces cols).map eraseP = (headPieces (cols.map fun _ => ([] : Str))).map eraseP := by
  simp only [headPieces, List.map_append]
  congr 2
  induction cols with
  | nil => rfl
  | cons c cs ih =>
    simp only [List.flatMap_cons, List.map_cons, List.map_append, ih, fmtPieces_erase _ _ c]

theorem pre_erase (c : Comp) : c.pre.map eraseP = (shape c).pre.map eraseP := by
  cases c with
  | tag n a b => simp only [shape, Comp.pre, tagOpen, List.map_append, attrs_erase a]
  | page t g b f => simp [shape, Comp.pre, List.map_append, eraseP]
  | _ => rfl

theorem post_erase (c : Comp) : c.post.map eraseP = (shape c).post.map eraseP := by
  cases c <;> rfl

theorem wrapOk_shape (c : Comp) : wrapOk c.pre c.post = wrapOk (shape c).pre (shape c).post := by
  simp only [wrapOk, runPieces_congr (pre_erase c), runPieces_congr (post_erase c)]

theorem pieces_erase (c : Comp) : (pieces c).map eraseP = (pieces (shape c)).map eraseP := by
  have wrap : ∀ (c : Comp) (mid mid' : List Piece), mid.map eraseP = mid'.map eraseP →
      (c.pre ++ mid ++ c.post).map eraseP = ((shape c).pre ++ mid' ++ (shape c).post).map eraseP := by
    intro c mid mid' h
    simp only [List.map_append, h, pre_erase c, post_erase c]
  induction c with
  | nil => rfl
  | seq a b iha ihb => simp only [pieces, shape, List.map_append, iha, ihb]
  | text s => rfl
  | raw s => rfl
  | anchor n => exact fmtPieces_erase _ _ n
  | tableHead cols => simp only [pieces, shape]; exact head_erase cols
  | number n => rfl
  | ga id => rfl
  | tag n a b ih => exact wrap (.tag n a b) _ _ ih
  | tableCell h c w s b ih => exact wrap (.tableCell h c w s b) _ _ ih
  | table c b ih => exact wrap (.table c b) _ _ ih
  | tableRow b ih => exact wrap (.tableRow b) _ _ ih
  | row b ih => exact wrap (.row b) _ _ ih
  | page t g b f ihb ihf =>
    simp only [pieces, shape, List.map_append, ihb, ihf]
    rw [pre_erase (.page t g b f), post_erase (.page t g b f)]; rfl

theorem balanced_of_trusted (c : Comp) (h : trusted c = true) : Balanced (pieces c) := by
  have wrap : ∀ {pre post : List Piece} {b : Comp}, (trusted b = true → Balanced (pieces b)) →
      (wrapOk pre post && trusted b) = true → Balanced (pre ++ pieces b ++ post) := by
    intro pre post b ih h
    rw [Bool.and_eq_true] at h
    exact Balanced.wrap h.1 (ih h.2)
  induction c with
  | nil => exact Balanced.nil
  | seq a b iha ihb =>
    simp only [trusted, Bool.and_eq_true] at h
    exact Balanced.append (iha h.1) (ihb h.2)
  | text s => exact Balanced.data _ _
  | raw s => exact Balanced.of_leafOk h
  | anchor n => exact Balanced.of_leafOk h
  | tableHead cols => exact Balanced.of_leafOk h
  | number n => exact Balanced.of_leafOk h
  | ga id => exact Balanced.of_leafOk h
  | tag n a b ih => exact wrap ih h
  | tableCell hd c w s b ih => exact wrap ih h
  | table c b ih => exact wrap ih h
  | tableRow b ih => exact wrap ih h
  | row b ih => exact wrap ih h
  | page t g b f ihb ihf =>
    simp only [trusted, Bool.and_eq_true] at h
    have := Balanced.wrap h.1.1 (Balanced.append (ihb h.1.2) (ihf h.2))
    simpa [pieces, List.append_assoc] using this

/-- all that the property files use of a balanced fragment -/
theorem Balanced.lex {ps : List Piece} (h : Balanced ps) :
    ∃ ts, (∀ qs : List Piece, qs.map eraseP = ps.map eraseP → lexHtml (flat qs) = (.data, ts))
      ∧ chk [] ts = some [] := by
  obtain ⟨ts, hr, hc⟩ := h
  refine ⟨ts, fun qs hq => ?_, hc []⟩
  rw [lexHtml_eq]
  exact runPieces_sound _ _ _ _ (runPieces_congr hq _ ▸ hr)

/-- the anchor slots of a template filled with the bytes `g` themselves -/
def fill (g : Str) : Piece → Piece
  | .data .anchor _ => .lit g
  | p => p

theorem runPieces_fill (g : Str) (hb : ∀ b ∈ g, b ≠ 60 ∧ b ≠ 34) (st : LState) (ps : List Piece)
    (r : LState × List Tok) (h : runPieces st ps = some r) : runPieces st (ps.map (fill g)) = some r := by
  induction ps generalizing st r with
  | nil => exact h
  | cons p ps ih =>
    cases p with
    | lit s =>
      simp only [List.map_cons, fill, runPieces] at h ⊢
      cases h2 : runPieces (lexRun st s).1 ps with
      | none => simp [h2] at h
      | some r2 => rw [ih _ _ h2]; simpa [h2] using h
    | data e v =>
      simp only [runPieces] at h
      split at h
      · rename_i hok
        cases e with
        | anchor =>
          simp only [List.map_cons, fill, runPieces, lexRun_dataOk_stay st hok g hb]
          rw [ih _ _ h]; simp
        | _ =>
          simp only [List.map_cons, fill, runPieces, hok, if_true]
          exact ih _ _ h
      · simp at h

theorem wrapOk_fill (g : Str) (hb : ∀ b ∈ g, b ≠ 60 ∧ b ≠ 34) (T post : List Piece)
    (h : wrapOk T post = true) : wrapOk (T.map (fill g)) post = true := by
  unfold wrapOk at h ⊢
  cases h1 : runPieces .data T with
  | none => simp [h1] at h
  | some r => rw [runPieces_fill g hb _ _ _ h1]; simpa [h1] using h

theorem headPieces_balanced (cols : List Str) : Balanced (headPieces cols) := by
  have cell : ∀ c, Balanced (fmtPieces Generated.headCellFmt [.data .head c]) := fun c => by
    apply Balanced.of_leafOk
    rw [leafOk_congr (fmtPieces_erase _ _ c)]
    -- no `c` is left: `leafOk` of the generated head-cell format with an empty value, evaluated
    decide +kernel
  have mid : Balanced (cols.flatMap fun c => fmtPieces Generated.headCellFmt [.data .head c]) := by
    induction cols with
    | nil => exact Balanced.nil
    | cons c cs ih => exact Balanced.append (cell c) ih
  exact Balanced.wrap (pre := [lit Generated.headPre]) (post := [lit Generated.headPost]) (by decide +kernel) mid

theorem leafOk_lit {v : Str} (h : ∀ b ∈ v, b ≠ 60) : leafOk [lit v] = true := by
  have stay := lexRun_stay .data v fun b hb => by simp [lexStep, h b hb]
  simp [leafOk, runPieces, lit, stay, chk]

theorem natToDecF_ne_lt (f n : Nat) : ∀ b ∈ natToDecF f n, b ≠ 60 := by
  have hd : ∀ d, d < 10 → digitChar d ≠ 60 := by decide
  induction f generalizing n with
  | zero => simp [natToDecF]
  | succ f ih =>
    unfold natToDecF
    split
    · rename_i h10
      simpa using hd n h10
    · exact List.forall_mem_append.mpr ⟨ih _, by simpa using hd _ (Nat.mod_lt _ (by omega))⟩

theorem groupRev_forall {P : UInt8 → Prop} (h44 : P 44) (l : Str) (hl : ∀ b ∈ l, P b) :
    ∀ b ∈ groupRev l, P b := by
  induction l using groupRev.induct with
  | case1 a b c d t ih =>
    simp only [groupRev, List.forall_mem_cons] at hl ⊢
    exact ⟨hl.1, hl.2.1, hl.2.2.1, h44, ih (List.forall_mem_cons.mpr hl.2.2.2)⟩
  | case2 l h => rwa [groupRev]; exact h

theorem renderNumber_ne_lt (n : Int) : ∀ b ∈ renderNumber n, b ≠ 60 := by
  have body : ∀ b ∈ (groupRev (natToDec n.natAbs).reverse).reverse, b ≠ 60 := fun b hb =>
    groupRev_forall (P := (· ≠ 60)) (by decide) (natToDec n.natAbs).reverse
      (fun b hb => natToDecF_ne_lt _ _ b (List.mem_reverse.mp hb)) b (List.mem_reverse.mp hb)
  unfold renderNumber
  split
  · exact List.forall_mem_cons.mpr ⟨by decide, body⟩
  · exact body

theorem mem_subs {α : Type} {s l : List α} (h : s.Sublist l) : s ∈ subs l := by
  induction h with
  | slnil => simp [subs]
  | cons a _ ih => simp only [subs, List.mem_append]; exact Or.inl ih
  | cons_cons a _ ih => simp only [subs, List.mem_append, List.mem_map]; exact Or.inr ⟨_, ih, rfl⟩

theorem sortAttrs_sorted (l : List (Str × Str)) (h : chainLe (l.map (·.1)) = true) : sortAttrs l = l := by
  induction l with
  | nil => rfl
  | cons a l ih =>
    show insertAttr a (sortAttrs l) = a :: l
    cases l with
    | nil => rfl
    | cons b t =>
      simp only [List.map_cons, chainLe, Bool.and_eq_true] at h
      rw [ih (by simpa [List.map_cons] using h.2)]
      simp [insertAttr, h.1]

theorem tag_trusted (n : Str) (a : List (Str × Str)) (b : Comp)
    (h : wrapOk (tagOpen n (a.map fun kv => (kv.1, []))) (tagClose n) = true) :
    trusted (.tag n a b) = trusted b := by
  simp [trusted, (wrapOk_shape (.tag n a b)).trans h]

end Gedcom.Html

namespace Gedcom.Rewrite
open Gedcom.Html

/-! a `strings.Replacer` whose search strings are single bytes is a per-byte table -/

theorem find_single (pairs : List (Str × Str)) (hs : singleByte pairs = true) (b : UInt8) (t : Str) :
    pairs.find? (fun p => isPrefix p.1 (b :: t)) = ((tableOf pairs).lookup b).map fun n => ([b], n) := by
  induction pairs with
  | nil => rfl
  | cons p rest ih =>
    obtain ⟨o, n⟩ := p
    simp only [singleByte, List.all_cons, Bool.and_eq_true, beq_iff_eq] at hs
    obtain ⟨x, rfl⟩ := List.length_eq_one_iff.mp hs.1
    have ih := ih (by simpa [singleByte] using hs.2)
    simp only [List.find?, isPrefix, tableOf, List.lookup, Bool.and_true]
    by_cases hx : x = b
    · subst hx; simp
    · have h1 : (x == b) = false := by simpa using hx
      have h2 : (b == x) = false := by simpa using fun e => hx e.symm
      simpa only [h1, h2] using ih

theorem replacerGo_single (pairs : List (Str × Str)) (hs : singleByte pairs = true) (s : Str) :
    replacerGo pairs 0 s = escWith (tableOf pairs) s := by
  induction s with
  | nil => rfl
  | cons b t ih =>
    rw [escWith_cons]
    simp only [replacerGo, find_single pairs hs b t]
    cases hl : (tableOf pairs).lookup b with
    | none => simp [escByte_none hl, ih]
    | some n => simp [escByte_some hl, ih]

end Gedcom.Rewrite

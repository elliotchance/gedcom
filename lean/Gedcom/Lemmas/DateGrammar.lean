/-
  Facts read off the generated word lists (decided over the lists, so a changed list re-checks
  them) and the single-date pattern on sentences: an optional keyword token and a body, in any
  letter case, spacing and number of leading zeros.
-/
import Gedcom.Lemmas.DateParse
namespace Gedcom

/-! ## closed facts about the generated lists -/

def solidStr (t : Str) : Bool := !t.isEmpty && t.all solidB
def lowerLetters (t : Str) : Bool := !t.isEmpty && t.all isLowerB
def headNotDigit (t : Str) : Bool := match t with | [] => false | a :: _ => !isDigitB a

theorem solidStr_iff (t : Str) : solidStr t = true ↔ Solid t := by
  unfold solidStr Solid; cases t <;> simp

theorem no32_of_solidStr {k : Str} (h : solidStr k = true) : ∀ b ∈ k, b ≠ 32 :=
  no32_of_solid ((solidStr_iff k).mp h)

theorem dateKeywords_solid : ∀ k ∈ dateKeywords, solidStr k = true ∧ headNotDigit k = true := by
  decide +kernel

theorem betweenKeywords_solid : ∀ k ∈ betweenKeywords, solidStr k = true ∧ headNotDigit k = true := by
  decide +kernel

theorem andKeywords_solid : ∀ k ∈ andKeywords, solidStr k = true := by decide +kernel

theorem between_not_keyword :
    ∀ bk ∈ betweenKeywords, ∀ kw ∈ dateKeywords, lowerStr bk ≠ lowerStr kw := by decide +kernel

/-- `monthOf wm.1 = some wm.2`: no word stands in the table twice -/
theorem monthWords_facts :
    ∀ wm ∈ Generated.monthWords,
      lowerLetters wm.1 = true ∧ monthOf wm.1 = some wm.2 ∧ 1 ≤ wm.2 ∧ wm.2 ≤ 12 := by decide +kernel

theorem monthOf_cleanSpace_lowerStr_nil : monthOf (cleanSpace (lowerStr [])) = none := by decide

theorem constraint_nil : constraintFromString [] = .exact := by decide

/-! ## letter case -/

theorem solid_lowerStr_iff (s : Str) : Solid (lowerStr s) ↔ Solid s := by
  simp only [Solid, lowerStr, ne_eq, List.map_eq_nil_iff, List.forall_mem_map, solidB_toLowerB]

theorem solid_of_variant {l : List Str} (hl : ∀ k ∈ l, solidStr k = true) {T : Str}
    (h : ∃ k ∈ l, lowerStr T = lowerStr k) : Solid T := by
  obtain ⟨k, hk, hlow⟩ := h
  rw [← solid_lowerStr_iff, hlow, solid_lowerStr_iff]
  exact (solidStr_iff k).mp (hl k hk)

theorem lowerStr_of_lowerLetters {w : Str} (h : ∀ b ∈ w, isLowerB b = true) : lowerStr w = w := by
  induction w with
  | nil => rfl
  | cons a w ih =>
    rw [lowerStr_cons, toLowerB_of_lower (h a (by simp)), ih (fun b hb => h b (by simp [hb]))]

/-- a word token: what `\w+` can take, not starting with a digit -/
structure WordTok (M : Str) : Prop where
  word : ∀ b ∈ M, isWordB b = true
  solid : Solid M
  head : ∃ m0 M', M = m0 :: M' ∧ isDigitB m0 = false ∧ m0 ≠ 32

theorem wordTok_of_variant {M w : Str} (hw : lowerLetters w = true) (h : lowerStr M = lowerStr w) :
    WordTok M ∧ lowerStr M = w := by
  have hw' : w ≠ [] ∧ ∀ b ∈ w, isLowerB b = true := by
    unfold lowerLetters at hw; cases w <;> simp at hw ⊢; exact hw
  obtain ⟨hne, hall⟩ := hw'
  have hlow : lowerStr M = w := by rw [h, lowerStr_of_lowerLetters hall]
  have hM : ∀ b ∈ M, isWordB b = true ∧ solidB b = true ∧ isDigitB b = false := fun b hb =>
    letter_facts (hall _ (hlow ▸ List.mem_map_of_mem hb))
  cases M with
  | nil => exact absurd hlow.symm hne
  | cons m0 M' =>
    obtain ⟨_, hsolid0, hdigit0⟩ := hM m0 (by simp)
    exact ⟨⟨fun b hb => (hM b hb).1, ⟨by simp, fun b hb => (hM b hb).2.1⟩,
      m0, M', rfl, hdigit0, ne32_of_solid hsolid0⟩, hlow⟩

/-! ## numerals -/

/-- decimal digits with any number of leading zeros: `7`, `07`, `007` … -/
def numeral (z n : Nat) : Str := List.replicate z 48 ++ natToDec n

theorem digits_replicate {z : Nat} : ∀ b ∈ List.replicate z 48, isDigitB b = true := by
  intro b hb
  rw [(List.mem_replicate.mp hb).2]
  rfl

theorem isDigits_numeral (z n : Nat) : isDigits (numeral z n) = true :=
  (isDigits_iff _).mpr ⟨by simp [numeral, natToDec_ne_nil], fun b hb =>
    (List.mem_append.mp hb).elim (digits_replicate b) (natToDec_digits n b)⟩

theorem zeros_eq_numeral (z : Nat) : List.replicate (z + 1) 48 = numeral z 0 :=
  List.replicate_succ'

theorem isDigits_zeros (z : Nat) : isDigits (List.replicate (z + 1) 48) = true :=
  zeros_eq_numeral z ▸ isDigits_numeral z 0

theorem solid_of_isDigits {s : Str} (h : isDigits s = true) : Solid s :=
  ⟨isDigits_ne_nil h, fun b hb => solidB_of_digit (isDigits_all h b hb)⟩

theorem trimSpace_solid {s : Str} (h : Solid s) : trimSpace s = s := by
  have := trimSpace_joinSp (t := s) (ts := []) (by simpa using h) 0 0
  simpa [spaces, joinSp] using this

theorem trimSpace_solid_sp {s : Str} (h : Solid s) : trimSpace (s ++ [32]) = s := by
  have := trimSpace_joinSp (t := s) (ts := []) (by simpa using h) 0 1
  simpa [spaces, joinSp] using this

theorem dropZeros_append_sp (D : Str) :
    (D ++ [32]).dropWhile (· == 48) = D.dropWhile (· == 48) ++ [32] := by
  rw [List.dropWhile_append]
  split
  · next h => rw [List.isEmpty_iff.mp h]; rfl
  · rfl

theorem digits_dropWhile {D : Str} (h : ∀ b ∈ D, isDigitB b = true) :
    ∀ b ∈ D.dropWhile (· == 48), isDigitB b = true :=
  fun b hb => h b ((List.dropWhile_suffix _).subset hb)

theorem atoi_sp {D : Str} (h : isDigits D = true) : atoi (D ++ [32]) = atoi D := by
  unfold atoi
  rw [dropZeros_append_sp]
  have hd := digits_dropWhile (isDigits_all h)
  cases hD' : D.dropWhile (· == 48) with
  | nil => decide
  | cons a r =>
    have hs : Solid (a :: r) := ⟨by simp, fun b hb => solidB_of_digit (by rw [hD'] at hd; exact hd b hb)⟩
    rw [trimSpace_solid_sp hs, trimSpace_solid hs]

theorem decToNat_zeros_append {Z : Str} (hz : ∀ b ∈ Z, b = 48) (X : Str) :
    decToNat (Z ++ X) = decToNat X := by
  induction Z with
  | nil => rfl
  | cons a Z ih =>
    rw [hz a (by simp), List.cons_append, ← ih (fun b hb => hz b (by simp [hb]))]
    simp [decToNat]

theorem decToNat_dropZeros (D : Str) : decToNat (D.dropWhile (· == 48)) = decToNat D := by
  have := decToNat_zeros_append (Z := D.takeWhile (· == 48))
    (fun b hb => by simpa using List.all_eq_true.mp List.all_takeWhile b hb) (D.dropWhile (· == 48))
  rw [List.takeWhile_append_dropWhile] at this
  exact this.symm

theorem atoi_digits {D : Str} (h : isDigits D = true) : atoi D = min (decToNat D) maxInt := by
  unfold atoi
  have hd := digits_dropWhile (isDigits_all h)
  cases hD' : D.dropWhile (· == 48) with
  | nil =>
    have : decToNat D = 0 := by rw [← decToNat_dropZeros, hD']; rfl
    rw [this]; decide
  | cons a r =>
    have hall : ∀ b ∈ a :: r, isDigitB b = true := by rw [hD'] at hd; exact hd
    have hs : Solid (a :: r) := ⟨by simp, fun b hb => solidB_of_digit (hall b hb)⟩
    have hdig : isDigits (a :: r) = true := (isDigits_iff _).mpr ⟨by simp, hall⟩
    simp only [trimSpace_solid hs, hdig, if_true]
    rw [← hD', decToNat_dropZeros]

theorem atoi_numeral (z n : Nat) : atoi (numeral z n) = min n maxInt := by
  rw [atoi_digits (isDigits_numeral z n)]
  unfold numeral
  rw [decToNat_zeros_append (fun b hb => (List.mem_replicate.mp hb).2), decToNat_natToDec]

theorem atoi_numeral_sp (z n : Nat) : atoi (numeral z n ++ [32]) = min n maxInt := by
  rw [atoi_sp (isDigits_numeral z n), atoi_numeral]

theorem atoi_nil : atoi [] = 0 := by decide

/-! ## the body of a date: year, month year, day month year -/

inductive Body
  | Y (yz y : Nat)
  | MY (M : Str) (yz y : Nat)
  | DMY (dz d : Nat) (M : Str) (yz y : Nat)
  /-- a day numeral made of zeros only: `0`, `00` -/
  | ZMY (dz : Nat) (M : Str) (yz y : Nat)

def Body.tokens : Body → List Str
  | .Y yz y => [numeral yz y]
  | .MY M yz y => [M, numeral yz y]
  | .DMY dz d M yz y => [numeral dz d, M, numeral yz y]
  | .ZMY dz M yz y => [List.replicate (dz + 1) 48, M, numeral yz y]

def Body.str (b : Body) : Str := joinSp b.tokens

/-- the three capture groups the pattern must produce -/
def Body.groups : Body → Str × Str × Str
  | .Y yz y => ([], [], numeral yz y)
  | .MY M yz y => ([], M ++ [32], numeral yz y)
  | .DMY dz d M yz y => (numeral dz d ++ [32], M ++ [32], numeral yz y)
  | .ZMY dz M yz y => (List.replicate (dz + 1) 48 ++ [32], M ++ [32], numeral yz y)

@[simp] def Body.parts (kw : Str) (b : Body) : DateParts := ⟨kw, b.groups.1, b.groups.2.1, b.groups.2.2⟩

def Body.word : Body → Option Str
  | .Y _ _ => none
  | .MY M _ _ => some M
  | .DMY _ _ M _ _ => some M
  | .ZMY _ M _ _ => some M

def Body.WF (b : Body) : Prop := ∀ M, b.word = some M → WordTok M

theorem Body.tokens_ne_nil (b : Body) : b.tokens ≠ [] := by cases b <;> simp [Body.tokens]

theorem Body.tokens_cases {b : Body} {t : Str} (h : t ∈ b.tokens) :
    isDigits t = true ∨ b.word = some t := by
  cases b with
  | Y yz y =>
    simp only [Body.tokens, List.mem_singleton] at h
    subst h; exact Or.inl (isDigits_numeral _ _)
  | MY M yz y =>
    simp only [Body.tokens, List.mem_cons, List.not_mem_nil, or_false] at h
    rcases h with rfl | rfl
    · exact Or.inr rfl
    · exact Or.inl (isDigits_numeral _ _)
  | DMY dz d M yz y =>
    simp only [Body.tokens, List.mem_cons, List.not_mem_nil, or_false] at h
    rcases h with rfl | rfl | rfl
    · exact Or.inl (isDigits_numeral _ _)
    · exact Or.inr rfl
    · exact Or.inl (isDigits_numeral _ _)
  | ZMY dz M yz y =>
    simp only [Body.tokens, List.mem_cons, List.not_mem_nil, or_false] at h
    rcases h with rfl | rfl | rfl
    · exact Or.inl (isDigits_zeros _)
    · exact Or.inr rfl
    · exact Or.inl (isDigits_numeral _ _)

theorem Body.tokens_solid (b : Body) (h : b.WF) : ∀ t ∈ b.tokens, Solid t := fun t ht =>
  (Body.tokens_cases ht).elim solid_of_isDigits (fun hw => (h t hw).solid)

theorem matchTail_body (b : Body) (h : b.WF) : matchTail b.str = some b.groups := by
  cases b with
  | Y yz y => exact matchTail_y (isDigits_numeral yz y)
  | MY M yz y =>
    obtain ⟨hw, hs, m0, M', e, h0, _⟩ := h M rfl
    have := matchMonthYear_month [] hs.1 hw (isDigits_numeral yz y)
    subst e
    exact (matchTail_noday h0 _).trans this
  | DMY dz d M yz y =>
    obtain ⟨hw, hs, _⟩ := h M rfl
    exact matchTail_day (isDigits_numeral dz d)
      (matchMonthYear_month _ hs.1 hw (isDigits_numeral yz y))
  | ZMY dz M yz y =>
    obtain ⟨hw, hs, _⟩ := h M rfl
    exact matchTail_day (isDigits_zeros dz) (matchMonthYear_month _ hs.1 hw (isDigits_numeral yz y))

theorem Body.tokens_first (b : Body) :
    ∃ t ts, b.tokens = t :: ts ∧ (isDigits t = true ∨ ∃ yz y, b = .MY t yz y) := by
  cases b with
  | Y yz y => exact ⟨_, _, rfl, Or.inl (isDigits_numeral _ _)⟩
  | MY M yz y => exact ⟨_, _, rfl, Or.inr ⟨_, _, rfl⟩⟩
  | DMY dz d M yz y => exact ⟨_, _, rfl, Or.inl (isDigits_numeral _ _)⟩
  | ZMY dz M yz y => exact ⟨_, _, rfl, Or.inl (isDigits_zeros dz)⟩

theorem Body.str_head (b : Body) (h : b.WF) :
    ∃ b0 r, b.str = b0 :: r ∧ b0 ≠ 32 ∧
      (isDigitB b0 = true ∨ ∃ M yz y, b = .MY M yz y) := by
  obtain ⟨Tok, ts, e, hc⟩ := b.tokens_first
  rw [Body.str, e, joinSp_eq]
  rcases hc with hd | ⟨yz, y, rfl⟩
  · cases Tok with
    | nil => simp [isDigits] at hd
    | cons a s =>
      have ha := isDigits_all hd a (by simp)
      exact ⟨a, _, rfl, ne32_of_solid (solidB_of_digit ha), Or.inl ha⟩
  · obtain ⟨_, _, m0, M', rfl, _, h32⟩ := h Tok rfl
    exact ⟨m0, _, rfl, h32, Or.inr ⟨_, _, _, rfl⟩⟩

/-! ## from the capture groups to the date -/

/-- what `parseDateParts` computes from the four groups -/
def partsResult (p : DateParts) : PDate :=
  let day := atoi p.day
  let mo := monthOf (cleanSpace (lowerStr p.month))
  let year := atoi p.year
  let c := constraintFromString p.kw
  if !p.day.isEmpty && !calendarOK day (mo.getD 0) year then PDate.failed c
  else if !p.month.isEmpty && mo.isNone then PDate.failed c
  else ⟨day, mo.getD 0, year, c, false⟩

theorem parseDateParts_of_match {s : Str} {p : DateParts} (h : matchDate s = some p) :
    parseDateParts s = partsResult p := by
  simp [parseDateParts, partsResult, h]

theorem parseDateParts_of_no_match {s : Str} (h : matchDate s = none) :
    parseDateParts s = PDate.failed .exact := by
  simp [parseDateParts, h]

theorem parseDateRange_of_range {s bw x aw y : Str}
    (h : matchRange (cleanSpace s) = some (bw, x, aw, y)) :
    parseDateRange s = ⟨parseDateParts x, parseDateParts y, s⟩ := by
  simp [parseDateRange, h]

theorem parseDateRange_of_single {s : Str} (h : matchRange (cleanSpace s) = none) :
    parseDateRange s = ⟨parseDateParts (cleanSpace s), parseDateParts (cleanSpace s), s⟩ := by
  simp [parseDateRange, h]

theorem parseDateParts_nonzero {s : Str} (h : (parseDateParts s).isZero = false) :
    ∃ p, matchDate s = some p ∧
      (p.day = [] ∨ calendarOK (atoi p.day) ((monthOf (cleanSpace (lowerStr p.month))).getD 0)
        (atoi p.year) = true) ∧
      (p.month = [] ∨ ∃ m, monthOf (cleanSpace (lowerStr p.month)) = some m) ∧
      parseDateParts s = ⟨atoi p.day, (monthOf (cleanSpace (lowerStr p.month))).getD 0, atoi p.year,
        constraintFromString p.kw, false⟩ := by
  cases hm : matchDate s with
  | none => rw [parseDateParts_of_no_match hm] at h; cases h
  | some p =>
    rw [parseDateParts_of_match hm] at h ⊢
    refine ⟨p, rfl, ?_⟩
    revert h
    fun_cases partsResult p with
    | case1 | case2 => intro h; cases h
    | case3 day mo year c h1 h2 =>
      intro _
      refine ⟨?_, ?_, rfl⟩
      · by_cases hd : p.day = []
        · exact Or.inl hd
        · exact Or.inr (by simpa [hd] using h1)
      · by_cases hd : p.month = []
        · exact Or.inl hd
        · exact Or.inr (Option.ne_none_iff_exists'.mp (by simpa [hd] using h2))

theorem cleanSpace_solid_sp {X : Str} (h : Solid X) : cleanSpace (X ++ [32]) = X := by
  have := cleanSpace_render [(0, X)] 1 (by simp [GapsOK]) (by simpa using h)
  simpa [render, spaces, joinSp] using this

def monthOfWord (M : Str) : Option Nat := monthOf (lowerStr M)

theorem monthGroup_eval {M : Str} (h : Solid M) :
    monthOf (cleanSpace (lowerStr (M ++ [32]))) = monthOfWord M := by
  rw [lowerStr_append]
  have : lowerStr [32] = [32] := by decide
  rw [this, cleanSpace_solid_sp ((solid_lowerStr_iff M).mpr h), monthOfWord]

theorem isEmpty_append_sp (s : Str) : (s ++ [32]).isEmpty = false := by cases s <;> simp

theorem isEmpty_of_isDigits {s : Str} (h : isDigits s = true) : s.isEmpty = false := by
  have := isDigits_ne_nil h; cases s <;> simp at this ⊢

theorem partsResult_Y (T : Str) (yz y : Nat) :
    partsResult ⟨T, [], [], numeral yz y⟩ = ⟨0, 0, min y maxInt, constraintFromString T, false⟩ := by
  simp [partsResult, atoi_nil, atoi_numeral, monthOf_cleanSpace_lowerStr_nil]

theorem partsResult_MY (T : Str) {M : Str} (hM : Solid M) (yz y : Nat) :
    partsResult ⟨T, [], M ++ [32], numeral yz y⟩ =
      match monthOfWord M with
      | some m => ⟨0, m, min y maxInt, constraintFromString T, false⟩
      | none => PDate.failed (constraintFromString T) := by
  simp only [partsResult, atoi_nil, atoi_numeral, monthGroup_eval hM, isEmpty_append_sp]
  cases monthOfWord M <;> simp

theorem partsResult_DMY (T : Str) (dz d : Nat) {M : Str} (hM : Solid M) (yz y : Nat) :
    partsResult ⟨T, numeral dz d ++ [32], M ++ [32], numeral yz y⟩ =
      match monthOfWord M with
      | some m =>
        if calendarOK (min d maxInt) m (min y maxInt)
        then ⟨min d maxInt, m, min y maxInt, constraintFromString T, false⟩
        else PDate.failed (constraintFromString T)
      | none => PDate.failed (constraintFromString T) := by
  simp only [partsResult, atoi_numeral_sp, atoi_numeral, monthGroup_eval hM, isEmpty_append_sp]
  cases monthOfWord M with
  | none => simp [calendarOK]
  | some m => by_cases hc : calendarOK (min d maxInt) m (min y maxInt) = true <;> simp [hc]

theorem partsResult_ZMY (T : Str) (dz : Nat) (M : Str) (yz y : Nat) :
    partsResult ⟨T, List.replicate (dz + 1) 48 ++ [32], M ++ [32], numeral yz y⟩ =
      PDate.failed (constraintFromString T) := by
  simp only [zeros_eq_numeral, partsResult, atoi_numeral_sp, isEmpty_append_sp]
  simp [calendarOK]

/-! ## a keyword at the first token; single sentences are not ranges -/

/-- no keyword alternative is a prefix of the month word (true of every month name; an
    explicit guard for other words: `abtmar 1900` *is* read as `abt mar 1900`) -/
def NoKwPrefix (M : Str) : Prop := ∀ k ∈ dateKeywords, hasPrefixCI k M = false

theorem lower_head_ne {k0 a : UInt8} (hk : isDigitB k0 = false) (ha : isDigitB a = true) :
    toLowerB k0 ≠ toLowerB a := by
  intro e
  have := isDigitB_eq_of_lower_eq e
  rw [hk, ha] at this
  cases this

theorem lower_ne_of_isDigits {k s : Str} (hk : headNotDigit k = true) (hs : isDigits s = true) :
    lowerStr k ≠ lowerStr s := by
  intro e
  cases k with
  | nil => cases hk
  | cons k0 k =>
    cases s with
    | nil => cases hs
    | cons b0 s =>
      rw [lowerStr_cons, lowerStr_cons] at e
      injection e with e1 _
      exact lower_head_ne (by simpa [headNotDigit] using hk) (isDigits_all hs b0 (by simp)) e1

def KwTok (T : Str) : Prop := ∃ kw ∈ dateKeywords, lowerStr T = lowerStr kw

theorem solid_of_kwTok {T : Str} (h : KwTok T) : Solid T :=
  solid_of_variant (fun k hk => (dateKeywords_solid k hk).1) h

def NotBetween (Tok : Str) : Prop := ∀ bk ∈ betweenKeywords, lowerStr bk ≠ lowerStr Tok

theorem notBetween_of_kwTok {T : Str} (h : KwTok T) : NotBetween T := by
  obtain ⟨kw, hkw, hlow⟩ := h
  intro bk hbk e
  exact between_not_keyword bk hbk kw hkw (e.trans hlow)

theorem notBetween_of_isDigits {s : Str} (h : isDigits s = true) : NotBetween s :=
  fun bk hbk => lower_ne_of_isDigits (betweenKeywords_solid bk hbk).2 h

/-- both patterns look for a keyword followed by a space at the start of the string, trying the
    alternatives in order; `g` is what is done with the keyword as written and the rest -/
def kwScan {β : Type} (ks : List Str) (g : Str → Str → Option β) (s : Str) : Option β :=
  ks.findSome? fun w =>
    if hasPrefixCI w s then
      match s.drop w.length with
      | 32 :: r => g (s.take w.length) r
      | _ => none
    else none

theorem sepWordAt_eq_kwScan (t : Str) :
    sepWordAt t = kwScan andKeywords (fun w r => some (w, r)) t := rfl

theorem matchRange_eq_kwScan (s : Str) :
    matchRange s = if s.contains 10 then none else
      kwScan betweenKeywords (fun w r => (findSep [] r).map fun x => (w, x.1, x.2.1, x.2.2)) s := rfl

theorem kwScan_some {β : Type} {ks : List Str} {g : Str → Str → Option β} {s : Str} {v : β}
    (h : kwScan ks g s = some v) :
    ∃ k ∈ ks, ∃ r, s = s.take k.length ++ 32 :: r ∧ lowerStr (s.take k.length) = lowerStr k ∧
      g (s.take k.length) r = some v := by
  unfold kwScan at h
  obtain ⟨k, hk, hv⟩ := List.exists_of_findSome?_eq_some h
  split at hv
  · next hp =>
    split at hv
    · next r hr => exact ⟨k, hk, r, by rw [← hr, List.take_append_drop], hasPrefixCI_take hp, hv⟩
    · cases hv
  · cases hv

/-- the first space ends the first token: a hit on a spaced sequence is at that token -/
theorem kwScan_tok {β : Type} {ks : List Str} (hks : ∀ k ∈ ks, solidStr k = true) {Tok : Str}
    {ts : List Str} (hT : Solid Tok) {g : Str → Str → Option β} {v : β}
    (h : kwScan ks g (joinSp (Tok :: ts)) = some v) :
    (∃ k ∈ ks, lowerStr Tok = lowerStr k) ∧ ts ≠ [] ∧ g Tok (joinSp ts) = some v := by
  obtain ⟨k, hk, r, e, hl, hv⟩ := kwScan_some h
  have hT' := no32_of_solid (solid_of_variant hks ⟨k, hk, hl⟩)
  generalize (joinSp (Tok :: ts)).take k.length = T' at e hl hv hT'
  have h2 := takeWhile_append_stop (· != 32) T' (32 :: r) (fun b hb => bne_iff_ne.mpr (hT' b hb))
    (fun y e => by cases e; rfl)
  rw [← e, joinSp_eq] at h2
  have h1 := takeWhile_append_stop (· != 32) Tok (ts.map (32 :: ·)).flatten
    (fun b hb => bne_iff_ne.mpr (no32_of_solid hT b hb)) (fun y e => by
      cases ts with
      | nil => cases e
      | cons t ts => cases e; rfl)
  obtain rfl : Tok = T' := h1.1.symm.trans h2.1
  have hr := h1.2.symm.trans h2.2
  cases ts with
  | nil => cases hr
  | cons t ts =>
    injection hr with _ hr
    exact ⟨⟨k, hk, hl⟩, List.cons_ne_nil _ _, by subst hr; rw [joinSp_eq]; exact hv⟩

/-- a range needs a between-word in front and an and-word further on -/
theorem matchRange_none_tok {Tok : Str} {ts : List Str} (hT : Solid Tok)
    (h : NotBetween Tok ∨ findSep [] (joinSp ts) = none) :
    matchRange (joinSp (Tok :: ts)) = none := by
  rw [matchRange_eq_kwScan]
  split
  · rfl
  · rw [Option.eq_none_iff_forall_ne_some]
    intro v hv
    obtain ⟨⟨k, hk, hl⟩, _, hg⟩ := kwScan_tok (fun k hk => (betweenKeywords_solid k hk).1) hT hv
    rcases h with h | h
    · exact h k hk hl.symm
    · rw [h] at hg
      cases hg

theorem findSep_cons_none {c : UInt8} {cs : Str} (h : ∀ acc, findSep acc cs = none)
    (hc : c = 32 → sepWordAt cs = none) (acc : Str) : findSep acc (c :: cs) = none := by
  rw [findSep, h]
  by_cases h32 : c = 32
  · simp [hc h32]
  · simp [h32]

theorem findSep_append_none {t X : Str} (ht : Solid t) (h : ∀ acc, findSep acc X = none) :
    ∀ acc, findSep acc (t ++ X) = none := by
  replace ht := no32_of_solid ht
  induction t with
  | nil => exact h
  | cons a t ih =>
    exact findSep_cons_none (ih fun b hb => ht b (by simp [hb])) fun e => absurd e (ht a (by simp))

/-! ## whole sentences -/

/-- one date as written: an optional keyword token and a body -/
structure Sentence where
  kw : Option Str
  body : Body

def Sentence.tokens (x : Sentence) : List Str := x.kw.toList ++ x.body.tokens
def Sentence.str (x : Sentence) : Str := joinSp x.tokens
def Sentence.kwText (x : Sentence) : Str := x.kw.getD []

/-- the keyword, if any, is a case variant of a listed keyword; the month position holds a word
    token; no keyword is a prefix of a month-position word that opens the sentence -/
structure Sentence.WF (x : Sentence) : Prop where
  kw : ∀ T, x.kw = some T → KwTok T
  body : x.body.WF
  first : x.kw = none → ∀ M yz y, x.body = .MY M yz y → NoKwPrefix M

theorem Sentence.str_none {x : Sentence} (h : x.kw = none) : x.str = x.body.str := by
  simp [Sentence.str, Sentence.tokens, h, Body.str]

theorem Sentence.str_some {x : Sentence} {T : Str} (h : x.kw = some T) :
    x.str = T ++ 32 :: x.body.str := by
  simp [Sentence.str, Sentence.tokens, h, Body.str, joinSp_cons x.body.tokens_ne_nil]

theorem Sentence.forall_tokens {x : Sentence} {P : Str → Prop} (hkw : ∀ T, x.kw = some T → P T)
    (hnum : ∀ s, isDigits s = true → P s) (hword : ∀ M, x.body.word = some M → P M) :
    ∀ t ∈ x.tokens, P t := by
  intro t ht
  simp only [Sentence.tokens, List.mem_append, Option.mem_toList] at ht
  rcases ht with ht | ht
  · exact hkw t ht
  · exact (Body.tokens_cases ht).elim (hnum t) (hword t)

theorem Sentence.tokens_solid (x : Sentence) (h : x.WF) : ∀ t ∈ x.tokens, Solid t :=
  Sentence.forall_tokens (fun T hT => solid_of_kwTok (h.kw T hT)) (fun _ => solid_of_isDigits)
    fun M hM => (h.body M hM).solid

theorem Sentence.tokens_ne_nil (x : Sentence) : x.tokens ≠ [] := by
  simp [Sentence.tokens, x.body.tokens_ne_nil]

theorem matchDate_body (b : Body) (h : b.WF) (hk : ∀ M yz y, b = .MY M yz y → NoKwPrefix M) :
    matchDate b.str = some (b.parts []) := by
  obtain ⟨b0, r, e, h32, hcase⟩ := b.str_head h
  have hno : ∀ k ∈ dateKeywords, hasPrefixCI k b.str = false := by
    intro k hkmem
    rcases hcase with hdig | ⟨M, yz, y, rfl⟩
    · rw [e]
      have hl := (dateKeywords_solid k hkmem).2
      cases k with
      | nil => cases hl
      | cons k0 k =>
        exact hasPrefixCI_head_ne _ _ (lower_head_ne (by simpa [headNotDigit] using hl) hdig)
    · have : (Body.MY M yz y).str = M ++ 32 :: numeral yz y := by simp [Body.str, Body.tokens, joinSp]
      rw [this, hasPrefixCI_tok (no32_of_solidStr (dateKeywords_solid k hkmem).1)]
      exact hk M yz y rfl k hkmem
  unfold matchDate
  rw [matchDateKw_no_prefix hno, e, matchAfterKw_nospace h32 (by rw [← e]; exact matchTail_body b h)]
  rfl

/-- the alternation order puts the keyword itself before any keyword that is a proper prefix of it:
    the first alternative that is a prefix of a keyword has the keyword's own length -/
theorem dateKeywords_firstHit :
    ∀ kw ∈ dateKeywords, (firstHit dateKeywords kw).map List.length = some kw.length := by decide +kernel

theorem matchDate_kw_body {T : Str} (hT : KwTok T) (b : Body) (h : b.WF) :
    matchDate (T ++ 32 :: b.str) = some (b.parts T) := by
  obtain ⟨kw, hkw, hlow⟩ := hT
  have hf := dateKeywords_firstHit kw hkw
  rw [← firstHit_lower_eq dateKeywords hlow] at hf
  cases hh : firstHit dateKeywords T with
  | none => rw [hh] at hf; simp at hf
  | some k =>
    rw [hh] at hf
    have hl : k.length = T.length := by
      have : k.length = kw.length := by simpa using hf
      rw [this, length_eq_of_lower_eq hlow]
    unfold matchDate
    exact matchDateKw_tok (fun k hk => no32_of_solidStr (dateKeywords_solid k hk).1) hh hl
      (matchAfterKw_space (matchTail_body b h))

theorem Sentence.matchDate (x : Sentence) (h : x.WF) :
    matchDate x.str = some (x.body.parts x.kwText) := by
  cases hk : x.kw with
  | none =>
    rw [Sentence.str_none hk]
    simpa [Sentence.kwText, hk] using matchDate_body x.body h.body (h.first hk)
  | some T =>
    rw [Sentence.str_some hk]
    simpa [Sentence.kwText, hk] using matchDate_kw_body (h.kw T hk) x.body h.body

theorem Sentence.matchRange (x : Sentence) (h : x.WF) : matchRange x.str = none := by
  unfold Sentence.str Sentence.tokens
  cases hk : x.kw with
  | some T =>
    exact matchRange_none_tok (solid_of_kwTok (h.kw T hk))
      (Or.inl (notBetween_of_kwTok (h.kw T hk)))
  | none =>
    obtain ⟨Tok, ts, e, hc⟩ := x.body.tokens_first
    rcases hc with hd | ⟨yz, y, hb⟩
    · rw [e]
      exact matchRange_none_tok (solid_of_isDigits hd) (Or.inl (notBetween_of_isDigits hd))
    · -- a word and a numeral: even behind a between-word there is no and-word
      have := findSep_append_none (X := []) (solid_of_isDigits (isDigits_numeral yz y))
        (fun _ => rfl) []
      rw [List.append_nil] at this
      rw [hb]
      exact matchRange_none_tok (h.body Tok (by rw [hb]; rfl)).solid (Or.inr this)

def Sentence.result (x : Sentence) : PDate :=
  partsResult (x.body.parts x.kwText)

theorem Sentence.parse (x : Sentence) (h : x.WF) {s : Str} (hs : Spacing s x.tokens) :
    parseDateRange s = ⟨x.result, x.result, s⟩ := by
  have hclean : cleanSpace s = x.str := hs.clean (x.tokens_solid h)
  rw [parseDateRange_of_single (by rw [hclean]; exact x.matchRange h), hclean,
    parseDateParts_of_match (x.matchDate h)]
  rfl

end Gedcom

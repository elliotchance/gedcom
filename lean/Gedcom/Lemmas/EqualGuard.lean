/-
  Symmetry and transitivity of `Equals` as far as what it compares has them (`equalsShallow_symm`,
  `equalsShallow_trans`), and — under the decidable guard `okNode D` / `dateEquiv D` — symmetry and
  transitivity of `deepEqual` and of `Equals`.
-/
import Gedcom.Lemmas.Equal
namespace Gedcom
open G

/-- `dateValueEquals` is symmetric and transitive on the values in `D` -/
def dateEquiv (D : List Str) : Bool :=
  D.all fun a => D.all fun b =>
    (!dateValueEquals a b || dateValueEquals b a) &&
      D.all fun c => !(dateValueEquals a b && dateValueEquals b c) || dateValueEquals a c

/-- the two tests agree (`isDate_of_rule`, `rule_of_isDate`); the guard names both, so that
    `okNode_dateKid` (tag) and `okNode_dateRule` (rule) each read it off as it stands -/
def isDateLike (n : Node) : Bool := isDate n || n.rule == .date

mutual
/-- every DATE value of the tree lies in `D` -/
def okNode (D : List Str) : Node → Bool
  | .mk t v p ks => (!isDateLike (.mk t v p []) || D.contains v) && okList D ks
def okList (D : List Str) : List Node → Bool
  | [] => true
  | k :: ks => okNode D k && okList D ks
end

theorem okList_iff (D : List Str) (ks : List Node) :
    okList D ks = true ↔ ∀ k ∈ ks, okNode D k = true := by
  induction ks with
  | nil => simp [okList]
  | cons k ks ih => simp [okList, ih]

theorem okNode_kid {D : List Str} {n k : Node} (h : okNode D n = true) (hk : k ∈ n.kids) :
    okNode D k = true := by
  cases n with
  | mk t v p ks =>
    simp only [okNode, Bool.and_eq_true] at h
    exact (okList_iff D ks).mp h.2 k hk

theorem okNode_date {D : List Str} {n : Node} (h : okNode D n = true)
    (hd : isDateLike n = true) : n.value ∈ D := by
  cases n with
  | mk t v p ks =>
    simp only [okNode, Bool.and_eq_true] at h
    -- `isDateLike` looks at the tag only
    replace hd : isDateLike (.mk t v p []) = true := hd
    have := h.1
    simp only [hd, Bool.not_true, Bool.false_or] at this
    simpa [Node.value] using this

theorem dateEquiv_iff (D : List Str) : dateEquiv D = true ↔
    (∀ a ∈ D, ∀ b ∈ D, dateValueEquals a b = true → dateValueEquals b a = true) ∧
    (∀ a ∈ D, ∀ b ∈ D, ∀ c ∈ D, dateValueEquals a b = true → dateValueEquals b c = true →
      dateValueEquals a c = true) := by
  have imp : ∀ x y : Bool, (!x || y) = true ↔ (x = true → y = true) := by decide
  simp only [dateEquiv, List.all_eq_true, Bool.and_eq_true, imp]
  exact ⟨fun h => ⟨fun a ha b hb => (h a ha b hb).1,
      fun a ha b hb c hc h1 h2 => (h a ha b hb).2 c hc ⟨h1, h2⟩⟩,
    fun h a ha b hb => ⟨h.1 a ha b hb, fun c hc h12 => h.2 a ha b hb c hc h12.1 h12.2⟩⟩

theorem dateEquiv_symm {D : List Str} (hD : dateEquiv D = true) {a b : Str} (ha : a ∈ D)
    (hb : b ∈ D) (h : dateValueEquals a b = true) : dateValueEquals b a = true :=
  ((dateEquiv_iff D).mp hD).1 a ha b hb h

theorem dateEquiv_trans {D : List Str} (hD : dateEquiv D = true) {a b c : Str} (ha : a ∈ D)
    (hb : b ∈ D) (hc : c ∈ D) (h1 : dateValueEquals a b = true)
    (h2 : dateValueEquals b c = true) : dateValueEquals a c = true :=
  ((dateEquiv_iff D).mp hD).2 a ha b hb c hc h1 h2

theorem okNode_dateKid {D : List Str} {n d : Node} (h : okNode D n = true) (hd : d ∈ n.dates) :
    d.value ∈ D :=
  okNode_date (okNode_kid h (mem_dates hd).1) (by simp [isDateLike, (mem_dates hd).2])

theorem okNode_dateRule {D : List Str} {n : Node} (h : okNode D n = true) (hr : n.rule = .date) :
    n.value ∈ D :=
  okNode_date h (by simp [isDateLike, hr])

/-- When the children of `a` and `c` are matched, a DATE child of `a` has a deep-equal partner
    among the children of `c`, which is then a DATE node with an equal value. -/
theorem datesMatch_of_matched {a c : Node} (hkids : Matched deepEqual a.kids c.kids)
    (hd : 0 < a.dates.length) : datesMatch a.dates c.dates = true := by
  obtain ⟨x, hx⟩ := List.exists_mem_of_length_pos hd
  obtain ⟨z, hz, hxz⟩ := hkids.exists_right (mem_dates hx).1
  rw [deepEqual_eq, equalsShallow_date (rule_of_isDate (mem_dates hx).2)] at hxz
  simp only [Bool.and_eq_true, beq_iff_eq] at hxz
  exact (datesMatch_iff _ _).mpr
    ⟨x, hx, z, List.mem_filter.mpr ⟨hz, isDate_of_rule hxz.1.1⟩, hxz.1.2⟩

theorem datesMatch_symm (D : List Str) (hD : dateEquiv D = true) {a b : Node}
    (ha : okNode D a = true) (hb : okNode D b = true)
    (h : datesMatch a.dates b.dates = true) : datesMatch b.dates a.dates = true := by
  obtain ⟨x, hx, y, hy, hxy⟩ := (datesMatch_iff _ _).mp h
  exact (datesMatch_iff _ _).mpr
    ⟨y, hy, x, hx, dateEquiv_symm hD (okNode_dateKid ha hx) (okNode_dateKid hb hy) hxy⟩

/-- Symmetry of `Equals` from the symmetry of what it compares: `hdate` the two DATE values (rule
    `.date`); for RESI / EVEN `hdm` "some pair of DATE children is equal" and `hnodes`
    `DeepEqualNodes` of sublists of the children. -/
theorem equalsShallow_symm {a b : Node}
    (hdate : a.rule = .date → dateValueEquals a.value b.value = true →
      dateValueEquals b.value a.value = true)
    (hdm : a.rule = .resi ∨ a.rule = .even → datesMatch a.dates b.dates = true →
      datesMatch b.dates a.dates = true)
    (hnodes : a.rule = .resi ∨ a.rule = .even → ∀ l r : List Node, l ⊆ a.kids → r ⊆ b.kids →
      deepEqualNodes l r = true → deepEqualNodes r l = true)
    (h : equalsShallow a b = true) : equalsShallow b a = true := by
  have hrule := equalsShallow_rule h
  rw [equalsShallow_eq] at h ⊢
  unfold equalsSpec at h ⊢
  rw [hrule]
  cases hr : a.rule <;> rw [hr] at h <;>
    simp only [Bool.and_eq_true, Bool.or_eq_true, beq_iff_eq] at h ⊢
  case simple => exact ⟨⟨h.1.1.symm, h.1.2.symm⟩, h.2.symm⟩
  case vital => exact h.symm
  case resi =>
    exact ⟨trivial, h.2.imp (hdm (Or.inl hr)) fun h2 => ⟨by omega,
      hnodes (Or.inl hr) _ _ List.filter_sublist.subset List.filter_sublist.subset h2.2⟩⟩
  case even =>
    exact ⟨trivial, h.2.imp (hdm (Or.inr hr)) fun h2 => ⟨⟨⟨h2.1.1.2, h2.1.1.1⟩, h2.1.2.symm⟩,
      hnodes (Or.inr hr) _ _ (List.Subset.refl _) (List.Subset.refl _) h2.2⟩⟩
  case date => exact ⟨trivial, hdate hr h.2⟩
  case uid => exact ⟨trivial, uidEquals_symm _ _ h.2⟩

/-- Transitivity of `Equals` from the transitivity of what it compares (as in `equalsShallow_symm`);
    `hdd` — "some pair of DATE children is equal" passes from `a`, `b` and `b`, `c` to `a`, `c` —
    is the one step that fails in general. -/
theorem equalsShallow_trans {a b c : Node}
    (hdate : a.rule = .date → dateValueEquals a.value b.value = true →
      dateValueEquals b.value c.value = true → dateValueEquals a.value c.value = true)
    (hdd : a.rule = .resi ∨ a.rule = .even → datesMatch a.dates b.dates = true →
      datesMatch b.dates c.dates = true → datesMatch a.dates c.dates = true)
    (hnodes : a.rule = .resi ∨ a.rule = .even → ∀ l m r : List Node, l ⊆ a.kids → m ⊆ b.kids →
      r ⊆ c.kids → deepEqualNodes l m = true → deepEqualNodes m r = true →
      deepEqualNodes l r = true)
    (h1 : equalsShallow a b = true) (h2 : equalsShallow b c = true) :
    equalsShallow a c = true := by
  have hr1 := equalsShallow_rule h1
  rw [equalsShallow_eq] at h1 h2 ⊢
  unfold equalsSpec at h1 h2 ⊢
  rw [hr1] at h2
  cases hr : a.rule <;> rw [hr] at h1 h2 <;>
    simp only [Bool.and_eq_true, Bool.or_eq_true, beq_iff_eq] at h1 h2 ⊢
  case simple => exact ⟨⟨h1.1.1.trans h2.1.1, h1.1.2.trans h2.1.2⟩, h1.2.trans h2.2⟩
  case vital => exact h1.trans h2
  case resi =>
    -- a dated and an undated comparison cannot meet in `b`
    refine ⟨h2.1, ?_⟩
    rcases h1.2 with d1 | n1 <;> rcases h2.2 with d2 | n2
    · exact Or.inl (hdd (Or.inl hr) d1 d2)
    · have := (datesMatch_length d1).2; omega
    · have := (datesMatch_length d2).1; omega
    · exact Or.inr ⟨by omega, hnodes (Or.inl hr) _ _ _ List.filter_sublist.subset
        List.filter_sublist.subset List.filter_sublist.subset n1.2 n2.2⟩
  case even =>
    refine ⟨h2.1, ?_⟩
    rcases h1.2 with d1 | n1 <;> rcases h2.2 with d2 | n2
    · exact Or.inl (hdd (Or.inr hr) d1 d2)
    · have := (datesMatch_length d1).2; omega
    · have := (datesMatch_length d2).1; omega
    · exact Or.inr ⟨⟨⟨n1.1.1.1, n2.1.1.2⟩, n1.1.2.trans n2.1.2⟩,
        hnodes (Or.inr hr) _ _ _ (List.Subset.refl _) (List.Subset.refl _) (List.Subset.refl _)
          n1.2 n2.2⟩
  case date => exact ⟨h2.1, hdate hr h1.2 h2.2⟩
  case uid => exact ⟨h2.1, uidEquals_trans _ _ _ h1.2 h2.2⟩

section step
variable (Q : Node → Bool)
  (symQ : ∀ x y, Q x = true → Q y = true → deepEqual x y = true → deepEqual y x = true)
  (transQ : ∀ x y z, Q x = true → Q y = true → Q z = true →
    deepEqual x y = true → deepEqual y z = true → deepEqual x z = true)
include symQ transQ

theorem nodes_complete {l r : List Node} (hl : ∀ x ∈ l, Q x = true) (hr : ∀ x ∈ r, Q x = true)
    (h : Matched deepEqual l r) : deepEqualNodes l r = true := by
  rw [deepEqualNodes_eq_greedy]
  exact greedy_complete_on Q _ symQ transQ _ _ hl hr h

theorem nodes_symm {l m : List Node} (hl : ∀ x ∈ l, Q x = true) (hm : ∀ x ∈ m, Q x = true)
    (h : deepEqualNodes l m = true) : deepEqualNodes m l = true :=
  nodes_complete Q symQ transQ hm hl
    ((deepEqualNodes_sound h).symm_on fun a ha b hb => symQ a b (hl a ha) (hm b hb))

theorem nodes_trans {l m r : List Node} (hl : ∀ x ∈ l, Q x = true) (hm : ∀ x ∈ m, Q x = true)
    (hr : ∀ x ∈ r, Q x = true) (h1 : deepEqualNodes l m = true)
    (h2 : deepEqualNodes m r = true) : deepEqualNodes l r = true :=
  nodes_complete Q symQ transQ hl hr
    ((deepEqualNodes_sound h1).trans_on
      (fun a ha b hb c hc => transQ a b c (hl a ha) (hm b hb) (hr c hc)) (deepEqualNodes_sound h2))

end step

/-- symmetry and transitivity of `deepEqual` on trees that satisfy the guard, by induction on a
    bound of the tree sizes (the sibling lists one level down satisfy the induction hypothesis,
    which is what `nodes_complete` needs) -/
theorem deepEqual_equiv_bounded (D : List Str) (hD : dateEquiv D = true) (n : Nat) :
    (∀ a b, a.size ≤ n → b.size ≤ n → okNode D a = true → okNode D b = true →
      deepEqual a b = true → deepEqual b a = true) ∧
    (∀ a b c, a.size ≤ n → b.size ≤ n → c.size ≤ n →
      okNode D a = true → okNode D b = true → okNode D c = true →
      deepEqual a b = true → deepEqual b c = true → deepEqual a c = true) := by
  induction n with
  | zero =>
    exact ⟨fun a _ h => by have := a.size_pos; omega, fun a _ _ h => by have := a.size_pos; omega⟩
  | succ n ih =>
    let Q : Node → Bool := fun x => decide (x.size ≤ n) && okNode D x
    have symQ : ∀ x y, Q x = true → Q y = true → deepEqual x y = true → deepEqual y x = true := by
      intro x y hx hy
      simp only [Q, Bool.and_eq_true, decide_eq_true_eq] at hx hy
      exact ih.1 x y hx.1 hy.1 hx.2 hy.2
    have transQ : ∀ x y z, Q x = true → Q y = true → Q z = true →
        deepEqual x y = true → deepEqual y z = true → deepEqual x z = true := by
      intro x y z hx hy hz
      simp only [Q, Bool.and_eq_true, decide_eq_true_eq] at hx hy hz
      exact ih.2 x y z hx.1 hy.1 hz.1 hx.2 hy.2 hz.2
    have kidsQ : ∀ a : Node, a.size ≤ n + 1 → okNode D a = true → ∀ x ∈ a.kids, Q x = true := by
      intro a hs ha x hx
      have := Node.size_kid hx
      simp only [Q, Bool.and_eq_true, decide_eq_true_eq]
      exact ⟨by omega, okNode_kid ha hx⟩
    constructor
    · intro a b hsa hsb ha hb h
      rw [deepEqual_eq] at h ⊢
      simp only [Bool.and_eq_true] at h ⊢
      refine ⟨equalsShallow_symm (fun hr => dateEquiv_symm hD (okNode_dateRule ha hr)
            (okNode_dateRule hb ((equalsShallow_rule h.1).trans hr)))
          (fun _ => datesMatch_symm D hD ha hb) (fun _ _ _ hl hr => ?_) h.1,
        nodes_symm Q symQ transQ (kidsQ a hsa ha) (kidsQ b hsb hb) h.2⟩
      exact nodes_symm Q symQ transQ (fun x hx => kidsQ a hsa ha x (hl hx))
        (fun x hx => kidsQ b hsb hb x (hr hx))
    · intro a b c hsa hsb hsc ha hb hc h1 h2
      rw [deepEqual_eq] at h1 h2 ⊢
      simp only [Bool.and_eq_true] at h1 h2 ⊢
      have hk := nodes_trans Q symQ transQ (kidsQ a hsa ha) (kidsQ b hsb hb) (kidsQ c hsc hc)
        h1.2 h2.2
      have hm := deepEqualNodes_sound hk
      have hrb := equalsShallow_rule h1.1
      refine ⟨equalsShallow_trans (fun hr => dateEquiv_trans hD (okNode_dateRule ha hr)
            (okNode_dateRule hb (hrb.trans hr))
            (okNode_dateRule hc ((equalsShallow_rule h2.1).trans (hrb.trans hr))))
          (fun _ d1 _ => datesMatch_of_matched hm (datesMatch_length d1).1)
          (fun _ _ _ _ hl hm hr => ?_) h1.1 h2.1, hk⟩
      exact nodes_trans Q symQ transQ (fun x hx => kidsQ a hsa ha x (hl hx))
        (fun x hx => kidsQ b hsb hb x (hm hx)) (fun x hx => kidsQ c hsc hc x (hr hx))

theorem deepEqual_symm_of_ok (D : List Str) (hD : dateEquiv D = true) (a b : Node)
    (ha : okNode D a = true) (hb : okNode D b = true) (h : deepEqual a b = true) :
    deepEqual b a = true :=
  (deepEqual_equiv_bounded D hD (max a.size b.size)).1 a b (Nat.le_max_left _ _)
    (Nat.le_max_right _ _) ha hb h

theorem deepEqual_trans_of_ok (D : List Str) (hD : dateEquiv D = true) (a b c : Node)
    (ha : okNode D a = true) (hb : okNode D b = true) (hc : okNode D c = true)
    (h1 : deepEqual a b = true) (h2 : deepEqual b c = true) : deepEqual a c = true :=
  (deepEqual_equiv_bounded D hD (max a.size (max b.size c.size))).2 a b c (by omega) (by omega)
    (by omega) ha hb hc h1 h2

theorem deepEqualNodes_of_matched (D : List Str) (hD : dateEquiv D = true) {l r : List Node}
    (hl : ∀ x ∈ l, okNode D x = true) (hr : ∀ x ∈ r, okNode D x = true)
    (h : Matched deepEqual l r) : deepEqualNodes l r = true :=
  nodes_complete (okNode D) (deepEqual_symm_of_ok D hD) (deepEqual_trans_of_ok D hD) hl hr h

/-- what `Equals` compares beyond tag, value and pointer follows from the matching of the children,
    because deep-equal nodes have the same tag -/
theorem deepEqual_of_matched_kids (D : List Str) (hD : dateEquiv D = true) {a b : Node}
    (ht : a.tag = b.tag) (hv : a.value = b.value) (hp : a.ptr = b.ptr) (ha : okNode D a = true)
    (hb : okNode D b = true) (hm : Matched deepEqual a.kids b.kids) : deepEqual a b = true := by
  have htag : ∀ x y, deepEqual x y = true → x.tag = y.tag := fun x y h =>
    equalsShallow_tag (Bool.and_eq_true_iff.mp (deepEqual_eq x y ▸ h)).1
  have hkids := deepEqualNodes_of_matched D hD (fun _ => okNode_kid ha) (fun _ => okNode_kid hb) hm
  have hplac := deepEqualNodes_of_matched D hD
    (fun _ hx => okNode_kid ha (List.mem_filter.mp hx).1)
    (fun _ hx => okNode_kid hb (List.mem_filter.mp hx).1)
    (hm.filter isPlace fun x y h => by rw [isPlace, isPlace, htag x y h])
  rw [deepEqual_eq, Bool.and_eq_true]
  refine ⟨equalsShallow_of_head ht hv hp ?_ hplac hkids, hkids⟩
  cases hd : a.dates with
  | nil =>
    have hl := (hm.filter isDate fun x y h => by rw [isDate, isDate, htag x y h]).length_eq
    exact Or.inl ⟨rfl, List.eq_nil_of_length_eq_zero (hl.symm.trans (congrArg List.length hd))⟩
  | cons d ds => exact Or.inr (hd ▸ datesMatch_of_matched hm (by rw [hd]; exact Nat.succ_pos _))

theorem equalsShallow_symm_of_ok (D : List Str) (hD : dateEquiv D = true) (a b : Node)
    (ha : okNode D a = true) (hb : okNode D b = true) (h : equalsShallow a b = true) :
    equalsShallow b a = true :=
  equalsShallow_symm
    (fun hr => dateEquiv_symm hD (okNode_dateRule ha hr)
      (okNode_dateRule hb ((equalsShallow_rule h).trans hr)))
    (fun _ => datesMatch_symm D hD ha hb)
    (fun _ _ _ hl hr => nodes_symm (okNode D) (deepEqual_symm_of_ok D hD)
      (deepEqual_trans_of_ok D hD) (fun _ hx => okNode_kid ha (hl hx))
      (fun _ hx => okNode_kid hb (hr hx)))
    h

theorem equalsShallow_trans_undated (D : List Str) (hD : dateEquiv D = true) (a b c : Node)
    (ha : okNode D a = true) (hb : okNode D b = true) (hc : okNode D c = true)
    (hund : a.rule = .resi ∨ a.rule = .even → b.dates = [])
    (h1 : equalsShallow a b = true) (h2 : equalsShallow b c = true) :
    equalsShallow a c = true := by
  have hrb := equalsShallow_rule h1
  refine equalsShallow_trans
    (fun hr => dateEquiv_trans hD (okNode_dateRule ha hr) (okNode_dateRule hb (hrb.trans hr))
      (okNode_dateRule hc ((equalsShallow_rule h2).trans (hrb.trans hr))))
    (fun hr d1 _ => ?_)
    (fun _ _ _ _ hl hm hr => nodes_trans (okNode D) (deepEqual_symm_of_ok D hD)
      (deepEqual_trans_of_ok D hD) (fun _ hx => okNode_kid ha (hl hx))
      (fun _ hx => okNode_kid hb (hm hx)) (fun _ hx => okNode_kid hc (hr hx)))
    h1 h2
  have := (datesMatch_length d1).2
  rw [hund hr] at this
  cases this

end Gedcom

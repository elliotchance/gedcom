/-
  Operand-order independence of `listSimilarity` (C12).  The winner loop over the stably sorted
  row-major matrix is the greedy selection for the strict order "higher score first, then row, then
  column"; the swapped run is the one for "higher score first, then column, then row".  The
  accepted set is determined by the order among cells that can block each other (same left or same
  right individual) only: it is the unique set W with "c ∈ W iff c is eligible and no earlier member
  of W blocks it".  So the two calls agree whenever the two orders agree on such cells
  (`listSimilarity_symm_of_orders`): without repeated individuals they share a row or a column,
  without score ties both orders are the order of the scores.
-/
import Gedcom.Lemmas.Similarity
namespace Gedcom.Sim

def Cell.swap (c : Cell) : Cell := ⟨c.b, c.a, c.sim⟩

theorem sumSims_swap (l : List Cell) : sumSims (l.map Cell.swap) = sumSims l := by
  induction l with
  | nil => rfl
  | cons c cs ih => simp only [List.map_cons, sumSims, ih, Cell.swap]

theorem sumSims_perm {l₁ l₂ : List Cell} (h : l₁.Perm l₂) : sumSims l₁ = sumSims l₂ := by
  induction h with
  | nil => rfl
  | cons x _ ih => simp only [sumSims, ih]
  | swap x y l => simp only [sumSims]; grind
  | trans _ _ ih1 ih2 => rw [ih1, ih2]

theorem listSimilarity_symm_of_winners (xs ys : List Indi) (o : SimOpts)
    (h : (winners o.minimumSimilarity (sortDesc (matrix ys xs o)) [] []).Perm
      ((winners o.minimumSimilarity (sortDesc (matrix xs ys o)) [] []).map Cell.swap)) :
    listSimilarity xs ys o = listSimilarity ys xs o := by
  unfold listSimilarity
  by_cases h1 : xs.length = 0 <;> by_cases h2 : ys.length = 0
  · simp [h1, h2]
  · simp [h1, h2]
  · simp [h1, h2]
  · simp only [h1, h2, and_self, or_self, if_false]
    rw [sumSims_perm h, h.length_eq, sumSims_swap, List.length_map, Nat.max_comm]

/-- a cell with its row and column in the matrix -/
structure ICell where
  row : Nat
  col : Nat
  cell : Cell

def imatrix (xs ys : List Indi) (o : SimOpts) : List ICell :=
  xs.zipIdx.flatMap fun p => ys.zipIdx.map fun q => ⟨p.2, q.2, ⟨p.1, q.1, indiSimilarity p.1 q.1 o⟩⟩

theorem mem_imatrix {xs ys : List Indi} {o : SimOpts} {x : ICell} :
    x ∈ imatrix xs ys o ↔
      xs[x.row]? = some x.cell.a ∧ ys[x.col]? = some x.cell.b ∧ x.cell.sim = indiSimilarity x.cell.a x.cell.b o := by
  obtain ⟨i, j, a, b, s⟩ := x
  simp only [imatrix, List.mem_flatMap, List.mem_map, Prod.exists, ICell.mk.injEq,
    List.mem_zipIdx_iff_getElem?, Cell.mk.injEq]
  constructor
  · rintro ⟨a', i', ha, b', j', hb, rfl, rfl, rfl, rfl, rfl⟩
    exact ⟨ha, hb, rfl⟩
  · rintro ⟨h1, h2, h3⟩
    exact ⟨a, i, h1, b, j, h2, rfl, rfl, rfl, rfl, h3.symm⟩

/-- a cell of the swapped call, seen from the first call -/
def ICell.tr (x : ICell) : ICell := ⟨x.col, x.row, x.cell.swap⟩

/-- the matrix of the swapped call in terms of the first: the same cells, in column-major order -/
def imatrixT (xs ys : List Indi) (o : SimOpts) : List ICell := (imatrix ys xs o).map ICell.tr

theorem mem_imatrix_tr {xs ys : List Indi} {o : SimOpts} {x : ICell} :
    x.tr ∈ imatrix ys xs o ↔ x ∈ imatrix xs ys o := by
  rw [mem_imatrix, mem_imatrix]
  simp only [ICell.tr, Cell.swap]
  constructor
  · rintro ⟨h1, h2, h3⟩; exact ⟨h2, h1, by rw [h3, indiSimilarity_symm]⟩
  · rintro ⟨h1, h2, h3⟩; exact ⟨h2, h1, by rw [h3, indiSimilarity_symm]⟩

theorem mem_imatrixT {xs ys : List Indi} {o : SimOpts} {x : ICell} :
    x ∈ imatrixT xs ys o ↔ x ∈ imatrix xs ys o := by
  unfold imatrixT
  rw [List.mem_map]
  constructor
  · rintro ⟨y, hy, rfl⟩; exact mem_imatrix_tr.mpr hy
  · intro h; exact ⟨x.tr, mem_imatrix_tr.mpr h, rfl⟩

theorem imatrix_cells (xs ys : List Indi) (o : SimOpts) :
    (imatrix xs ys o).map (fun x => x.cell) = matrix xs ys o := by
  simp only [imatrix, matrix, List.map_flatMap, List.map_map]
  rw [← zipIdx_flatMap (fun a => ys.map fun b => (⟨a, b, indiSimilarity a b o⟩ : Cell)) xs 0]
  congr 1
  funext p
  exact zipIdx_map (fun b => (⟨p.1, b, indiSimilarity p.1 b o⟩ : Cell)) ys 0

theorem imatrixT_cells (xs ys : List Indi) (o : SimOpts) :
    (imatrixT xs ys o).map (fun x => x.cell.swap) = matrix ys xs o := by
  unfold imatrixT
  rw [List.map_map, ← imatrix_cells ys xs o]
  rfl

def rowMajor (x y : ICell) : Prop := lexLt (x.row, x.col) (y.row, y.col)
def colMajor (x y : ICell) : Prop := lexLt (x.col, x.row) (y.col, y.row)

theorem imatrix_rowMajor (xs ys : List Indi) (o : SimOpts) : (imatrix xs ys o).Pairwise rowMajor := by
  unfold imatrix
  rw [List.pairwise_flatMap]
  constructor
  · intro p _
    rw [List.pairwise_map]
    exact (zipIdx_increasing ys 0).imp (fun h => Or.inr ⟨rfl, h⟩)
  · refine (zipIdx_increasing xs 0).imp ?_
    intro p p' h x hx y hy
    obtain ⟨q, _, e⟩ := List.mem_map.mp hx
    obtain ⟨q', _, e'⟩ := List.mem_map.mp hy
    rw [← e, ← e']
    exact Or.inl h

theorem imatrixT_colMajor (xs ys : List Indi) (o : SimOpts) : (imatrixT xs ys o).Pairwise colMajor := by
  unfold imatrixT
  rw [List.pairwise_map]
  exact imatrix_rowMajor ys xs o

def iA (x : ICell) : Nat := x.cell.a.id
def iB (x : ICell) : Nat := x.cell.b.id
def iS (x : ICell) : Rat := x.cell.sim

theorem rowMajor_asymm (x y : ICell) : rowMajor x y → ¬ rowMajor y x := lexLt_asymm _ _
theorem colMajor_asymm (x y : ICell) : colMajor x y → ¬ colMajor y x := lexLt_asymm _ _

theorem index_of_id {l : List Indi} (h : (l.map (·.id)).Nodup) {i j : Nat} {a b : Indi}
    (hi : l[i]? = some a) (hj : l[j]? = some b) (e : a.id = b.id) : i = j := by
  have hlt : i < (l.map (·.id)).length := by rw [List.length_map]; exact lt_of_getElem? hi
  apply (List.getElem?_inj hlt h).mp
  rw [List.getElem?_map, List.getElem?_map, hi, hj]
  exact congrArg some e

/-- the two runs visit every two cells that can block each other in the same order -/
def OrdersAgree (xs ys : List Indi) (o : SimOpts) : Prop :=
  ∀ x y, x ∈ imatrix xs ys o → y ∈ imatrix xs ys o → iA x = iA y ∨ iB x = iB y →
    (SortedLt iS rowMajor x y ↔ SortedLt iS colMajor x y)

/-- no repeated individual: cells that can block each other share a left (right) individual, so
    they are in the same row (column), where both orders compare columns (rows) -/
theorem ordersAgree_of_no_repeats {xs ys : List Indi} {o : SimOpts} (hx : (xs.map (·.id)).Nodup)
    (hy : (ys.map (·.id)).Nodup) : OrdersAgree xs ys o := by
  intro x y h1 h2 hc
  have hrc : rowMajor x y ↔ colMajor x y := by
    simp only [rowMajor, colMajor, lexLt]
    rcases hc with e | e
    · have := index_of_id hx (mem_imatrix.mp h1).1 (mem_imatrix.mp h2).1 e
      omega
    · have := index_of_id hy (mem_imatrix.mp h1).2.1 (mem_imatrix.mp h2).2.1 e
      omega
  unfold SortedLt DescBy
  rw [hrc]

theorem winners_runs_perm (xs ys : List Indi) (o : SimOpts) (minimum : Rat)
    (hagree : OrdersAgree xs ys o) :
    (gw iA iB iS minimum (sortBy iS (imatrix xs ys o)) [] []).Perm
      (gw iA iB iS minimum (sortBy iS (imatrixT xs ys o)) [] []) := by
  have mem1 : ∀ x, x ∈ sortBy iS (imatrix xs ys o) ↔ x ∈ imatrix xs ys o :=
    fun x => (sortBy_perm iS _).mem_iff
  have mem2 : ∀ x, x ∈ sortBy iS (imatrixT xs ys o) ↔ x ∈ imatrix xs ys o :=
    fun x => ((sortBy_perm iS _).mem_iff).trans mem_imatrixT
  exact gw_perm_of_agree
    (sortedLt_asymm iS rowMajor rowMajor_asymm) (sortedLt_asymm iS colMajor colMajor_asymm)
    (sortBy_sorted iS rowMajor _ (imatrix_rowMajor xs ys o)) (insSort_score_desc iS _)
    (sortBy_sorted iS colMajor _ (imatrixT_colMajor xs ys o)) (insSort_score_desc iS _)
    (fun x => (mem1 x).trans (mem2 x).symm)
    (fun x y hx hy hc => hagree x y ((mem1 x).mp hx) ((mem1 y).mp hy) hc)

theorem winners_first_run (xs ys : List Indi) (o : SimOpts) (minimum : Rat) :
    winners minimum (sortDesc (matrix xs ys o)) [] [] =
      (gw iA iB iS minimum (sortBy iS (imatrix xs ys o)) [] []).map (fun x => x.cell) := by
  rw [← imatrix_cells xs ys o]
  exact winners_sortDesc_map (fun x : ICell => x.cell) _ minimum

theorem winners_second_run (xs ys : List Indi) (o : SimOpts) (minimum : Rat) :
    winners minimum (sortDesc (matrix ys xs o)) [] [] =
      (gw iA iB iS minimum (sortBy iS (imatrixT xs ys o)) [] []).map (fun x => x.cell.swap) := by
  rw [← imatrixT_cells xs ys o, winners_sortDesc_map]
  congr 1
  exact (gw_flip _ [] []).symm

theorem listSimilarity_symm_of_orders (xs ys : List Indi) (o : SimOpts) (h : OrdersAgree xs ys o) :
    listSimilarity xs ys o = listSimilarity ys xs o := by
  apply listSimilarity_symm_of_winners
  rw [winners_second_run xs ys o, winners_first_run xs ys o, List.map_map]
  exact (winners_runs_perm xs ys o o.minimumSimilarity h).symm.map _

/-- no score ties: two different cells are ordered by their scores in both runs -/
theorem ordersAgree_of_no_ties (xs ys : List Indi) (o : SimOpts)
    (hn : ((matrix xs ys o).map (·.sim)).Nodup) : OrdersAgree xs ys o := by
  intro x y hx hy _
  rw [← imatrix_cells, List.map_map] at hn
  have hxy : iS x = iS y → x = y := inj_of_nodup_map iS hn hx hy
  have key : ∀ tie : ICell → ICell → Prop, (∀ z w, tie z w → ¬ tie w z) →
      (SortedLt iS tie x y ↔ iS y < iS x) := by
    refine fun tie asym => ⟨?_, fun h => Or.inl (decide_eq_true h)⟩
    rintro (h | ⟨h, t⟩)
    · exact of_decide_eq_true h
    · refine (Rat.le_iff_lt_or_eq.mp (Rat.not_lt.mp (of_decide_eq_false h))).resolve_right fun e => ?_
      rw [hxy e.symm] at t
      exact asym y y t t
  rw [key rowMajor rowMajor_asymm, key colMajor colMajor_asymm]

/-- list similarity does not depend on the operand order when no two cells of the matrix of
    pairwise scores tie -/
theorem listSimilarity_symm' (xs ys : List Indi) (o : SimOpts)
    (hn : ((matrix xs ys o).map (·.sim)).Nodup) :
    listSimilarity xs ys o = listSimilarity ys xs o :=
  listSimilarity_symm_of_orders xs ys o (ordersAgree_of_no_ties xs ys o hn)

end Gedcom.Sim

/-
  "Nothing invented", by depth: every node of the result carries the tag, value and pointer of an
  input node of the same depth.  This is the ancestry statement of Gedcom/Lemmas/MergePath.lean read
  level by level: a node's depth is the length of its list of ancestor tags.
-/
import Gedcom.Lemmas.MergePath
namespace Gedcom

mutual
/-- the (tag, value, pointer) triples of the nodes at depth `d` below (and including) the node -/
def levelAt : Nat → Node → List Hdr
  | 0, .mk t v p _ => [(t, v, p)]
  | d + 1, .mk _ _ _ ks => levelAtList d ks
def levelAtList : Nat → List Node → List Hdr
  | _, [] => []
  | d, k :: ks => levelAt d k ++ levelAtList d ks
end

theorem mem_levelAtList {d : Nat} {h : Hdr} {ks : List Node} :
    h ∈ levelAtList d ks ↔ ∃ k ∈ ks, h ∈ levelAt d k := by
  induction ks with
  | nil => simp [levelAtList]
  | cons k ks ih => simp [levelAtList, ih]

theorem levelAt_succ (d : Nat) (n : Node) : levelAt (d + 1) n = levelAtList d n.kids := by
  cases n; simp [levelAt, Node.kids]

theorem levelAt_zero (n : Node) : levelAt 0 n = [(n.tag, n.value, n.ptr)] := by
  cases n; simp [levelAt, Node.tag, Node.value, Node.ptr]

/-- every header of `v` occurs at the same depth in one of `xs` -/
def FromNodes (xs : List Node) (v : Node) : Prop :=
  ∀ d h, h ∈ levelAt d v → h ∈ levelAtList d xs

theorem FromNodes.mono {xs ys : List Node} {v : Node} (h : FromNodes xs v) (hs : ∀ x ∈ xs, x ∈ ys) :
    FromNodes ys v := by
  intro d hh hm
  obtain ⟨k, hk, hk'⟩ := mem_levelAtList.mp (h d hh hm)
  exact mem_levelAtList.mpr ⟨k, hs k hk, hk'⟩

theorem levelAtList_of_tagPathsL : ∀ (ks : List Node) (pre : List Str) (x : TagPath),
    x ∈ tagPathsL pre ks → ∃ d, x.1.length = pre.length + d ∧ x.2 ∈ levelAtList d ks := by
  intro ks
  induction ks using Forest.induct with
  | nil => exact fun _ _ hx => nomatch hx
  | cons t v p ks ns ihk ihn =>
    intro pre x hx
    rw [tagPathsL, tagPaths, List.cons_append, List.mem_cons, List.mem_append] at hx
    obtain rfl | hx | hx := hx
    · exact ⟨0, rfl, List.mem_append_left _ (List.mem_singleton.mpr rfl)⟩
    · obtain ⟨d, hd, hm⟩ := ihk (pre ++ [t]) x hx
      rw [List.length_append] at hd
      exact ⟨d + 1, by rw [hd]; simp only [List.length_cons, List.length_nil]; omega,
        List.mem_append_left _ hm⟩
    · obtain ⟨d, hd, hm⟩ := ihn pre x hx
      exact ⟨d, hd, List.mem_append_right _ hm⟩

theorem tagPathsL_of_levelAtList : ∀ (ks : List Node) (pre : List Str) (d : Nat) (h : Hdr),
    h ∈ levelAtList d ks → ∃ q, q.length = pre.length + d ∧ (q, h) ∈ tagPathsL pre ks := by
  intro ks
  induction ks using Forest.induct with
  | nil =>
    intro _ _ _ hm
    rw [levelAtList] at hm
    cases hm
  | cons t v p ks ns ihk ihn =>
    intro pre d h hm
    rw [levelAtList, List.mem_append] at hm
    rw [tagPathsL, tagPaths]
    rcases hm with hm | hm
    · cases d with
      | zero =>
        rw [levelAt, List.mem_singleton] at hm
        exact ⟨pre, rfl, by rw [hm]; exact List.mem_append_left _ List.mem_cons_self⟩
      | succ d =>
        rw [levelAt] at hm
        obtain ⟨q, hq, hmem⟩ := ihk (pre ++ [t]) d h hm
        rw [List.length_append] at hq
        exact ⟨q, by rw [hq]; simp only [List.length_cons, List.length_nil]; omega,
          List.mem_append_left _ (List.mem_cons_of_mem _ hmem)⟩
    · obtain ⟨q, hq, hmem⟩ := ihn pre d h hm
      exact ⟨q, hq, List.mem_append_right _ hmem⟩

theorem FromPaths.fromNodes {xs : List Node} {v : Node} (h : FromPaths xs v) : FromNodes xs v := by
  intro d hh hm
  obtain ⟨q, hq, hmem⟩ := tagPathsL_of_levelAtList [v] [] d hh (by rwa [levelAtList, levelAtList, List.append_nil])
  rw [tagPathsL, tagPathsL, List.append_nil] at hmem
  obtain ⟨d', hd', hm'⟩ := levelAtList_of_tagPathsL xs [] _ (h [] _ hmem)
  have : d' = d := by rw [hq] at hd'; omega
  rw [← this]; exact hm'

end Gedcom

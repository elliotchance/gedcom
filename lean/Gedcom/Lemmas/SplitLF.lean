/- How a value splits at its line feeds (`splitLF`) and is written back (`contBytes`). -/
import Gedcom.Model.MultiLine
namespace Gedcom.Dec

theorem mem_contBytes (segs : List Str) (x : UInt8) :
    x ∈ contBytes segs ↔ (x = LF ∧ segs ≠ []) ∨ ∃ seg ∈ segs, x ∈ seg := by
  induction segs with
  | nil => simp [contBytes]
  | cons s ss ih =>
    simp only [contBytes, List.cons_append, List.mem_cons, List.mem_append, ih, ne_eq,
      reduceCtorEq, not_false_eq_true, and_true, exists_eq_or_imp]
    constructor
    · rintro (h | h | ⟨h, _⟩ | h)
      · exact .inl h
      · exact .inr (.inl h)
      · exact .inl h
      · exact .inr (.inr h)
    · exact Or.imp_right (Or.imp_right Or.inr)

theorem contBytes_append (a b : List Str) : contBytes (a ++ b) = contBytes a ++ contBytes b := by
  induction a with
  | nil => simp [contBytes]
  | cons x xs ih => simp [contBytes, ih, List.append_assoc]

theorem splitLF_cons (c : UInt8) (y : Str) :
    splitLF (c :: y) = if c == LF then ([], (splitLF y).1 :: (splitLF y).2)
      else (c :: (splitLF y).1, (splitLF y).2) := by
  rw [splitLF]

theorem splitLF_append_noLF (v suf : Str) (h : ∀ x ∈ v, x ≠ LF) :
    splitLF (v ++ suf) = (v ++ (splitLF suf).1, (splitLF suf).2) := by
  induction v with
  | nil => simp
  | cons c cs ih =>
    have hc : (c == LF) = false := by simpa using h c (by simp)
    rw [List.cons_append, splitLF_cons]
    simp [hc, ih (fun x hx => h x (by simp [hx]))]

theorem splitLF_of_noLF (v : Str) (h : ∀ x ∈ v, x ≠ LF) : splitLF v = (v, []) := by
  have := splitLF_append_noLF v [] h
  rwa [List.append_nil, show splitLF [] = ([], []) from rfl, List.append_nil] at this

theorem splitLF_join : ∀ v : Str, (splitLF v).1 ++ contBytes (splitLF v).2 = v
  | [] => rfl
  | b :: r => by
    have ih := splitLF_join r
    rw [splitLF_cons]
    by_cases hb : (b == LF) = true
    · have : b = LF := by simpa using hb
      simp only [hb, ↓reduceIte, List.nil_append, contBytes]
      rw [List.cons_append, ih, this]
    · simp only [hb, Bool.false_eq_true, ↓reduceIte, List.cons_append]
      rw [ih]

theorem splitLF_fst_noLF : ∀ v : Str, ∀ x ∈ (splitLF v).1, x ≠ LF
  | [], x, hx => by simp [splitLF] at hx
  | b :: r, x, hx => by
    rw [splitLF_cons] at hx
    by_cases hb : (b == LF) = true
    · simp [hb] at hx
    · simp only [hb, Bool.false_eq_true, ↓reduceIte, List.mem_cons] at hx
      rcases hx with hx | hx
      · subst hx; simpa using hb
      · exact splitLF_fst_noLF r x hx

theorem splitLF_snd_noLF : ∀ v : Str, ∀ seg ∈ (splitLF v).2, ∀ x ∈ seg, x ≠ LF
  | [], seg, hs => by simp [splitLF] at hs
  | b :: r, seg, hs => by
    rw [splitLF_cons] at hs
    by_cases hb : (b == LF) = true
    · simp only [hb, ↓reduceIte, List.mem_cons] at hs
      rcases hs with hs | hs
      · subst hs; exact splitLF_fst_noLF r
      · exact splitLF_snd_noLF r seg hs
    · simp only [hb, Bool.false_eq_true, ↓reduceIte] at hs
      exact splitLF_snd_noLF r seg hs

theorem splitLF_fst_sub (v : Str) : ∀ x ∈ (splitLF v).1, x ∈ v := by
  intro x hx
  have := splitLF_join v
  rw [← this]; simp [hx]

theorem splitLF_snd_sub (v : Str) : ∀ seg ∈ (splitLF v).2, ∀ x ∈ seg, x ∈ v := by
  intro seg hs x hx
  have := splitLF_join v
  rw [← this]
  simp [(mem_contBytes _ x).mpr (.inr ⟨seg, hs, hx⟩)]

theorem splitLF_snd_drop_prefix (pre x : Str) : ∀ b ∈ (splitLF x).2, b ∈ (splitLF (pre ++ x)).2 := by
  induction pre with
  | nil => intro b hb; simpa using hb
  | cons c cs ih =>
    intro b hb
    rw [List.cons_append, splitLF_cons]
    by_cases hc : (c == LF) = true <;> simp [hc, ih b hb]

theorem splitLF_fst_append_LF (v suf : Str) (h : LF ∈ v) : (splitLF (v ++ suf)).1 = (splitLF v).1 := by
  induction v with
  | nil => simp at h
  | cons c cs ih =>
    rw [List.cons_append, splitLF_cons, splitLF_cons]
    by_cases hc : (c == LF) = true
    · simp [hc]
    · have hne : c ≠ LF := by simpa using hc
      have : LF ∈ cs := by
        rcases List.mem_cons.mp h with e | e
        · exact absurd e.symm hne
        · exact e
      simp [hc, ih this]

theorem splitLF_snd_drop_suffix (v suf : Str) :
    ∀ b ∈ (splitLF v).2, b ∈ (splitLF (v ++ suf)).2 ∨ b ++ (splitLF suf).1 ∈ (splitLF (v ++ suf)).2 := by
  induction v with
  | nil => intro b hb; simp [splitLF] at hb
  | cons c cs ih =>
    intro b hb
    rw [splitLF_cons] at hb
    rw [List.cons_append, splitLF_cons]
    by_cases hc : (c == LF) = true
    · simp only [hc, if_true, List.mem_cons] at hb ⊢
      rcases hb with hb | hb
      · subst hb
        by_cases hcs : LF ∈ cs
        · left; left; exact (splitLF_fst_append_LF cs suf hcs).symm
        · right; left
          have hno : ∀ x ∈ cs, x ≠ LF := fun x hx e => hcs (e ▸ hx)
          rw [splitLF_append_noLF cs suf hno, splitLF_of_noLF cs hno]
      · rcases ih b hb with h | h
        · left; right; exact h
        · right; right; exact h
    · simp only [hc, Bool.false_eq_true, if_false] at hb ⊢
      exact ih b hb

theorem splitLF_join_parts (v0 : Str) (segs : List Str) (h0 : ∀ x ∈ v0, x ≠ LF)
    (hs : ∀ seg ∈ segs, ∀ x ∈ seg, x ≠ LF) : splitLF (v0 ++ contBytes segs) = (v0, segs) := by
  induction segs generalizing v0 with
  | nil => rw [contBytes, List.append_nil, splitLF_of_noLF v0 h0]
  | cons seg more ih =>
    rw [splitLF_append_noLF v0 _ h0, contBytes, List.cons_append, splitLF_cons,
      if_pos (beq_self_eq_true LF), ih seg (hs seg List.mem_cons_self)
        (fun sg hsg => hs sg (List.mem_cons_of_mem _ hsg)), List.append_nil]

theorem splitLF_snoc_line (v line : Str) (h : ∀ x ∈ line, x ≠ LF) :
    splitLF (v ++ LF :: line) = ((splitLF v).1, (splitLF v).2 ++ [line]) := by
  induction v with
  | nil => rw [List.nil_append, splitLF_cons, if_pos (beq_self_eq_true LF), splitLF_of_noLF line h]; rfl
  | cons c cs ih =>
    rw [List.cons_append, splitLF_cons, splitLF_cons, ih]
    by_cases hc : (c == LF) = true <;> simp [hc]

end Gedcom.Dec

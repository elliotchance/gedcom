/- The line grammar as a decomposition of the text (`parseLine_iff`); a written line reads back. -/
import Gedcom.Lemmas.Bytes
namespace Gedcom.Dec

/-- what the line grammar needs of a node's fields so that the written line reads back -/
structure LegalLine (l : Line) : Prop where
  tag_ne : l.tag ≠ []
  tag_word : ∀ x ∈ l.tag, isWord x = true
  ptr_noat : ∀ x ∈ l.ptr, x ≠ AT

theorem isWord_not {x : UInt8} (h : isWord x = true) : x ≠ AT ∧ x ≠ SP ∧ x ≠ LF ∧ x ≠ CR := by
  refine ⟨?_, ?_, ?_, ?_⟩ <;> intro e <;> subst e <;> revert h <;> decide

theorem isDigit_SP : isDigit SP = false := by decide
theorem isWord_SP : isWord SP = false := by decide

/-- the optional pointer group as written -/
def ptrText (p : Str) : Str := if p = [] then [] else [AT] ++ p ++ [AT, SP]

theorem parsePtr_iff {r2 p r : Str} : parsePtr r2 = some (p, r) ↔
    r2 = ptrText p ++ r ∧ (∀ x ∈ p, x ≠ AT) ∧ (p = [] → r.head? ≠ some AT) := by
  constructor
  · intro h
    unfold parsePtr at h
    split at h
    · rename_i c r3
      split at h
      · rename_i hc
        obtain ⟨h1, h2, _⟩ := span_spec (· != AT) r3
        split at h
        · rename_i a b r5 hd
          dsimp only at h
          split at h
          · rename_i hg
            simp only [Bool.and_eq_true, beq_iff_eq, decide_eq_true_eq] at hg hc
            cases h
            refine ⟨?_, fun x hx => by simpa using h2 x hx, fun e => absurd e hg.2⟩
            rw [ptrText, if_neg hg.2, hc]
            conv => lhs; rw [h1, hd, hg.1.1, hg.1.2]
            simp
          · cases h
        · cases h
      · rename_i hc
        cases h
        exact ⟨rfl, nofun, fun _ e => hc (by cases e; rfl)⟩
    · cases h; exact ⟨rfl, nofun, fun _ => nofun⟩
  · rintro ⟨rfl, hp, hh⟩
    by_cases hpe : p = []
    · subst hpe
      cases r with
      | nil => rfl
      | cons c r3 =>
        have : (c == AT) = false := by simpa using fun e => hh rfl (congrArg some e)
        simp [ptrText, parsePtr, this]
    · have s3 := takeWhile_append_stop (· != AT) p (AT :: SP :: r)
        (by intro x hx; simpa using hp x hx) (by intro y hy; simp at hy; subst hy; decide)
      simp [ptrText, hpe, parsePtr, s3.1, s3.2]

/-- `s` is a line of the grammar with fields `l`: `ds` the digits of the level, `sps` the spaces after
    them, `rest` what follows the tag -/
structure LineText (s : Str) (l : Line) (ds sps rest : Str) : Prop where
  text : s = ds ++ (sps ++ (ptrText l.ptr ++ (l.tag ++ rest)))
  legal : LegalLine l
  ds_ne : ds ≠ []
  ds_digit : ∀ x ∈ ds, isDigit x = true
  sps_ne : sps ≠ []
  sps_sp : ∀ x ∈ sps, (x == SP) = true
  rest_stop : ∀ y, rest.head? = some y → isWord y = false
  level : l.level = decToNat ds
  value : l.value = afterTag rest

theorem parseLine_iff {s : Str} {l : Line} :
    parseLine s = some l ↔ ∃ ds sps rest, LineText s l ds sps rest := by
  constructor
  · intro h
    obtain ⟨e1, d1, _⟩ := span_spec isDigit s
    obtain ⟨e2, d2, _⟩ := span_spec (· == SP) (s.dropWhile isDigit)
    unfold parseLine at h
    simp only at h
    split at h
    · cases h
    rename_i hds
    split at h
    · cases h
    rename_i hsps
    split at h
    · cases h
    rename_i ptr r hp
    split at h
    · cases h
    rename_i htg
    cases h
    obtain ⟨e3, d3, st3⟩ := span_spec isWord r
    obtain ⟨e4, hpa, _⟩ := parsePtr_iff.mp hp
    refine ⟨_, _, _, ?_, ⟨htg, d3, hpa⟩, hds, d1, hsps, d2, st3, rfl, rfl⟩
    dsimp only
    rw [← e3, ← e4, ← e2, ← e1]
  · rintro ⟨ds, sps, rest, ⟨rfl, ⟨htne, hw, hp⟩, hds, hdd, hsps, hss, hst, hlev, hval⟩⟩
    obtain ⟨t0, tg', htag⟩ := List.exists_cons_of_ne_nil htne
    have ht0 := isWord_not (hw t0 (by simp [htag]))
    have hX : ∀ y, (ptrText l.ptr ++ (l.tag ++ rest)).head? = some y → (y == SP) = false := by
      intro y hy
      by_cases hpe : l.ptr = []
      · simp [ptrText, hpe, htag] at hy
        subst hy
        simpa using ht0.2.1
      · simp [ptrText, hpe] at hy
        subst hy
        decide
    -- the digits end at a space, the spaces at `@` or the tag, the tag at `rest`
    obtain ⟨s0, sps', hsp⟩ := List.exists_cons_of_ne_nil hsps
    have hS : ∀ y, (sps ++ (ptrText l.ptr ++ (l.tag ++ rest))).head? = some y → isDigit y = false := by
      intro y hy
      rw [hsp] at hy
      cases hy
      rw [eq_of_beq (hss s0 (by simp [hsp]))]
      exact isDigit_SP
    have s1 := takeWhile_append_stop isDigit ds _ hdd hS
    have s2 := takeWhile_append_stop (· == SP) sps _ hss hX
    have s3 := takeWhile_append_stop isWord l.tag rest hw hst
    have s4 : parsePtr (ptrText l.ptr ++ (l.tag ++ rest)) = some (l.ptr, l.tag ++ rest) :=
      parsePtr_iff.mpr ⟨rfl, hp, fun _ => by rw [htag]; exact fun e => ht0.1 (Option.some.inj e)⟩
    unfold parseLine
    simp only [s1.1, s1.2, s2.1, s2.2, s3.1, s3.2, s4, if_neg hds, if_neg hsps, if_neg htne, ← hlev, ← hval]

theorem parseLine_renderLine (l : Line) (h : LegalLine l) : parseLine (renderLine l) = some l := by
  refine parseLine_iff.mpr ⟨natToDec l.level, [SP], if l.value = [] then [] else SP :: l.value,
    by simp [renderLine, ptrText], h, natToDec_ne_nil _, natToDec_digits _, List.cons_ne_nil _ _,
    by simp, ?_, (decToNat_natToDec _).symm, ?_⟩
  · intro y hy
    by_cases hv : l.value = [] <;> simp [hv] at hy
    subst hy
    exact isWord_SP
  · by_cases hv : l.value = [] <;> simp [hv, afterTag]

end Gedcom.Dec

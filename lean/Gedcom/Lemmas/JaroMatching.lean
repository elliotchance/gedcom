/-
  What the Jaro loop returns (C12).  The greedy window matching of `jaro a b` is the winner loop of
  Lemmas/SortWinners over the admissible pairs (same byte, distance within the window), row by row,
  with all scores tied (`jaroLoop_gw`).  For pairs of positions the characterisation `GenChar` of
  what that loop accepts says the matching is *stable* for "smaller index first" on both sides
  (`stable_iff_genChar`): every admissible pair that is not matched has an endpoint matched to a
  smaller index.  So a stable matching is unique, and whatever is stable gives `matches` and `halfs`
  (`jaroFinal_of_stable`): the transposed matching for the swapped call, the matchings exhibited
  for special cases in Lemmas/Similarity.
-/
import Gedcom.Lemmas.SortWinners
namespace Gedcom.Sim

theorem matchRange_comm (la lb : Nat) : matchRange la lb = matchRange lb la := by
  unfold matchRange; rw [Nat.max_comm]

/-- `(i, j)` may be matched: same byte, `|i - j| ≤ r` -/
def Edge (a b : Str) (r i j : Nat) : Prop :=
  (∃ c, a[i]? = some c ∧ b[j]? = some c) ∧ i ≤ j + r ∧ j ≤ i + r

theorem Edge.swap {a b : Str} {r i j : Nat} (h : Edge a b r i j) : Edge b a r j i := by
  obtain ⟨⟨c, h1, h2⟩, h3, h4⟩ := h
  exact ⟨⟨c, h2, h1⟩, h4, h3⟩

structure Stable (a b : Str) (r : Nat) (M : List (Nat × Nat)) : Prop where
  valid : ∀ i j, (i, j) ∈ M → Edge a b r i j
  injL : ∀ i j j', (i, j) ∈ M → (i, j') ∈ M → j = j'
  injR : ∀ i i' j, (i, j) ∈ M → (i', j) ∈ M → i = i'
  stab : ∀ i j, Edge a b r i j →
    (i, j) ∈ M ∨ (∃ j', j' < j ∧ (i, j') ∈ M) ∨ (∃ i', i' < i ∧ (i', j) ∈ M)

theorem Stable.transpose {a b : Str} {r : Nat} {M : List (Nat × Nat)} (h : Stable a b r M) :
    Stable b a r (M.map Prod.swap) := by
  have mem : ∀ i j, (i, j) ∈ M.map Prod.swap ↔ (j, i) ∈ M := by
    intro i j
    simp only [List.mem_map, Prod.exists]
    constructor
    · rintro ⟨x, y, hxy, e⟩
      simp only [Prod.swap, Prod.mk.injEq] at e
      rw [← e.1, ← e.2]; exact hxy
    · intro hm; exact ⟨j, i, hm, rfl⟩
  refine ⟨?_, ?_, ?_, ?_⟩
  · intro i j hm; exact (h.valid j i ((mem i j).mp hm)).swap
  · intro i j j' h1 h2; exact h.injR j j' i ((mem i j).mp h1) ((mem i j').mp h2)
  · intro i i' j h1 h2; exact h.injL j i i' ((mem i j).mp h1) ((mem i' j).mp h2)
  · intro i j he
    rcases h.stab j i he.swap with h1 | ⟨j', hj', h1⟩ | ⟨i', hi', h1⟩
    · exact Or.inl ((mem i j).mpr h1)
    · exact Or.inr (Or.inr ⟨j', hj', (mem j' j).mpr h1⟩)
    · exact Or.inr (Or.inl ⟨i', hi', (mem i i').mpr h1⟩)

/-- the loop's `halfs`: matched pairs at different positions -/
def offDiag (ps : List (Nat × Nat)) : Nat := ps.countP (fun p => p.1 != p.2)

/-- the admissible partners of position `i` of `a` (byte `c`), in the order the loop tries them -/
def rowCells (b : Str) (r i : Nat) (c : UInt8) : List (Nat × Nat) :=
  ((List.range' (i - r) (min b.length (i + r + 1) - (i - r))).filter fun j => b[j]? == some c).map
    fun j => (i, j)

/-- all admissible pairs, row by row -/
def edgesFrom (b : Str) (r : Nat) (cs : Str) (i : Nat) : List (Nat × Nat) :=
  (cs.zipIdx i).flatMap fun p => rowCells b r p.2 p.1

/-- the winner loop on pairs of positions, all scores tied and no minimum -/
abbrev gwJ : List (Nat × Nat) → List Nat → List Nat → List (Nat × Nat) :=
  gw Prod.fst Prod.snd (fun _ => (0 : Rat)) 0

theorem gwJ_cons (p : Nat × Nat) (l : List (Nat × Nat)) (fa fb : List Nat) :
    gwJ (p :: l) fa fb =
      if fa.contains p.1 || fb.contains p.2 then gwJ l fa fb else p :: gwJ l (p.1 :: fa) (p.2 :: fb) := by
  show gw _ _ _ _ _ _ _ = _
  rw [gw, if_neg (by decide)]

theorem gwJ_skip_row (i : Nat) (l : List Nat) (rest : List (Nat × Nat)) (fa fb : List Nat) :
    gwJ (l.map (fun j => (i, j)) ++ rest) (i :: fa) fb = gwJ rest (i :: fa) fb := by
  induction l with
  | nil => rfl
  | cons j js ih => rw [List.map_cons, List.cons_append, gwJ_cons, ih]; simp

/-- the flags of the loop are the taken positions of `b` -/
def Taken (b : Str) (used : List Bool) (fb : List Nat) : Prop :=
  used.length = b.length ∧ ∀ j, j < b.length → (used[j]? = some false ↔ j ∉ fb)

theorem Taken.set {b : Str} {used : List Bool} {fb : List Nat} (h : Taken b used fb) (k : Nat) :
    Taken b (used.set k true) (k :: fb) := by
  refine ⟨by simp [h.1], fun j hj => ?_⟩
  by_cases e : k = j
  · subst e
    rw [List.getElem?_set_self (by rw [h.1]; exact hj)]
    simp
  · rw [List.getElem?_set_ne e, h.2 j hj]
    simp [Ne.symm e]

/-- one scan of `jaroFind` is the winner loop over the row -/
theorem gwJ_row (b : Str) (i : Nat) (c : UInt8) (rest : List (Nat × Nat)) (fa fb : List Nat)
    (used : List Bool) (hi : i ∉ fa) (hf : Taken b used fb) (s n : Nat) :
    gwJ (((List.range' s n).filter fun j => b[j]? == some c).map (fun j => (i, j)) ++ rest) fa fb =
      match jaroFind c b used s n with
      | none => gwJ rest fa fb
      | some j => (i, j) :: gwJ rest (i :: fa) (j :: fb) := by
  induction n generalizing s with
  | zero => rfl
  | succ n ih =>
    rw [List.range'_succ, List.filter_cons, jaroFind]
    by_cases hc : b[s]? = some c
    · have hs : s < b.length := lt_of_getElem? hc
      simp only [hc, beq_self_eq_true, if_true, List.map_cons, List.cons_append, and_true]
      rw [gwJ_cons]
      by_cases hu : used[s]? = some false
      · have : s ∉ fb := (hf.2 s hs).mp hu
        simp only [hu, if_true, hi, this, List.contains_eq_mem, decide_false, Bool.or_self,
          Bool.false_eq_true, if_false]
        rw [gwJ_skip_row]
      · have : s ∈ fb := Classical.not_not.mp fun h => hu ((hf.2 s hs).mpr h)
        simp only [hu, if_false, this, List.contains_eq_mem, decide_true, Bool.or_true, if_true]
        exact ih (s + 1)
    · have : (b[s]? == some c) = false := by simpa using hc
      simp only [this, hc, and_false, if_false, Bool.false_eq_true]
      exact ih (s + 1)

theorem offDiag_cons (p : Nat × Nat) (l : List (Nat × Nat)) :
    offDiag (p :: l) = offDiag l + if p.1 = p.2 then 0 else 1 := by
  unfold offDiag
  rw [List.countP_cons]
  by_cases e : p.1 = p.2 <;> simp [e]

/-- the loop counts the winners of the rows still to come -/
theorem jaroLoop_gw (b : Str) (r : Nat) (cs : Str) (i : Nat) (st : JSt) (fa fb : List Nat)
    (hfa : ∀ x ∈ fa, x < i) (hf : Taken b st.used fb) :
    (jaroLoop b r cs i st).nMatch = st.nMatch + (gwJ (edgesFrom b r cs i) fa fb).length ∧
    (jaroLoop b r cs i st).nHalf = st.nHalf + offDiag (gwJ (edgesFrom b r cs i) fa fb) := by
  induction cs generalizing i st fa fb with
  | nil => exact ⟨rfl, rfl⟩
  | cons c cs ih =>
    have hi : i ∉ fa := fun h => Nat.lt_irrefl _ (hfa i h)
    have hrow := gwJ_row b i c (edgesFrom b r cs (i + 1)) fa fb st.used hi hf (i - r)
      (min b.length (i + r + 1) - (i - r))
    rw [jaroLoop, edgesFrom, List.zipIdx_cons, List.flatMap_cons]
    show _ = _ + (gwJ (_ ++ edgesFrom b r cs (i + 1)) fa fb).length ∧
      _ = _ + offDiag (gwJ (_ ++ edgesFrom b r cs (i + 1)) fa fb)
    unfold rowCells
    rw [hrow]
    unfold jaroStep
    simp only
    cases jaroFind c b st.used (i - r) (min b.length (i + r + 1) - (i - r)) with
    | none => exact ih (i + 1) st fa fb (fun x hx => Nat.lt_succ_of_lt (hfa x hx)) hf
    | some j =>
      have := ih (i + 1) ⟨st.used.set j true, st.nMatch + 1, if i = j then st.nHalf else st.nHalf + 1⟩
        (i :: fa) (j :: fb)
        (fun x hx => (List.mem_cons.mp hx).elim (fun e => e ▸ Nat.lt_succ_self _)
          fun h => Nat.lt_succ_of_lt (hfa x h))
        (hf.set j)
      simp only at this ⊢
      rw [this.1, this.2, List.length_cons, offDiag_cons]
      constructor
      · omega
      · split <;> omega

def lexLt (p q : Nat × Nat) : Prop := p.1 < q.1 ∨ (p.1 = q.1 ∧ p.2 < q.2)

theorem mem_rowCells {b : Str} {r i : Nat} {c : UInt8} {p : Nat × Nat} :
    p ∈ rowCells b r i c ↔ p.1 = i ∧ b[p.2]? = some c ∧ i ≤ p.2 + r ∧ p.2 ≤ i + r := by
  obtain ⟨x, j⟩ := p
  simp only [rowCells, List.mem_map, List.mem_filter, List.mem_range'_1, beq_iff_eq, Prod.mk.injEq]
  constructor
  · rintro ⟨k, ⟨hk, hc⟩, rfl, rfl⟩
    have := lt_of_getElem? hc
    exact ⟨rfl, hc, by omega, by omega⟩
  · rintro ⟨rfl, hc, h1, h2⟩
    have := lt_of_getElem? hc
    exact ⟨j, ⟨by omega, hc⟩, rfl, rfl⟩

theorem mem_edges {a b : Str} {r : Nat} {p : Nat × Nat} :
    p ∈ edgesFrom b r a 0 ↔ Edge a b r p.1 p.2 := by
  simp only [edgesFrom, List.mem_flatMap, mem_rowCells, Prod.exists, List.mem_zipIdx_iff_getElem?, Edge]
  constructor
  · rintro ⟨c, i, hc, rfl, hb, h1, h2⟩; exact ⟨⟨c, hc, hb⟩, h1, h2⟩
  · rintro ⟨⟨c, hc, hb⟩, h1, h2⟩; exact ⟨c, p.1, hc, rfl, hb, h1, h2⟩

theorem edges_sorted (b : Str) (r : Nat) (cs : Str) (i : Nat) : (edgesFrom b r cs i).Pairwise lexLt := by
  unfold edgesFrom
  rw [List.pairwise_flatMap]
  constructor
  · intro q _
    unfold rowCells
    rw [List.pairwise_map]
    exact ((List.pairwise_lt_range' (s := _) (n := _)).filter _).imp fun h => Or.inr ⟨rfl, h⟩
  · refine (zipIdx_increasing cs i).imp ?_
    intro q q' h x hx y hy
    exact Or.inl (by rw [(mem_rowCells.mp hx).1, (mem_rowCells.mp hy).1]; exact h)

theorem lexLt_asymm (p q : Nat × Nat) (h : lexLt p q) : ¬ lexLt q p := by unfold lexLt at *; omega

def jaroPairs (a b : Str) : List (Nat × Nat) :=
  gwJ (edgesFrom b (matchRange a.length b.length) a 0) [] []

theorem jaroFinal_pairs (a b : Str) :
    (jaroFinal a b).nMatch = (jaroPairs a b).length ∧ (jaroFinal a b).nHalf = offDiag (jaroPairs a b) := by
  have := jaroLoop_gw b (matchRange a.length b.length) a 0 (jaroInit b) [] [] (fun _ h => nomatch h)
    ⟨by simp [jaroInit], fun j hj => by simp [jaroInit, hj]⟩
  simpa [jaroInit, jaroFinal, jaroPairs] using this

/-- "an endpoint is matched to a smaller index" is "an earlier winner shares the row or the column" -/
theorem stable_iff_genChar {a b : Str} {r : Nat} {M : List (Nat × Nat)} :
    Stable a b r M ↔
      GenChar Prod.fst Prod.snd (fun _ => (0 : Rat)) 0 lexLt (· ∈ M) (edgesFrom b r a 0) [] [] := by
  constructor
  · intro h p
    constructor
    · refine fun hp => ⟨mem_edges.mpr (h.valid _ _ hp), Rat.lt_irrefl, List.not_mem_nil,
        List.not_mem_nil, fun d hd hlt => ⟨fun e => ?_, fun e => ?_⟩⟩
      · have := h.injL d.1 d.2 p.2 hd (by rw [e]; exact hp)
        unfold lexLt at hlt; omega
      · have := h.injR d.1 p.1 d.2 hd (by rw [e]; exact hp)
        unfold lexLt at hlt; omega
    · rintro ⟨he, _, _, _, hall⟩
      rcases h.stab p.1 p.2 (mem_edges.mp he) with h1 | ⟨j', hj', h1⟩ | ⟨i', hi', h1⟩
      · exact h1
      · exact absurd rfl (hall (p.1, j') h1 (Or.inr ⟨rfl, hj'⟩)).1
      · exact absurd rfl (hall (i', p.2) h1 (Or.inl hi')).2
  · intro hW
    -- two winners in one row or one column: the later one is blocked by the earlier
    have apart : ∀ p q, p ∈ M → q ∈ M → lexLt p q → p.1 ≠ q.1 ∧ p.2 ≠ q.2 :=
      fun p q hp hq hlt => by
        obtain ⟨_, _, _, _, hall⟩ := (hW q).mp hq
        exact hall p hp hlt
    refine ⟨fun i j hm => mem_edges.mp ((hW (i, j)).mp hm).1, ?_, ?_, ?_⟩
    · intro i j j' h1 h2
      rcases Nat.lt_trichotomy j j' with h | h | h
      · exact absurd rfl (apart _ _ h1 h2 (Or.inr ⟨rfl, h⟩)).1
      · exact h
      · exact absurd rfl (apart _ _ h2 h1 (Or.inr ⟨rfl, h⟩)).1
    · intro i i' j h1 h2
      rcases Nat.lt_trichotomy i i' with h | h | h
      · exact absurd rfl (apart _ _ h1 h2 (Or.inl h)).2
      · exact h
      · exact absurd rfl (apart _ _ h2 h1 (Or.inl h)).2
    · -- no endpoint matched to a smaller index: no earlier winner blocks `(i, j)`, so it is accepted
      intro i j he
      by_cases h1 : ∃ j', j' < j ∧ (i, j') ∈ M
      · exact Or.inr (Or.inl h1)
      by_cases h2 : ∃ i', i' < i ∧ (i', j) ∈ M
      · exact Or.inr (Or.inr h2)
      refine Or.inl ((hW (i, j)).mpr
        ⟨mem_edges.mpr he, Rat.lt_irrefl, List.not_mem_nil, List.not_mem_nil, ?_⟩)
      rintro ⟨d1, d2⟩ hd hlt
      unfold lexLt at hlt
      simp only at hlt ⊢
      constructor
      · rintro rfl; exact h1 ⟨d2, by omega, hd⟩
      · rintro rfl; exact h2 ⟨d1, by omega, hd⟩

theorem Stable.unique {a b : Str} {r : Nat} {M M' : List (Nat × Nat)} (h : Stable a b r M)
    (h' : Stable a b r M') (p : Nat × Nat) : p ∈ M ↔ p ∈ M' :=
  GenChar.unique lexLt_asymm (edges_sorted b r a 0) (stable_iff_genChar.mp h) (stable_iff_genChar.mp h') p

theorem jaroPairs_stable (a b : Str) :
    Stable a b (matchRange a.length b.length) (jaroPairs a b) ∧ (jaroPairs a b).Nodup := by
  have hs := edges_sorted b (matchRange a.length b.length) a 0
  exact ⟨stable_iff_genChar.mpr
      (gw_sat (sim := fun _ => 0) lexLt_asymm _ hs (List.pairwise_of_forall fun _ _ => Rat.le_refl) [] []),
    (nodup_of_sorted lexLt_asymm hs).sublist (gw_sublist _ _ _)⟩

theorem offDiag_swap (M : List (Nat × Nat)) : offDiag (M.map Prod.swap) = offDiag M := by
  unfold offDiag
  rw [List.countP_map]
  apply List.countP_congr
  intro p _
  simp only [Function.comp, Prod.swap, bne_iff_ne, ne_eq]
  constructor <;> intro h e <;> exact h e.symm

theorem jaroFinal_of_stable {a b : Str} {M : List (Nat × Nat)}
    (h : Stable a b (matchRange a.length b.length) M) (hn : M.Nodup) :
    (jaroFinal a b).nMatch = M.length ∧ (jaroFinal a b).nHalf = offDiag M := by
  have hp : (jaroPairs a b).Perm M :=
    (List.perm_ext_iff_of_nodup (jaroPairs_stable a b).2 hn).mpr ((jaroPairs_stable a b).1.unique h)
  rw [(jaroFinal_pairs a b).1, (jaroFinal_pairs a b).2]
  exact ⟨hp.length_eq, hp.countP_eq _⟩

/-- a stable matching has at most one pair per position of `a` -/
theorem Stable.length_le {a b : Str} {r : Nat} {M : List (Nat × Nat)} (h : Stable a b r M)
    (hn : M.Nodup) : M.length ≤ a.length := by
  have h1 : (M.map Prod.fst).Nodup :=
    List.pairwise_map.mpr (hn.imp_of_mem fun {x y} hx hy hne e =>
      hne (Prod.ext e (h.injL x.1 x.2 y.2 hx (by rw [e]; exact hy))))
  have h2 : M.map Prod.fst ⊆ List.range a.length := by
    intro i hi
    obtain ⟨p, hp, rfl⟩ := List.mem_map.mp hi
    obtain ⟨⟨c, hc, _⟩, _⟩ := h.valid p.1 p.2 hp
    exact List.mem_range.mpr (lt_of_getElem? hc)
  have := List.Nodup.length_le_of_subset h1 h2
  simpa using this

theorem nodup_swap {M : List (Nat × Nat)} (hn : M.Nodup) : (M.map Prod.swap).Nodup :=
  nodup_map (fun _ _ => Prod.swap_inj.mp) hn

theorem jaroFinal_le (a b : Str) :
    (jaroFinal a b).nMatch ≤ a.length ∧ (jaroFinal a b).nMatch ≤ b.length ∧
    (jaroFinal a b).nHalf ≤ (jaroFinal a b).nMatch := by
  obtain ⟨hs, hn⟩ := jaroPairs_stable a b
  rw [(jaroFinal_pairs a b).1, (jaroFinal_pairs a b).2]
  refine ⟨hs.length_le hn, ?_, List.countP_le_length⟩
  have := hs.transpose.length_le (nodup_swap hn)
  simpa using this

theorem jaroFinal_symm (a b : Str) :
    (jaroFinal b a).nMatch = (jaroFinal a b).nMatch ∧
    (jaroFinal b a).nHalf = (jaroFinal a b).nHalf := by
  obtain ⟨hs, hn⟩ := jaroPairs_stable a b
  have ht := hs.transpose
  rw [matchRange_comm] at ht
  have := jaroFinal_of_stable ht (nodup_swap hn)
  rw [this.1, this.2, (jaroFinal_pairs a b).1, (jaroFinal_pairs a b).2, List.length_map, offDiag_swap]
  exact ⟨rfl, rfl⟩

end Gedcom.Sim

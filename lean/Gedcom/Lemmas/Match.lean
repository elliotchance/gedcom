/- `winners` on any list of results.  It pairs nobody twice when the certain results do not
   (`greedy_apart`), so every individual is in exactly one result; the loop reads only the sorted
   results at or above the threshold, and a stable sort without ties forgets the order of arrival
   (`winners_perm`). -/
import Gedcom.Model.Match
import Gedcom.Lemmas.InsSort
namespace Gedcom.Match

theorem insertDesc_eq (c : Job) : ∀ (m : List Job),
    insertDesc c m = insBy (fun c d => decide (c.score < d.score)) c m
  | [] => rfl
  | d :: ds => by simp only [insertDesc, insBy, decide_eq_true_eq, insertDesc_eq c ds]

theorem sortDesc_eq : ∀ (l : List Job), sortDesc l = insSort (fun c d => decide (c.score < d.score)) l
  | [] => rfl
  | c :: cs => by rw [sortDesc, sortDesc_eq cs, insertDesc_eq]; rfl

theorem sortDesc_perm (l : List Job) : (sortDesc l).Perm l := sortDesc_eq l ▸ insSort_perm _ l

theorem mem_sortDesc {j : Job} {l : List Job} : j ∈ sortDesc l ↔ j ∈ l := (sortDesc_perm l).mem_iff

def Desc (a b : Job) : Prop := b.score ≤ a.score

theorem sortDesc_sorted (l : List Job) : (sortDesc l).Pairwise Desc :=
  sortDesc_eq l ▸ insSort_score_desc Job.score l

theorem filter_insertDesc (p : Job → Bool) (c : Job) (l : List Job) (hs : l.Pairwise Desc) :
    (insertDesc c l).filter p = if p c then insertDesc c (l.filter p) else l.filter p := by
  induction l with
  | nil => by_cases hc : p c <;> simp [insertDesc, List.filter, hc]
  | cons d ds ih =>
    rw [List.pairwise_cons] at hs
    simp only [insertDesc]
    by_cases hlt : c.score < d.score
    · simp only [hlt, if_true]
      by_cases hd : p d
      · simp only [List.filter, hd, ih hs.2]
        by_cases hc : p c
        · simp [hc, insertDesc, hlt]
        · simp [hc]
      · simp only [List.filter, hd, ih hs.2]
    · simp only [hlt, if_false]
      by_cases hc : p c
      · by_cases hd : p d
        · simp [List.filter, hc, hd, insertDesc, hlt]
        · simp only [List.filter, hc, hd, if_true]
          -- c goes in front of the filtered tail: its head is not above d, hence not above c
          cases hf : List.filter p ds with
          | nil => simp [insertDesc]
          | cons x xs =>
            have hx : x ∈ ds := (List.mem_filter.mp (by rw [hf]; exact List.mem_cons_self)).1
            have h2 : ¬ c.score < x.score :=
              Rat.not_lt.mpr (Rat.le_trans (hs.1 x hx) (Rat.not_lt.mp hlt))
            simp [insertDesc, h2]
      · simp [List.filter, hc]

/-- the sort is stable: it commutes with filtering -/
theorem filter_sortDesc (p : Job → Bool) (l : List Job) :
    (sortDesc l).filter p = sortDesc (l.filter p) := by
  induction l with
  | nil => rfl
  | cons c cs ih =>
    simp only [sortDesc]
    rw [filter_insertDesc p c _ (sortDesc_sorted cs), ih]
    by_cases hc : p c <;> simp [List.filter, hc, sortDesc]

theorem sortDesc_congr {l₁ l₂ : List Job} (hp : l₁.Perm l₂) (hn : (l₂.map (·.score)).Nodup) :
    sortDesc l₁ = sortDesc l₂ := by
  refine List.Perm.eq_of_pairwise (le := Desc) (fun a b ha hb hab hba => ?_) (sortDesc_sorted l₁)
    (sortDesc_sorted l₂) ((sortDesc_perm l₁).trans (hp.trans (sortDesc_perm l₂).symm))
  -- stated first: given as an argument it is unified before `a` and `b` are known, which is slow
  have e : a.score = b.score := Rat.le_antisymm hba hab
  exact inj_of_nodup_map (·.score) hn (hp.mem_iff.mp (mem_sortDesc.mp ha)) (mem_sortDesc.mp hb) e

theorem mem_foundOf {x : Nat} {js : List Job} :
    x ∈ foundOf js ↔ x ∈ js.map (·.l) ∨ x ∈ js.map (·.r) := by
  induction js with
  | nil => simp [foundOf]
  | cons j js ih =>
    simp only [foundOf, List.mem_cons, List.map_cons, ih]
    rw [← or_assoc, or_or_or_comm]

theorem mem_foundOf_perm {ps ps' : List Job} (hp : ps.Perm ps') (x : Nat) :
    x ∈ foundOf ps ↔ x ∈ foundOf ps' := by
  rw [mem_foundOf, mem_foundOf, (hp.map _).mem_iff, (hp.map _).mem_iff]

theorem greedy_mem {minW : Rat} {js : List Job} {f : List Nat} {j : Job}
    (h : j ∈ greedy minW js f) : j ∈ js ∧ minW ≤ j.score := by
  induction js generalizing f with
  | nil => cases h
  | cons d ds ih =>
    rw [greedy] at h
    by_cases hs : d.score < minW
    · rw [if_pos hs] at h; cases h
    rw [if_neg hs] at h
    by_cases hf : (f.contains d.l || f.contains d.r) = true
    · rw [if_pos hf] at h
      exact ⟨List.mem_cons_of_mem _ (ih h).1, (ih h).2⟩
    · rw [if_neg hf] at h
      rcases List.mem_cons.mp h with rfl | h'
      · exact ⟨List.mem_cons_self, Rat.not_lt.mp hs⟩
      · exact ⟨List.mem_cons_of_mem _ (ih h').1, (ih h').2⟩

/-- no individual is on the same side of two of the jobs -/
def Apart (ps : List Job) : Prop := (ps.map (·.l)).Nodup ∧ (ps.map (·.r)).Nodup

theorem apart_iff_pairwise {ps : List Job} :
    Apart ps ↔ ps.Pairwise fun x y => x.l ≠ y.l ∧ x.r ≠ y.r := by
  simp only [Apart, List.Nodup, List.pairwise_map, List.pairwise_and_iff]

theorem Apart.perm {ps qs : List Job} (h : Apart ps) (hp : qs.Perm ps) : Apart qs :=
  ⟨((hp.map _).nodup_iff).mpr h.1, ((hp.map _).nodup_iff).mpr h.2⟩

/-- the loop's `found` is `foundOf` of the pairs accepted so far, those before it started included -/
theorem greedy_apart (minW : Rat) (js : List Job) {cs : List Job} (h : Apart cs) :
    Apart (cs ++ greedy minW js (foundOf cs)) := by
  induction js generalizing cs with
  | nil => rwa [greedy, List.append_nil]
  | cons d ds ih =>
    rw [greedy]
    by_cases hs : d.score < minW
    · rwa [if_pos hs, List.append_nil]
    rw [if_neg hs]
    by_cases hf : ((foundOf cs).contains d.l || (foundOf cs).contains d.r) = true
    · rw [if_pos hf]; exact ih h
    · rw [if_neg hf]
      simp only [Bool.or_eq_true, List.contains_iff_mem, mem_foundOf, not_or] at hf
      have hd : Apart (d :: cs) :=
        ⟨List.nodup_cons.mpr ⟨hf.1.1, h.1⟩, List.nodup_cons.mpr ⟨hf.2.2, h.2⟩⟩
      exact (ih hd).perm List.perm_middle

theorem greedy_congr (minW : Rat) (js : List Job) {f f' : List Nat} (h : ∀ x, x ∈ f ↔ x ∈ f') :
    greedy minW js f = greedy minW js f' := by
  induction js generalizing f f' with
  | nil => rfl
  | cons d ds ih =>
    simp only [greedy]
    rw [contains_congr h, contains_congr h, ih h, ih (f := d.l :: d.r :: f) (f' := d.l :: d.r :: f')
      (fun x => by simp only [List.mem_cons, h])]

def above (minW : Rat) (j : Job) : Bool := !decide (j.score < minW)

theorem greedy_above (minW : Rat) {l : List Job} (h : l.Pairwise Desc) (f : List Nat) :
    greedy minW l f = greedy minW (l.filter (above minW)) f := by
  induction l generalizing f with
  | nil => rfl
  | cons d ds ih =>
    rw [List.pairwise_cons] at h
    by_cases hd : d.score < minW
    · -- the loop stops at `d`, and everything after `d` is below the threshold as well
      have hnil : (d :: ds).filter (above minW) = [] := by
        rw [List.filter_eq_nil_iff]
        intro x hx hxa
        have hxd : x.score ≤ d.score := by
          rcases List.mem_cons.mp hx with rfl | hx
          · exact Rat.le_refl
          · exact h.1 x hx
        have : minW ≤ x.score := by simpa [above, Rat.not_lt] using hxa
        exact Rat.not_lt.mpr (Rat.le_trans this hxd) hd
      simp only [hnil, greedy, if_pos hd]
    · have ha : above minW d = true := by simp [above, hd]
      simp only [List.filter_cons_of_pos ha, greedy, if_neg hd, ih h.2]

theorem greedy_sortDesc (minW : Rat) (l : List Job) (f : List Nat) :
    greedy minW (sortDesc l) f = greedy minW (sortDesc (l.filter (above minW))) f := by
  rw [greedy_above minW (sortDesc_sorted l), filter_sortDesc]

/-- what `calculateWinners` accepts: the certain results as they arrive, then the greedy pass over
    the others, sorted -/
def pairsOf (minW : Rat) (arr : List Job) : List Job :=
  arr.filter (·.certain) ++
    greedy minW (sortDesc (arr.filter (!·.certain))) (foundOf (arr.filter (·.certain)))

def assemble (L R : List Person) (ps : List Job) : List Res :=
  ps.map pairOf ++
    ((L.filter fun p => !(foundOf ps).contains p.id).map fun p => (some p.id, none)) ++
    ((R.filter fun p => !(foundOf ps).contains p.id).map fun p => (none, some p.id))

theorem winners_eq (L R : List Person) (minW : Rat) (arr : List Job) :
    winners L R minW arr = assemble L R (pairsOf minW arr) := by
  simp only [winners, assemble, pairsOf, List.map_append]

theorem pairsOf_mem {minW : Rat} {arr : List Job} {j : Job} (h : j ∈ pairsOf minW arr) :
    j ∈ arr ∧ (j.certain = true ∨ minW ≤ j.score) := by
  rcases List.mem_append.mp h with h | h
  · have := List.mem_filter.mp h
    exact ⟨this.1, Or.inl this.2⟩
  · have := greedy_mem h
    exact ⟨(List.mem_filter.mp (mem_sortDesc.mp this.1)).1, Or.inr this.2⟩

theorem pairsOf_apart {L R : List Person} {minW : Rat} {arr : List Job} (hok : JobsOK L R arr) :
    Apart (pairsOf minW arr) :=
  greedy_apart minW _ hok.2

/-- the number of results whose left (`rightCount`: right) individual is `x` -/
def leftCount (x : Nat) (rs : List Res) : Nat := rs.countP (fun r => r.1 == some x)
def rightCount (x : Nat) (rs : List Res) : Nat := rs.countP (fun r => r.2 == some x)

theorem leftCount_assemble (L R : List Person) (ps : List Job) (x : Nat) :
    leftCount x (assemble L R ps) = (ps.map (·.l)).count x +
      ((L.filter fun p => !(foundOf ps).contains p.id).map (·.id)).count x := by
  simp only [leftCount, assemble, List.countP_append, List.countP_map, ← count_ids]
  have hR : ∀ l : List Person,
      l.countP ((fun r : Res => r.1 == some x) ∘ fun p => (none, some p.id)) = 0 :=
    fun l => List.countP_eq_zero.mpr fun _ _ => by simp
  rw [hR, Nat.add_zero]
  rfl

theorem rightCount_assemble (L R : List Person) (ps : List Job) (x : Nat) :
    rightCount x (assemble L R ps) = (ps.map (·.r)).count x +
      ((R.filter fun p => !(foundOf ps).contains p.id).map (·.id)).count x := by
  simp only [rightCount, assemble, List.countP_append, List.countP_map, ← count_ids]
  have hL : ∀ l : List Person,
      l.countP ((fun r : Res => r.2 == some x) ∘ fun p => (some p.id, none)) = 0 :=
    fun l => List.countP_eq_zero.mpr fun _ _ => by simp
  rw [hL, Nat.add_zero]
  rfl

namespace IdsOK
variable {L R : List Person} (h : IdsOK L R)
include h

theorem left : (L.map (·.id)).Nodup := (List.nodup_append.mp h).1

theorem right : (R.map (·.id)).Nodup := (List.nodup_append.mp h).2.1

theorem disjoint {x : Nat} (hl : x ∈ L.map (·.id)) (hr : x ∈ R.map (·.id)) : False :=
  (List.nodup_append.mp h).2.2 x hl x hr rfl

end IdsOK

theorem taken_or_left_over {P : List Person} {taken F : List Nat} (hP : (P.map (·.id)).Nodup)
    (ht : taken.Nodup) {x : Nat} (hx : x ∈ P.map (·.id)) (hF : x ∈ F ↔ x ∈ taken) :
    taken.count x + ((P.filter fun p => !F.contains p.id).map (·.id)).count x = 1 := by
  rw [ht.count, (List.Nodup.sublist (List.filter_sublist.map _) hP).count]
  have hmem : x ∈ (P.filter fun p => !F.contains p.id).map (·.id) ↔ x ∉ taken := by
    rw [← hF]
    constructor
    · rintro h
      obtain ⟨p, hp, rfl⟩ := List.mem_map.mp h
      simpa using (List.mem_filter.mp hp).2
    · intro h
      obtain ⟨p, hp, rfl⟩ := List.mem_map.mp hx
      exact List.mem_map_of_mem (List.mem_filter.mpr ⟨hp, by simpa using h⟩)
  by_cases h : x ∈ taken
  · rw [if_pos h, if_neg (fun hm => hmem.mp hm h)]
  · rw [if_neg h, if_pos (hmem.mpr h)]

theorem winners_left_once {L R : List Person} {minW : Rat} {arr : List Job} (hids : IdsOK L R)
    (hok : JobsOK L R arr) {x : Nat} (hx : x ∈ L.map (·.id)) :
    leftCount x (winners L R minW arr) = 1 := by
  rw [winners_eq, leftCount_assemble]
  refine taken_or_left_over hids.left (pairsOf_apart hok).1 hx ?_
  rw [mem_foundOf]
  refine or_iff_left fun h => ?_
  obtain ⟨j, hj, rfl⟩ := List.mem_map.mp h
  exact hids.disjoint hx (hok.1 j (pairsOf_mem hj).1).2

theorem winners_right_once {L R : List Person} {minW : Rat} {arr : List Job} (hids : IdsOK L R)
    (hok : JobsOK L R arr) {x : Nat} (hx : x ∈ R.map (·.id)) :
    rightCount x (winners L R minW arr) = 1 := by
  rw [winners_eq, rightCount_assemble]
  refine taken_or_left_over hids.right (pairsOf_apart hok).2 hx ?_
  rw [mem_foundOf]
  refine or_iff_right fun h => ?_
  obtain ⟨j, hj, rfl⟩ := List.mem_map.mp h
  exact hids.disjoint (hok.1 j (pairsOf_mem hj).1).1 hx

theorem jobsOK_perm {L R : List Person} {js arr : List Job} (hp : arr.Perm js) (h : JobsOK L R js) :
    JobsOK L R arr :=
  ⟨fun j hj => h.1 j (hp.mem_iff.mp hj), Apart.perm h.2 (hp.filter _)⟩

theorem assemble_perm (L R : List Person) {ps ps' : List Job} (hp : ps.Perm ps') :
    (assemble L R ps).Perm (assemble L R ps') := by
  simp only [assemble, contains_congr (mem_foundOf_perm hp)]
  exact ((hp.map _).append_right _).append_right _

theorem filter_eligible (minW : Rat) (l : List Job) :
    (l.filter (!·.certain)).filter (above minW) = l.filter (eligible minW) := by
  rw [List.filter_filter]
  exact List.filter_congr fun j _ => Bool.and_comm _ _

/-- without score ties the result does not depend on the order of arrival (up to the order in
    which the certain matches are listed) -/
theorem winners_perm (L R : List Person) (minW : Rat) {js arr : List Job} (hp : arr.Perm js)
    (hn : NoScoreTies minW js) : (winners L R minW arr).Perm (winners L R minW js) := by
  have hc : (arr.filter (·.certain)).Perm (js.filter (·.certain)) := hp.filter _
  rw [winners_eq, winners_eq]
  apply assemble_perm
  unfold pairsOf
  -- both runs of the loop meet the same candidates in the same order
  rw [greedy_sortDesc, greedy_sortDesc minW (js.filter _), filter_eligible, filter_eligible,
    sortDesc_congr (hp.filter (eligible minW)) hn, greedy_congr minW _ (mem_foundOf_perm hc)]
  exact hc.append_right _

end Gedcom.Match

/- Theory of `trimL` / `trimSpace`: what is stripped, fixed points, idempotence. -/
import Gedcom.Model.Decoder
namespace Gedcom.Dec

theorem trimL_nil (tbl : List Str) : trimL tbl [] = [] := by rw [trimL]

theorem trimL_cons_zero (tbl : List Str) (b : UInt8) (rest : Str) (h : prefLen tbl (b :: rest) = 0) :
    trimL tbl (b :: rest) = b :: rest := by
  rw [trimL]; simp [h]

theorem trimL_cons_succ (tbl : List Str) (b : UInt8) (rest : Str) (k : Nat)
    (h : prefLen tbl (b :: rest) = k + 1) :
    trimL tbl (b :: rest) = trimL tbl (rest.drop k) := by
  rw [trimL]; simp [h]

theorem prefLen_take (tbl : List Str) (s : Str) (k : Nat) (h : prefLen tbl s = k + 1) :
    s.take (k + 1) ∈ tbl := by
  unfold prefLen at h
  cases hf : tbl.find? (fun q => q.isPrefixOf s) with
  | none => rw [hf] at h; cases h
  | some q =>
    rw [hf] at h
    have hq := List.find?_some hf
    have hp := List.prefix_iff_eq_take.mp (List.isPrefixOf_iff_prefix.mp hq)
    rw [show q.length = k + 1 from h] at hp
    exact hp ▸ List.mem_of_find?_eq_some hf

theorem trimL_stripped (tbl : List Str) (P : UInt8 → Prop) (hP : ∀ q ∈ tbl, ∀ x ∈ q, P x) (s : Str) :
    ∃ p, s = p ++ trimL tbl s ∧ ∀ x ∈ p, P x := by
  induction s using trimL.induct tbl with
  | case1 => exact ⟨[], by simp [trimL_nil], by simp⟩
  | case2 b rest h => exact ⟨[], by rw [trimL_cons_zero tbl b rest h]; simp, by simp⟩
  | case3 b rest k h ih =>
    obtain ⟨p, hp, hpP⟩ := ih
    refine ⟨(b :: rest).take (k + 1) ++ p, ?_, ?_⟩
    · rw [trimL_cons_succ tbl b rest k h, List.append_assoc, ← hp]
      exact (List.take_append_drop (k + 1) (b :: rest)).symm
    · intro x hx
      rcases List.mem_append.mp hx with hx | hx
      · exact hP _ (prefLen_take tbl (b :: rest) k h) x hx
      · exact hpP x hx

theorem trimL_suffix (tbl : List Str) (s : Str) : ∃ p, s = p ++ trimL tbl s :=
  let ⟨p, hp, _⟩ := trimL_stripped tbl (fun _ => True) (fun _ _ _ _ => trivial) s
  ⟨p, hp⟩

theorem trimL_length_le (tbl : List Str) (s : Str) : (trimL tbl s).length ≤ s.length := by
  obtain ⟨p, hp⟩ := trimL_suffix tbl s
  have := congrArg List.length hp
  simp at this; omega

theorem trimL_eq_of_length (tbl : List Str) (s : Str) (h : (trimL tbl s).length = s.length) :
    trimL tbl s = s := by
  obtain ⟨p, hp⟩ := trimL_suffix tbl s
  have hl := congrArg List.length hp
  simp at hl
  have : p = [] := List.eq_nil_of_length_eq_zero (by omega)
  rw [this] at hp; simpa using hp.symm

theorem prefLen_eq_zero_iff (tbl : List Str) (s : Str) (hne : ∀ q ∈ tbl, q ≠ []) :
    prefLen tbl s = 0 ↔ ∀ q ∈ tbl, ¬ q <+: s := by
  unfold prefLen
  constructor
  · intro h q hq hpre
    cases hf : tbl.find? (fun q => q.isPrefixOf s) with
    | none =>
      have := List.find?_eq_none.mp hf q hq
      simp [List.isPrefixOf_iff_prefix, hpre] at this
    | some q' =>
      rw [hf] at h
      exact hne q' (List.mem_of_find?_eq_some hf) (List.eq_nil_of_length_eq_zero h)
  · intro h
    cases hf : tbl.find? (fun q => q.isPrefixOf s) with
    | none => rfl
    | some q' =>
      exfalso
      have hq := List.find?_some hf
      simp only [List.isPrefixOf_iff_prefix] at hq
      exact h q' (List.mem_of_find?_eq_some hf) hq

theorem trimL_front (tbl : List Str) (hne : ∀ q ∈ tbl, q ≠ []) (s : Str) : ∀ q ∈ tbl, ¬ q <+: trimL tbl s := by
  induction s using trimL.induct tbl with
  | case1 => rw [trimL_nil]; exact fun q hq hp => hne q hq (List.prefix_nil.mp hp)
  | case2 b rest h => rw [trimL_cons_zero tbl b rest h]; exact (prefLen_eq_zero_iff _ _ hne).mp h
  | case3 b rest k h ih => rw [trimL_cons_succ tbl b rest k h]; exact ih

theorem trimL_fixed_iff (tbl : List Str) (hne : ∀ q ∈ tbl, q ≠ []) (s : Str) :
    trimL tbl s = s ↔ ∀ q ∈ tbl, ¬ q <+: s := by
  refine ⟨fun h => h ▸ trimL_front tbl hne s, fun h => ?_⟩
  cases s with
  | nil => exact trimL_nil tbl
  | cons b rest => exact trimL_cons_zero tbl b rest ((prefLen_eq_zero_iff _ _ hne).mpr h)

theorem trimL_idem (tbl : List Str) (hne : ∀ q ∈ tbl, q ≠ []) (s : Str) :
    trimL tbl (trimL tbl s) = trimL tbl s :=
  (trimL_fixed_iff tbl hne _).mpr (trimL_front tbl hne s)

theorem spaceSeqs_ne : ∀ q ∈ spaceSeqs, q ≠ [] := by decide +kernel
theorem spaceSeqsRev_ne : ∀ q ∈ spaceSeqsRev, q ≠ [] := by
  intro q hq
  obtain ⟨q', hq', rfl⟩ := List.mem_map.mp hq
  exact fun h => spaceSeqs_ne q' hq' (List.reverse_eq_nil_iff.mp h)

theorem trimL_subset (tbl : List Str) (s : Str) : ∀ x ∈ trimL tbl s, x ∈ s := by
  obtain ⟨p, hp⟩ := trimL_suffix tbl s
  intro x hx
  rw [hp]; simp [hx]

theorem trimSpace_subset (s : Str) : ∀ x ∈ trimSpace s, x ∈ s := by
  intro x hx
  simp only [trimSpace, List.mem_reverse] at hx
  have := trimL_subset spaceSeqsRev _ x hx
  simp only [List.mem_reverse] at this
  exact trimL_subset spaceSeqs s x this

theorem trimSpace_nil : trimSpace [] = [] := by
  simp [trimSpace, trimLeft, trimLeftRev, trimL]

theorem trimSpace_fixed_iff (v : Str) :
    trimSpace v = v ↔ (trimLeft v = v ∧ trimLeftRev v.reverse = v.reverse) := by
  constructor
  · intro h
    have h1 : (trimLeftRev (trimLeft v).reverse).length ≤ (trimLeft v).length := by
      have := trimL_length_le spaceSeqsRev (trimLeft v).reverse; simpa [trimLeftRev] using this
    have h2 : (trimLeft v).length ≤ v.length := trimL_length_le spaceSeqs v
    have h3 : (trimSpace v).length = v.length := by rw [h]
    simp only [trimSpace, List.length_reverse] at h3
    have hl : trimLeft v = v := trimL_eq_of_length spaceSeqs v (by show (trimLeft v).length = v.length; omega)
    refine ⟨hl, ?_⟩
    have := trimL_eq_of_length spaceSeqsRev v.reverse (by
      rw [hl] at h3; simpa [trimLeftRev] using h3)
    exact this
  · rintro ⟨h1, h2⟩
    simp [trimSpace, h1, h2]

theorem trimSpace_idem (s : Str) : trimSpace (trimSpace s) = trimSpace s := by
  rw [trimSpace_fixed_iff]
  constructor
  · -- `trimSpace s` is a prefix of `trimLeft s`, which has no white space at its front
    obtain ⟨p, hp⟩ := trimL_suffix spaceSeqsRev (trimLeft s).reverse
    have hpre : trimSpace s <+: trimLeft s := by
      refine ⟨p.reverse, ?_⟩
      have := congrArg List.reverse hp
      simp only [List.reverse_reverse, List.reverse_append] at this
      rw [this]; simp [trimSpace, trimLeftRev]
    exact (trimL_fixed_iff _ spaceSeqs_ne _).mpr fun q hq hqr =>
      trimL_front _ spaceSeqs_ne s q hq (hqr.trans hpre)
  · rw [trimSpace, List.reverse_reverse]
    exact trimL_idem spaceSeqsRev spaceSeqsRev_ne _

theorem trimmed_head_ne_LF (v : Str) (h : trimSpace v = v) : ∀ c r, v = c :: r → c ≠ LF := by
  intro c r hv e
  refine (trimL_fixed_iff _ spaceSeqs_ne v).mp ((trimSpace_fixed_iff v).mp h).1 [LF] (by decide) ?_
  rw [hv, e]
  exact ⟨r, rfl⟩

theorem spaceSeqs_no_LF_end : ∀ q ∈ spaceSeqs, 2 ≤ q.length → q.getLast? ≠ some LF := by decide +kernel

/-- what happens to the last node of a file when blank lines continue values -/
theorem trimSpace_append_LF (v : Str) (h : trimSpace v = v) : trimSpace (v ++ [LF]) = v := by
  obtain ⟨h1, h2⟩ := (trimSpace_fixed_iff v).mp h
  by_cases hv : v = []
  · subst hv
    decide +kernel
  · -- left: nothing to strip
    have hl : trimLeft (v ++ [LF]) = v ++ [LF] := by
      refine (trimL_fixed_iff _ spaceSeqs_ne _).mpr fun q hq hpre => ?_
      rcases List.prefix_concat_iff.mp hpre with heq | hpre'
      · -- q = v ++ [LF] with v non-empty: impossible for a white-space encoding
        have hlen : 2 ≤ q.length := by
          rw [heq]; simp
          have : 0 < v.length := List.length_pos_iff.mpr hv
          omega
        have hlast : q.getLast? = some LF := by rw [heq]; simp
        exact spaceSeqs_no_LF_end q hq hlen hlast
      · exact (trimL_fixed_iff _ spaceSeqs_ne v).mp h1 q hq hpre'
    -- right: exactly the line feed goes
    have hr : trimLeftRev (LF :: v.reverse) = v.reverse := by
      -- `[LF]` is the first entry of the table that fits, whatever follows
      have hp : prefLen spaceSeqsRev (LF :: v.reverse) = 0 + 1 := rfl
      unfold trimLeftRev
      rw [trimL_cons_succ spaceSeqsRev LF v.reverse 0 hp]
      simpa [trimLeftRev] using h2
    simp [trimSpace, hl, hr]

end Gedcom.Dec

/-
  Helper lemmas for C14: the `Res` monad, the traversal combinators and the totality of each
  modelled function, for every `Flags.Safe` vector where the function reads a guard.  Props/C14.lean
  states a primed lemma (`spouses_total'`) again without the prime, at `generatedFlags`.
-/
import Gedcom.Model.Resolve
import Gedcom.Lemmas.Basics
namespace Gedcom.Resolve

def Total {α} (r : Res α) : Prop := ∃ a, r = .ok a

theorem total_iff_isOk {α} (r : Res α) : Total r ↔ r.isOk = true := by
  cases r <;> simp [Total, Res.isOk]

@[simp] theorem ok_bind {α β} (a : α) (f : α → Res β) : (Res.ok a >>= f) = f a := rfl
@[simp] theorem pure_eq_ok {α} (a : α) : (pure a : Res α) = .ok a := rfl
@[simp] theorem panic_bind {α β} (s : Site) (f : α → Res β) : (Res.panic s >>= f) = .panic s := rfl
@[simp] theorem total_ok {α} (a : α) : Total (Res.ok a) := ⟨a, rfl⟩
theorem not_total_panic {α} (s : Site) : ¬ Total (Res.panic s : Res α) := by
  intro ⟨a, h⟩; cases h

theorem total_bind {α β} {x : Res α} {f : α → Res β} (hx : Total x) (hf : ∀ a, Total (f a)) :
    Total (x >>= f) := by
  obtain ⟨a, rfl⟩ := hx
  exact hf a

theorem bind_eq_ok {α β} {x : Res α} {f : α → Res β} {b : β} (h : (x >>= f) = .ok b) :
    ∃ a, x = .ok a ∧ f a = .ok b := by
  cases x with
  | ok a => exact ⟨a, rfl, h⟩
  | panic s => exact nomatch (show Res.panic s = .ok b from h)

theorem total_map {α β} {x : Res α} {f : α → β} (hx : Total x) : Total (f <$> x) := by
  obtain ⟨a, rfl⟩ := hx
  exact ⟨f a, rfl⟩

theorem mapRes_total {α β} (f : α → Res β) (l : List α) (h : ∀ x ∈ l, Total (f x)) :
    Total (mapRes f l) := by
  induction l with
  | nil => exact total_ok _
  | cons x xs ih =>
    exact total_bind (h x List.mem_cons_self) fun _ =>
      total_bind (ih fun z hz => h z (List.mem_cons_of_mem _ hz)) fun _ => total_ok _

theorem mapRes_length {α β} (f : α → Res β) (l : List α) (ys : List β) (h : mapRes f l = .ok ys) :
    ys.length = l.length := by
  induction l generalizing ys with
  | nil => obtain rfl := Res.ok.inj h; rfl
  | cons x xs ih =>
    obtain ⟨y, -, h⟩ := bind_eq_ok h
    obtain ⟨zs, hzs, h⟩ := bind_eq_ok h
    obtain rfl := Res.ok.inj h
    exact congrArg (· + 1) (ih zs hzs)

theorem concatMapRes_total {α β} (f : α → Res (List β)) (l : List α) (h : ∀ x ∈ l, Total (f x)) :
    Total (concatMapRes f l) := by
  induction l with
  | nil => exact total_ok _
  | cons x xs ih =>
    exact total_bind (h x List.mem_cons_self) fun _ =>
      total_bind (ih fun z hz => h z (List.mem_cons_of_mem _ hz)) fun _ => total_ok _

theorem findRes_total {α} (p : α → Res Bool) (l : List α) (h : ∀ x ∈ l, Total (p x)) :
    Total (findRes p l) := by
  induction l with
  | nil => exact total_ok _
  | cons x xs ih =>
    refine total_bind (h x List.mem_cons_self) fun b => ?_
    cases b
    · exact ih fun z hz => h z (List.mem_cons_of_mem _ hz)
    · exact total_ok _

theorem whenList_total {α} (b : Bool) (x : Res α) (h : Total x) : Total (whenList b x) := by
  cases b
  · exact total_ok _
  · exact total_bind h fun _ => total_ok _

theorem andThen_total (a b : Res Bool) (ha : Total a) (hb : Total b) : Total (andThen a b) := by
  refine total_bind ha fun v => ?_
  cases v
  · exact total_ok _
  · exact hb

theorem byteAt_eq (site : Site) (v : Str) (i : Nat) (h : i < v.length) : byteAt site v i = .ok v[i] := by
  simp [byteAt, h]

theorem valueToPointer_eq (fl : Flags) (hv : fl.vtpEmptyGuard = true) (v : Str) :
    valueToPointer fl v = .ok (if 2 < v.length ∧ v.head? = some 64 ∧ v.getLast? = some 64
      then (v.drop 1).take (v.length - 2) else []) := by
  cases v with
  | nil => simp [valueToPointer, hv]
  | cons a l =>
    simp [valueToPointer, byteAt, hv, List.getLast?_eq_some_getLast, List.getLast_eq_getElem, and_assoc]
    exact (apply_ite Res.ok _ _ _).symm

theorem valueToPointer_total (fl : Flags) (h : fl.vtpEmptyGuard = true) (v : Str) :
    Total (valueToPointer fl v) := ⟨_, valueToPointer_eq fl h v⟩

theorem valueToPointer_spec' (fl : Flags) (hv : fl.vtpEmptyGuard = true) (v p : Str) (h : valueToPointer fl v = .ok p) (hp : p ≠ []) :
    v = [64] ++ p ++ [64] := by
  rw [valueToPointer_eq fl hv] at h
  obtain rfl := Res.ok.inj h
  by_cases hc : 2 < v.length ∧ v.head? = some 64 ∧ v.getLast? = some 64
  · rw [if_pos hc]
    exact eq_first_inside_last (Nat.le_of_lt hc.1) hc.2.1 hc.2.2
  · exact absurd (if_neg hc) hp

theorem assertIndi_total (site : Site) (rf : RefFlags) (h1 : rf.nilSafe = true) (h2 : rf.kindSafe = true)
    (n : Option Ent) : Total (assertIndi site rf n) := by
  unfold assertIndi
  cases n with
  | none => simp [h1]
  | some e => by_cases hi : isIndi e.node <;> simp [hi, h2]

theorem assertIndi_eq_some {site : Site} {rf : RefFlags} {n : Option Ent} {e : Ent}
    (h : assertIndi site rf n = .ok (some e)) : n = some e ∧ isIndi e.node = true := by
  cases n with
  | none =>
    simp only [assertIndi] at h
    split at h <;> cases h
  | some x =>
    simp only [assertIndi] at h
    by_cases hi : isIndi x.node = true
    · rw [if_pos hi] at h
      obtain rfl := Option.some.inj (Res.ok.inj h)
      exact ⟨rfl, hi⟩
    · rw [if_neg hi] at h
      split at h <;> cases h

theorem nodeByPointer_eq_some {doc : Doc} {p : Str} {e : Ent} (h : nodeByPointer doc p = some e) :
    p ≠ [] ∧ e ∈ roots doc ∧ e.node.ptr = p := by
  unfold nodeByPointer at h
  split at h
  · cases h
  · rename_i hp
    refine ⟨fun h0 => hp (h0 ▸ rfl), List.mem_reverse.mp (List.mem_of_find?_eq_some h), ?_⟩
    exact beq_iff_eq.mp (List.find?_some (p := fun x : Ent => x.node.ptr == p) h)

theorem roleIndividual_total (fl : Flags) (site : Site) (rf : RefFlags) (hv : fl.vtpEmptyGuard = true)
    (h1 : rf.nilSafe = true) (h2 : rf.kindSafe = true) (doc : Doc) (role : Node) :
    Total (roleIndividual fl site rf doc role) :=
  total_bind (valueToPointer_total fl hv _) fun _ => assertIndi_total site rf h1 h2 _

theorem roleIs_total {fl : Flags} {site : Site} {rf : RefFlags} {doc : Doc}
    (h : ∀ r, Total (roleIndividual fl site rf doc r)) (role : Option Node) (i : Option Ent) :
    Total (roleIs fl site rf doc role i) := by
  unfold roleIs
  split
  · exact total_bind (h _) fun _ => total_ok _
  · exact total_ok _

theorem trimSpace_fixed {s : Str} (hf : dropSpaceFront s = none) (hb : dropSpaceBack s.reverse = none) :
    trimSpace s = s := by
  have h1 : ∀ n, trimFront n s = s := fun n => by cases n <;> simp [trimFront, hf]
  have h2 : ∀ n, trimBackRev n s.reverse = s.reverse := fun n => by cases n <;> simp [trimBackRev, hb]
  simp only [trimSpace, h1, h2, List.reverse_reverse]

/-! `CleanSpace` keeps the two slashes of the surname group -/

/-- `/` begins no white-space character: the match is decided by the first byte -/
theorem dropSpaceFront_slash (r : Str) : dropSpaceFront (47 :: r) = none := rfl

/-- … and ends none; here the match also looks at the bytes behind it -/
theorem dropSpaceBack_slash (r : Str) : dropSpaceBack (47 :: r) = none := by
  unfold dropSpaceBack
  split
  -- five patterns begin with a byte that is not 47
  iterate 5
    rename_i h
    exact absurd (List.cons.inj h).1 (by decide)
  -- two begin with a variable, now 47: not one of the third bytes of U+2000…, not an ASCII space
  iterate 2
    rename_i h
    obtain ⟨rfl, -⟩ := List.cons.inj h
    rfl
  rfl

theorem collapseRuns_slash (xs : Str) : collapseRuns (47 :: xs) = 47 :: collapseRuns xs := by
  simp [collapseRuns]

theorem collapseRuns_concat (c : UInt8) : ∀ xs : Str, ∃ m, collapseRuns (xs ++ [c]) = m ++ [c]
  | [] => ⟨[], by simp [collapseRuns]⟩
  | b :: r => by
    obtain ⟨m, hm⟩ := collapseRuns_concat c r
    simp only [List.cons_append, collapseRuns]
    split
    · exact ⟨m, hm⟩
    · exact ⟨b :: m, by simp [hm]⟩

theorem cleanSpace_slashes (inner : Str) : ∃ m, cleanSpace (47 :: (inner ++ [47])) = 47 :: (m ++ [47]) := by
  obtain ⟨m, hm⟩ := collapseRuns_concat 47 inner
  refine ⟨m, ?_⟩
  unfold cleanSpace
  rw [collapseRuns_slash, hm]
  refine trimSpace_fixed (dropSpaceFront_slash _) ?_
  rw [List.reverse_cons, List.reverse_append]
  exact dropSpaceBack_slash _

theorem surnameGroup_shape (v : Str) : surnameGroup v = [] ∨ ∃ inner, surnameGroup v = 47 :: (inner ++ [47]) := by
  unfold surnameGroup
  cases List.dropWhile (fun x => x != 47) v with
  | nil => left; rfl
  | cons _ r =>
    by_cases h : (List.takeWhile (fun x => x != 47) r).length < r.length
    · right; exact ⟨List.takeWhile (fun x => x != 47) r, by simp [h]⟩
    · left; simp [h]

theorem lowerFirstByte_eq_some (s : Str) (h : s ≠ []) : ∃ c, lowerFirstByte s = some c := by
  unfold lowerFirstByte
  split
  · exact absurd rfl h
  · exact ⟨_, rfl⟩
  · exact ⟨_, rfl⟩
  · split <;> exact ⟨_, rfl⟩

theorem startsWithLetter_total' (indexName : Str) (letter : UInt8) :
    Total (startsWithLetter indexName letter) := by
  cases indexName with
  | nil => exact total_ok _
  | cons b r =>
    obtain ⟨c, hc⟩ := lowerFirstByte_eq_some (b :: r) nofun
    unfold startsWithLetter
    simp only [List.isEmpty_cons, Bool.false_eq_true, if_false, hc]
    exact total_ok _

theorem indexLetterOf_range (s : Str) :
    indexLetterOf s = symbolLetter ∨ (97 ≤ indexLetterOf s ∧ indexLetterOf s ≤ 122) := by
  unfold indexLetterOf
  split
  · left; rfl
  · rename_i b _
    by_cases h : (b < 97 || b > 122) = true
    · left; simp [h]
    · right
      simp only [h]
      simp only [Bool.or_eq_true, decide_eq_true_eq, not_or, UInt8.not_lt] at h
      simpa using h

theorem getSurnames_nonempty (doc : Doc) : ∀ s ∈ getSurnames doc, s ≠ [] := by
  intro s hs
  unfold getSurnames at hs
  have := (List.mem_eraseDups.mp hs)
  simp only [List.mem_filter] at this
  intro h
  simp [h] at this

theorem surnameList_total' (doc : Doc) : Total (surnameList doc) := by
  refine mapRes_total _ _ fun s hs => ⟨_, byteAt_eq _ _ _ ?_⟩
  exact List.length_pos_iff.mpr (getSurnames_nonempty doc s hs)

theorem surnamePage_total' (showSurnames : Bool) (doc : Doc) : Total (surnamePage showSurnames doc) := by
  cases showSurnames
  · exact total_ok _
  · exact surnameList_total' doc

theorem eventDate_total' {α} (dates : List α) : Total (eventDate dates) := by
  cases dates <;> exact total_ok _

theorem pickEvent_total' {α} (p f : List α) : Total (pickEvent p f) := by
  cases p
  · cases f <;> exact total_ok _
  · exact total_ok _

theorem eventDates_total' {α} (b bp d bu : List α) : Total (eventDates b bp d bu) :=
  total_bind (pickEvent_total' b bp) fun _ =>
  total_bind (pickEvent_total' d bu) fun _ =>
  total_ok _

theorem lookupPlace_member {α} (m : List (Str × α)) (k : Str) (h : k ∈ m.map (·.1)) : Total (lookupPlace m k) := by
  unfold lookupPlace
  obtain ⟨e, he, rfl⟩ := List.mem_map.mp h
  cases hf : m.find? (fun x => x.1 == e.1) with
  | some x => simp
  | none =>
    have := List.find?_eq_none.mp hf e he
    simp at this

theorem placePages_total' {α} (m : List (Str × α)) : Total (placePages m) :=
  mapRes_total _ _ (lookupPlace_member m)

theorem Flags.Safe.elim {fl : Flags} (h : fl.Safe) :
    fl.vtpEmptyGuard = true ∧ fl.husband = ⟨true, true⟩ ∧ fl.wife = ⟨true, true⟩ ∧
    fl.child = ⟨true, true⟩ ∧ fl.childNodes = ⟨true, true⟩ ∧ fl.headerGuard = true ∧
    fl.pageGuard = true ∧ fl.nameAndSexGuard = true ∧ fl.additionalNamesGuard = true := by
  obtain rfl := h
  exact ⟨rfl, rfl, rfl, rfl, rfl, rfl, rfl, rfl, rfl⟩

/-! Under `Safe` every guard is `true` by computation: the proofs below put the safe vector in for
`fl` where a guard is read. Otherwise each follows its program, one `total_bind` for each call. -/

section safe
variable {fl : Flags} (hs : fl.Safe)
include hs

theorem husbandRole_total (doc : Doc) (h : Node) : Total (roleIndividual fl .husband fl.husband doc h) := by
  obtain rfl := hs
  exact roleIndividual_total _ _ _ rfl rfl rfl doc h

theorem wifeRole_total (doc : Doc) (w : Node) : Total (roleIndividual fl .wife fl.wife doc w) := by
  obtain rfl := hs
  exact roleIndividual_total _ _ _ rfl rfl rfl doc w

theorem husbandIndividual_total' (doc : Doc) (fam : Node) : Total (husbandIndividual fl doc fam) := by
  unfold husbandIndividual
  split
  · exact total_ok _
  · exact husbandRole_total hs doc _

theorem wifeIndividual_total' (doc : Doc) (fam : Node) : Total (wifeIndividual fl doc fam) := by
  unfold wifeIndividual
  split
  · exact total_ok _
  · exact wifeRole_total hs doc _

theorem childIndividual_total' (doc : Doc) (c : Node) : Total (childIndividual fl doc c) := by
  obtain rfl := hs
  exact roleIndividual_total _ _ _ rfl rfl rfl doc c

theorem childNodesIndividuals_total' (doc : Doc) (cs : List Node) :
    Total (childNodesIndividuals fl doc cs) := by
  obtain rfl := hs
  refine concatMapRes_total _ _ fun c _ => total_bind (valueToPointer_total _ rfl _) fun p => ?_
  cases nodeByPointer doc p with
  | none => exact total_ok _
  | some e => by_cases hi : isIndi e.node <;> simp [hi]

theorem husbandIs_total' (doc : Doc) (fam : Node) (i : Option Ent) : Total (husbandIs fl doc fam i) :=
  roleIs_total (husbandRole_total hs doc) _ i

theorem wifeIs_total' (doc : Doc) (fam : Node) (i : Option Ent) : Total (wifeIs fl doc fam i) :=
  roleIs_total (wifeRole_total hs doc) _ i

theorem spouses_total' (doc : Doc) (indi : Ent) : Total (spouses fl doc indi) := by
  refine concatMapRes_total _ _ fun f _ => ?_
  split
  · exact
      total_bind (husbandRole_total hs doc _) fun _ =>
      total_bind (whenList_total _ _ (wifeRole_total hs doc _)) fun _ =>
      total_bind (wifeRole_total hs doc _) fun _ =>
      total_bind (whenList_total _ _ (husbandRole_total hs doc _)) fun _ =>
      total_ok _
  · exact total_ok _

theorem familiesOf_total' (doc : Doc) (indi : Ent) : Total (familiesOf fl doc indi) :=
  concatMapRes_total _ _ fun _ _ =>
    total_bind (husbandIs_total' hs doc _ _) fun _ =>
    total_bind (wifeIs_total' hs doc _ _) fun _ =>
    total_ok _

theorem parents_total' (doc : Doc) (indi : Ent) : Total (parents fl doc indi) :=
  total_bind (familiesOf_total' hs doc indi) fun _ => total_ok _

theorem childrenOf_total' (doc : Doc) (indi : Ent) : Total (childrenOf fl doc indi) :=
  total_bind (familiesOf_total' hs doc indi) fun _ => total_ok _

theorem familyWithSpouse_total' (doc : Doc) (indi : Ent) (sp : Option Ent) :
    Total (familyWithSpouse fl doc indi sp) :=
  findRes_total _ _ fun _ _ =>
    total_bind (andThen_total _ _ (husbandIs_total' hs doc _ _) (wifeIs_total' hs doc _ _)) fun _ =>
    total_bind (andThen_total _ _ (wifeIs_total' hs doc _ _) (husbandIs_total' hs doc _ _)) fun _ =>
    total_ok _

theorem familyWithUnknownSpouse_total' (doc : Doc) (indi : Ent) :
    Total (familyWithUnknownSpouse fl doc indi) :=
  findRes_total _ _ fun _ _ =>
    total_bind (andThen_total _ _ (husbandIs_total' hs doc _ _) (total_ok _)) fun _ =>
    total_bind (andThen_total _ _ (wifeIs_total' hs doc _ _) (total_ok _)) fun _ =>
    total_ok _

theorem partnerIn_total' (doc : Doc) (indi f : Ent) : Total (partnerIn fl doc indi f) := by
  refine total_bind (husbandIs_total' hs doc _ _) fun h => ?_
  cases h
  · refine total_bind (wifeIs_total' hs doc _ _) fun w => ?_
    cases w
    · exact total_ok _
    · exact husbandIndividual_total' hs doc _
  · exact wifeIndividual_total' hs doc _

theorem spouseChildrenKeys_total' (doc : Doc) (indi : Ent) : Total (spouseChildrenKeys fl doc indi) := by
  refine total_bind (familiesOf_total' hs doc indi) fun _ => concatMapRes_total _ _ fun f _ => ?_
  split
  · exact total_ok _
  · exact
      total_bind (partnerIn_total' hs doc indi f) fun sp =>
      total_bind (familyWithSpouse_total' hs doc indi sp) fun _ =>
      total_bind (familyWithUnknownSpouse_total' hs doc indi) fun _ =>
      total_ok _

theorem header_total' (si : Bool) (letters : List UInt8) : Total (header fl si letters) := by
  obtain rfl := hs
  cases si
  · exact total_ok _
  · cases letters <;> exact total_ok _

theorem individualPage_total' (si : Bool) (letters : List UInt8) (indi : Node) :
    Total (individualPage fl si letters indi) := by
  obtain rfl := hs
  have hn : Total (additionalNames true (names indi)) := by
    unfold additionalNames
    cases names indi <;> exact total_ok _
  exact
    total_bind (total_ok _) fun _ =>
    total_bind (header_total' rfl si letters) fun _ =>
    total_bind (total_ok _) fun _ =>
    total_bind hn fun _ =>
    total_ok _

theorem familyWarnings_total' (doc : Doc) (fam : Node) : Total (familyWarnings fl doc fam) :=
  total_bind (husbandIndividual_total' hs doc fam) fun _ =>
  total_bind (wifeIndividual_total' hs doc fam) fun _ =>
  total_bind (mapRes_total _ _ fun c _ => childIndividual_total' hs doc c) fun _ =>
  total_ok _

/-- a family row resolves what the warnings of the family resolve -/
theorem familyRow_total' (doc : Doc) (f : Ent) : Total (familyRow fl doc f) :=
  familyWarnings_total' hs doc f.node

theorem personPage_total' (doc : Doc) (si : Bool) (letters : List UInt8) (e : Ent) :
    Total (personPage fl doc si letters e) :=
  total_bind (individualPage_total' hs _ _ _) fun _ =>
  total_bind (spouses_total' hs doc e) fun _ =>
  total_bind (familiesOf_total' hs doc e) fun _ =>
  total_bind (parents_total' hs doc e) fun _ =>
  total_bind (spouseChildrenKeys_total' hs doc e) fun _ =>
  total_bind (mapRes_total _ _ fun f _ => familyRow_total' hs doc f) fun _ =>
  total_ok _

theorem publish_total' (doc : Doc) (si sf ss : Bool) (listed hasPage : Ent → Bool) :
    Total (publish fl doc si sf ss listed hasPage) :=
  total_bind (header_total' hs _ _) fun _ =>
  total_bind (mapRes_total _ _ fun e _ => personPage_total' hs doc _ _ e) fun _ =>
  total_bind (mapRes_total _ _ fun f _ => familyRow_total' hs doc f) fun _ =>
  total_bind (surnamePage_total' ss doc) fun _ =>
  total_ok _

theorem surrounding_total' (doc : Doc) (e : Ent) : Total (surrounding fl doc e) :=
  total_bind (spouses_total' hs doc e) fun _ =>
  total_bind (childrenOf_total' hs doc e) fun cs =>
  total_bind (childNodesIndividuals_total' hs doc cs) fun _ =>
  total_bind (parents_total' hs doc e) fun _ =>
  total_bind (mapRes_total _ _ fun f _ => familyRow_total' hs doc f) fun _ =>
  total_ok _

theorem diffSide_total' (doc : Doc) : Total (diffSide fl doc) :=
  total_bind (mapRes_total _ _ fun e _ => surrounding_total' hs doc e) fun _ => total_ok _

end safe

mutual
theorem walkNode_spec {fl : Flags} (hs : fl.Safe) (doc : Doc) :
    ∀ n : Node, walkNode fl doc n = .ok n.size
  | .mk t v p ks => by
    unfold walkNode
    obtain ⟨u, hu⟩ : Total (nodeWarnings fl doc (.mk t v p ks)) := by
      unfold nodeWarnings
      split
      · exact familyWarnings_total' hs doc _
      · exact total_ok _
    rw [hu, ok_bind, walkForest_spec hs doc ks]
    simp [Node.size, Nat.add_comm]
theorem walkForest_spec {fl : Flags} (hs : fl.Safe) (doc : Doc) :
    ∀ ns : List Node, walkForest fl doc ns = .ok (Forest.size ns)
  | [] => by simp [walkForest, Forest.size]
  | n :: ns => by
    unfold walkForest
    rw [walkNode_spec hs doc n, ok_bind, walkForest_spec hs doc ns]
    simp [Forest.size]
end

end Gedcom.Resolve

/-
  What the functions of Model/DateParse.lean do on the inputs the date theorems need: numerals,
  and tokens of printable ASCII written with any spacing.  Core Lean only.
-/
import Gedcom.Model.DateParse
import Gedcom.Lemmas.Basics
import Gedcom.Lemmas.Decimal
namespace Gedcom

/-! ## bytes -/

/-- printable, non-space ASCII: what every token of the date grammar is made of -/
def solidB (b : UInt8) : Bool := 33 ≤ b.toNat && b.toNat ≤ 126

theorem digitB_toNat {n : Nat} (h : n < 10) : (digitB n).toNat = 48 + n := digit_toNat h

theorem isDigitB_digitB {n : Nat} (h : n < 10) : isDigitB (digitB n) = true := by
  simp [isDigitB, digitB_toNat h]; omega

theorem solidB_of_digit {b : UInt8} (h : isDigitB b = true) : solidB b = true := by
  simp [isDigitB, solidB] at *; omega

theorem isWordB_of_digit {b : UInt8} (h : isDigitB b = true) : isWordB b = true := by
  simp [isWordB, h]

theorem solidB_of_word {b : UInt8} (h : isWordB b = true) : solidB b = true := by
  simp [isWordB, isDigitB, isUpperB, isLowerB, solidB] at *; omega

theorem ne32_of_solid {b : UInt8} (h : solidB b = true) : b ≠ 32 := by
  intro e; subst e; simp [solidB] at h

theorem toNat_ne_of_ne {a b : UInt8} (h : a ≠ b) : a.toNat ≠ b.toNat := toNat_ne h

theorem toLowerB_toNat (b : UInt8) :
    (toLowerB b).toNat = if 65 ≤ b.toNat ∧ b.toNat ≤ 90 then b.toNat + 32 else b.toNat := by
  unfold toLowerB isUpperB
  by_cases h : 65 ≤ b.toNat ∧ b.toNat ≤ 90
  · have h1 : (decide (65 ≤ b.toNat) && decide (b.toNat ≤ 90)) = true := by simp [h]
    rw [if_pos h1, if_pos h, UInt8.toNat_add]; simp; omega
  · have h1 : ¬ (decide (65 ≤ b.toNat) && decide (b.toNat ≤ 90)) = true := by simpa using h
    rw [if_neg h1, if_neg h]

theorem upper_facts {b : UInt8} (h : isUpperB b = true) :
    isDigitB b = false ∧ isWordB b = true ∧ solidB b = true ∧ b ≠ 32 ∧
      isLowerB (toLowerB b) = true := by
  have h' : 65 ≤ b.toNat ∧ b.toNat ≤ 90 := by simpa [isUpperB] using h
  refine ⟨by simp [isDigitB]; omega, by simp [isWordB, h], by simp [solidB]; omega, ?_, ?_⟩
  · intro e; subst e; simp [isUpperB] at h
  · simp only [isLowerB, toLowerB_toNat, if_pos h']; simp; omega

theorem lower_facts {b : UInt8} (h : isLowerB b = true) :
    isWordB b = true ∧ solidB b = true ∧ isDigitB b = false ∧ toLowerB b = b := by
  have h' : 97 ≤ b.toNat ∧ b.toNat ≤ 122 := by simpa [isLowerB] using h
  refine ⟨by simp [isWordB, h], by simp [solidB]; omega, by simp [isDigitB]; omega, ?_⟩
  have : isUpperB b = false := by simp [isUpperB]; omega
  simp [toLowerB, this]

/-- lower-casing moves a byte only from `A..Z` to `a..z`, and no class the matchers look at tells
    those apart -/
theorem classes_lower (b : UInt8) :
    isDigitB (toLowerB b) = isDigitB b ∧ isWordB (toLowerB b) = isWordB b ∧
    solidB (toLowerB b) = solidB b ∧ (toLowerB b = 32 ↔ b = 32) := by
  cases h : isUpperB b with
  | false =>
    have : toLowerB b = b := by simp [toLowerB, h]
    rw [this]; exact ⟨rfl, rfl, rfl, Iff.rfl⟩
  | true =>
    obtain ⟨u1, u2, u3, u4, u5⟩ := upper_facts h
    obtain ⟨l1, l2, l3, _⟩ := lower_facts u5
    rw [l1, l2, l3, u1, u2, u3]
    exact ⟨rfl, rfl, rfl, fun e => absurd e (ne32_of_solid l2), fun e => absurd e u4⟩

theorem letter_facts {b : UInt8} (h : isLowerB (toLowerB b) = true) :
    isWordB b = true ∧ solidB b = true ∧ isDigitB b = false := by
  obtain ⟨c1, c2, c3, _⟩ := classes_lower b
  obtain ⟨l1, l2, l3, _⟩ := lower_facts h
  exact ⟨c2 ▸ l1, c3 ▸ l2, c1 ▸ l3⟩

theorem toLowerB_of_lower {b : UInt8} (h : isLowerB b = true) : toLowerB b = b := by
  obtain ⟨_, _, _, hfix⟩ := lower_facts h
  exact hfix

theorem isWordB_toLowerB (b : UInt8) : isWordB (toLowerB b) = isWordB b := by
  obtain ⟨_, hword, _, _⟩ := classes_lower b
  exact hword

theorem solidB_toLowerB (b : UInt8) : solidB (toLowerB b) = solidB b := by
  obtain ⟨_, _, hsolid, _⟩ := classes_lower b
  exact hsolid

theorem isDigitB_eq_of_lower_eq {a b : UInt8} (h : toLowerB a = toLowerB b) :
    isDigitB a = isDigitB b := by
  rw [← (classes_lower a).1, h, (classes_lower b).1]

theorem toLowerB_idem (b : UInt8) : toLowerB (toLowerB b) = toLowerB b := by
  cases h : isUpperB b with
  | false =>
    have : toLowerB b = b := by simp [toLowerB, h]
    rw [this, this]
  | true =>
    obtain ⟨_, _, _, _, hlower⟩ := upper_facts h
    exact toLowerB_of_lower hlower

theorem toLowerB_32 : toLowerB 32 = 32 := by decide

/-! ## decimal numbers -/

theorem natToDecAux_fuel (f g n : Nat) (hf : n ≤ f) (hg : n ≤ g) :
    natToDecAux f n = natToDecAux g n := by
  fun_induction natToDecAux f n generalizing g with
  | case1 n =>
    have : n = 0 := by omega
    subst this
    cases g <;> rfl
  | case2 f n hlt =>
    cases g with
    | zero =>
      have : n = 0 := by omega
      subst this; rfl
    | succ g => rw [natToDecAux, if_pos hlt]
  | case3 f n hlt ih =>
    cases g with
    | zero => omega
    | succ g => rw [natToDecAux, if_neg hlt, ih g (by omega) (by omega)]

theorem natToDec_lt10 {n : Nat} (h : n < 10) : natToDec n = [digitB n] := by
  unfold natToDec
  cases n with
  | zero => rfl
  | succ n => simp [natToDecAux, h]

theorem natToDec_ge10 {n : Nat} (h : ¬ n < 10) :
    natToDec n = natToDec (n / 10) ++ [digitB (n % 10)] := by
  unfold natToDec
  cases n with
  | zero => omega
  | succ n =>
    simp only [natToDecAux, h, if_false]
    rw [natToDecAux_fuel n _ ((n + 1) / 10) (by omega) (Nat.le_refl _)]

theorem decOf_natToDec (n : Nat) : DecOf n (natToDec n) := by
  induction n using Nat.strongRecOn with
  | _ n ih =>
    by_cases h : n < 10
    · rw [natToDec_lt10 h]
      exact .digit h
    · rw [natToDec_ge10 h]
      exact .snoc h (ih (n / 10) (by omega))

theorem natToDec_digits (n : Nat) : ∀ b ∈ natToDec n, isDigitB b = true :=
  (decOf_natToDec n).forall_mem fun _ => isDigitB_digitB

theorem natToDec_ne_nil (n : Nat) : natToDec n ≠ [] := (decOf_natToDec n).ne_nil

theorem natToDec_head {n : Nat} (hn : 1 ≤ n) :
    ∃ b r, natToDec n = b :: r ∧ b ≠ 48 ∧ isDigitB b = true := by
  induction n using Nat.strongRecOn with
  | _ n ih =>
    by_cases h : n < 10
    · refine ⟨digitB n, [], natToDec_lt10 h, ?_, isDigitB_digitB h⟩
      intro e; have := congrArg UInt8.toNat e; rw [digitB_toNat h] at this; simp at this; omega
    · obtain ⟨b, r, e, hb, hd⟩ := ih (n / 10) (by omega) (by omega)
      exact ⟨b, r ++ [digitB (n % 10)], by rw [natToDec_ge10 h, e]; rfl, hb, hd⟩

theorem decToNat_natToDec (n : Nat) : decToNat (natToDec n) = n := (decOf_natToDec n).val

theorem isDigits_iff (s : Str) : isDigits s = true ↔ s ≠ [] ∧ ∀ b ∈ s, isDigitB b = true := by
  unfold isDigits; cases s <;> simp

theorem isDigits_ne_nil {s : Str} (h : isDigits s = true) : s ≠ [] := ((isDigits_iff s).mp h).1

theorem isDigits_all {s : Str} (h : isDigits s = true) : ∀ b ∈ s, isDigitB b = true :=
  ((isDigits_iff s).mp h).2

theorem isDigits_word {s : Str} (h : isDigits s = true) : ∀ b ∈ s, isWordB b = true :=
  fun b hb => isWordB_of_digit (isDigits_all h b hb)

theorem isDigits_natToDec (n : Nat) : isDigits (natToDec n) = true :=
  (isDigits_iff _).mpr ⟨natToDec_ne_nil n, natToDec_digits n⟩

/-! ## white space -/

theorem solid_ne {b : UInt8} (h : solidB b = true) (c : UInt8) (hc : solidB c = false) : b ≠ c := by
  intro e; subst e; simp [h] at hc

theorem solid_not_space {b : UInt8} (h : solidB b = true) : isAsciiSpaceB b = false := by
  unfold isAsciiSpaceB
  simp [solid_ne h 9 (by decide), solid_ne h 10 (by decide), solid_ne h 11 (by decide),
    solid_ne h 12 (by decide), solid_ne h 13 (by decide), solid_ne h 32 (by decide)]

/-- the bytes a white-space rune can begin with -/
def spaceLead (b : UInt8) : Bool := isAsciiSpaceB b || b == 0xC2 || b == 0xE1 || b == 0xE2 || b == 0xE3

/-- the bytes a white-space rune can end with -/
def spaceEnd (c : UInt8) : Bool :=
  isAsciiSpaceB c || (0x80 ≤ c.toNat && c.toNat ≤ 0x8A) || c == 0x9F || c == 0xA0 || c == 0xA8 ||
    c == 0xA9 || c == 0xAF

theorem dropSpaceRune_none {b : UInt8} (h : spaceLead b = false) (r : Str) :
    dropSpaceRune (b :: r) = none := by
  simp only [spaceLead, Bool.or_eq_false_iff] at h
  obtain ⟨⟨⟨⟨h0, h1⟩, h2⟩, h3⟩, h4⟩ := h
  rcases r with _ | ⟨x, _ | ⟨y, r⟩⟩ <;> simp [dropSpaceRune, isSpace2, isSpace3, h0, h1, h2, h3, h4]

theorem dropSpaceRuneRev_none {c : UInt8} (h : spaceEnd c = false) (r : Str) :
    dropSpaceRuneRev (c :: r) = none := by
  simp only [spaceEnd, Bool.or_eq_false_iff] at h
  obtain ⟨⟨⟨⟨⟨⟨h0, h1⟩, h2⟩, h3⟩, h4⟩, h5⟩, h6⟩ := h
  have h85 : (c == 0x85) = false := by
    rw [beq_eq_false_iff_ne]; intro e; subst e; simp at h1
  have h80 : (c == 0x80) = false := by
    rw [beq_eq_false_iff_ne]; intro e; subst e; simp at h1
  rcases r with _ | ⟨x, _ | ⟨y, r⟩⟩ <;>
    simp [dropSpaceRuneRev, isSpace2, isSpace3, h0, h1, h2, h3, h4, h5, h6, h85, h80]

theorem dropSpaceRune_solid {b : UInt8} (r : Str) (h : solidB b = true) :
    dropSpaceRune (b :: r) = none :=
  dropSpaceRune_none (by
    simp [spaceLead, solid_not_space h, solid_ne h 0xC2 (by decide), solid_ne h 0xE1 (by decide),
      solid_ne h 0xE2 (by decide), solid_ne h 0xE3 (by decide)]) r

theorem solid_spaceEnd {c : UInt8} (h : solidB c = true) : spaceEnd c = false := by
  have hc : c.toNat ≤ 126 := by simp [solidB] at h; omega
  simp [spaceEnd, solid_not_space h, solid_ne h 0x9F (by decide), solid_ne h 0xA0 (by decide),
    solid_ne h 0xA8 (by decide), solid_ne h 0xA9 (by decide), solid_ne h 0xAF (by decide)]
  omega

theorem dropSpaceRuneRev_solid {c : UInt8} (r : Str) (h : solidB c = true) :
    dropSpaceRuneRev (c :: r) = none :=
  dropSpaceRuneRev_none (solid_spaceEnd h) r

theorem trimFuel_none {f : Str → Option Str} {s : Str} (h : f s = none) (n : Nat) :
    trimFuel f n s = s := by
  cases n <;> simp [trimFuel, h]

def spaces (n : Nat) : Str := List.replicate n 32

theorem trimLeft_space (s : Str) : trimLeft (32 :: s) = trimLeft s := by
  simp [trimLeft, trimFuel, dropSpaceRune, isAsciiSpaceB]

theorem trimLeft_solid {b : UInt8} (r : Str) (h : solidB b = true) : trimLeft (b :: r) = b :: r :=
  trimFuel_none (dropSpaceRune_solid r h) _

theorem trimLeft_nil : trimLeft [] = [] := rfl

theorem trimRight_space (s : Str) : trimRight (s ++ [32]) = trimRight s := by
  simp [trimRight, trimFuel, dropSpaceRuneRev, isAsciiSpaceB]

theorem trimRight_of_last (s : Str) {c : UInt8} (h : ∀ r, dropSpaceRuneRev (c :: r) = none) :
    trimRight (s ++ [c]) = s ++ [c] := by
  unfold trimRight
  rw [List.reverse_append, List.reverse_singleton, List.singleton_append, trimFuel_none (h _)]
  simp

theorem trimRight_solid (s : Str) {c : UInt8} (h : solidB c = true) :
    trimRight (s ++ [c]) = s ++ [c] :=
  trimRight_of_last s fun r => dropSpaceRuneRev_solid r h

theorem trimRight_nil : trimRight [] = [] := rfl

theorem trimSpace_spaces {s r : Str} {c : UInt8} (hl : ∀ t, dropSpaceRune (s ++ t) = none)
    (e : s = r ++ [c]) (hr : ∀ t, dropSpaceRuneRev (c :: t) = none) (a b : Nat) :
    trimSpace (spaces a ++ s ++ spaces b) = s := by
  unfold trimSpace
  have hright : ∀ b, trimRight (s ++ spaces b) = s := by
    intro b
    induction b with
    | zero =>
      simp only [spaces, List.replicate_zero, List.append_nil]
      rw [e]; exact trimRight_of_last _ hr
    | succ b ih =>
      have : s ++ spaces (b + 1) = (s ++ spaces b) ++ [32] := by
        simp [spaces, List.replicate_succ']
      rw [this, trimRight_space]; exact ih
  have hleft : trimLeft (spaces a ++ s ++ spaces b) = s ++ spaces b := by
    induction a with
    | zero =>
      simp only [spaces, List.replicate_zero, List.nil_append]
      exact trimFuel_none (hl _) _
    | succ a ih =>
      simp only [spaces, List.replicate_succ, List.cons_append] at ih ⊢
      rw [trimLeft_space]; exact ih
  rw [hleft]; exact hright b

/-! ## `CleanSpace` on a sentence written with generous spacing -/

theorem collapse_cons_ne {b : UInt8} (r : Str) (h : b ≠ 32) :
    collapseSpaces (b :: r) = b :: collapseSpaces r := by
  simp [collapseSpaces, h]

theorem collapse_space_space (r : Str) :
    collapseSpaces (32 :: 32 :: r) = collapseSpaces (32 :: r) := by
  rw [collapseSpaces]; simp

theorem collapse_spaces_append (g : Nat) {r : Str} (hr : r.head? ≠ some 32) :
    collapseSpaces (spaces g ++ r) = spaces (min g 1) ++ collapseSpaces r := by
  induction g with
  | zero => rfl
  | succ g ih =>
    cases g with
    | zero =>
      show collapseSpaces (32 :: r) = 32 :: collapseSpaces r
      rw [collapseSpaces]; simp [hr]
    | succ g =>
      have e : spaces (g + 1 + 1) ++ r = 32 :: 32 :: (spaces g ++ r) := by
        simp [spaces, List.replicate_succ]
      have e' : spaces (g + 1) ++ r = 32 :: (spaces g ++ r) := by
        simp [spaces, List.replicate_succ]
      rw [e, collapse_space_space, ← e', ih, Nat.min_eq_right (Nat.le_add_left 1 g),
        Nat.min_eq_right (Nat.le_add_left 1 (g + 1))]

theorem collapse_append_no32 {t : Str} (r : Str) (h : ∀ b ∈ t, b ≠ 32) :
    collapseSpaces (t ++ r) = t ++ collapseSpaces r := by
  induction t with
  | nil => rfl
  | cons a t ih =>
    rw [List.cons_append, collapse_cons_ne _ (h a (by simp)), ih (fun b hb => h b (by simp [hb]))]
    rfl

def Solid (t : Str) : Prop := t ≠ [] ∧ ∀ b ∈ t, solidB b = true

theorem no32_of_solid {t : Str} (h : Solid t) : ∀ b ∈ t, b ≠ 32 :=
  fun b hb => ne32_of_solid (h.2 b hb)

/-- tokens, each preceded by a number of spaces, and trailing spaces -/
def render : List (Nat × Str) → Nat → Str
  | [], g => spaces g
  | p :: rest, gEnd => spaces p.1 ++ p.2 ++ render rest gEnd

def joinSp : List Str → Str
  | [] => []
  | [t] => t
  | t :: t' :: ts => t ++ 32 :: joinSp (t' :: ts)

/-- the spacing `CleanSpace` copes with: any number of spaces before the first token (and after the
    last), at least one between tokens -/
def GapsOK : List (Nat × Str) → Prop
  | [] => False
  | _ :: rest => ∀ q ∈ rest, 1 ≤ q.1

theorem solid_head {t : Str} (h : Solid t) : ∃ b r, t = b :: r ∧ solidB b = true := by
  obtain ⟨hne, hs⟩ := h
  cases t with
  | nil => exact absurd rfl hne
  | cons b r => exact ⟨b, r, rfl, hs b (by simp)⟩

theorem solid_last {t : Str} (h : Solid t) : ∃ r c, t = r ++ [c] ∧ solidB c = true := by
  obtain ⟨hne, hs⟩ := h
  refine ⟨t.dropLast, t.getLast hne, (List.dropLast_concat_getLast hne).symm, hs _ (List.getLast_mem hne)⟩

theorem joinSp_eq (t : Str) (ts : List Str) :
    joinSp (t :: ts) = t ++ (ts.map (32 :: ·)).flatten := by
  induction ts generalizing t with
  | nil => simp [joinSp]
  | cons t' ts ih =>
    show t ++ 32 :: joinSp (t' :: ts) = _
    rw [ih]; simp

theorem render_eq (gt : List (Nat × Str)) (e : Nat) :
    render gt e = (gt.map fun p => spaces p.1 ++ p.2).flatten ++ spaces e := by
  induction gt with
  | nil => rfl
  | cons p rest ih => simp [render, ih]

theorem joinSp_cons {t : Str} {ts : List Str} (h : ts ≠ []) :
    joinSp (t :: ts) = t ++ 32 :: joinSp ts := by
  cases ts with
  | nil => exact absurd rfl h
  | cons a ts => rfl

theorem joinSp_append {l1 l2 : List Str} (h1 : l1 ≠ []) (h2 : l2 ≠ []) :
    joinSp (l1 ++ l2) = joinSp l1 ++ 32 :: joinSp l2 := by
  obtain ⟨t, ts, rfl⟩ := List.exists_cons_of_ne_nil h1
  obtain ⟨u, us, rfl⟩ := List.exists_cons_of_ne_nil h2
  simp [joinSp_eq]

theorem joinSp_last {toks : List Str} {t : Str} (h : toks.getLast? = some t) :
    ∃ pre, joinSp toks = pre ++ t := by
  obtain ⟨init, rfl⟩ := List.getLast?_eq_some_iff.mp h
  cases init with
  | nil => exact ⟨[], rfl⟩
  | cons a init => exact ⟨a ++ (init.map (32 :: ·)).flatten ++ [32], by simp [joinSp_eq]⟩

theorem bytes_joinSp (toks : List Str) (h : ∀ t ∈ toks, Solid t) :
    ∀ b ∈ joinSp toks, solidB b = true ∨ b = 32 := by
  cases toks with
  | nil => intro b hb; cases hb
  | cons t ts =>
    intro b hb
    simp only [joinSp_eq, List.mem_append, List.mem_flatten, List.mem_map] at hb
    rcases hb with hb | ⟨_, ⟨u, hu, rfl⟩, hb⟩
    · exact Or.inl ((h t (by simp)).2 b hb)
    · rcases List.mem_cons.mp hb with rfl | hb
      · exact Or.inr rfl
      · exact Or.inl ((h u (by simp [hu])).2 b hb)

theorem joinSp_no_newline (toks : List Str) (h : ∀ t ∈ toks, Solid t) :
    (joinSp toks).contains 10 = false := by
  rw [Bool.eq_false_iff]
  intro hc
  have hm : (10 : UInt8) ∈ joinSp toks := by simpa using hc
  rcases bytes_joinSp toks h 10 hm with hs | h32
  · exact absurd hs (by decide)
  · exact absurd h32 (by decide)

theorem joinSp_ne_nil {toks : List Str} (hne : toks ≠ []) (h : ∀ t ∈ toks, Solid t) :
    joinSp toks ≠ [] := by
  obtain ⟨t, ts, rfl⟩ := List.exists_cons_of_ne_nil hne
  rw [joinSp_eq]
  simp [(h t (by simp)).1]

theorem trimSpace_joinSp {t : Str} {ts : List Str} (h : ∀ x ∈ t :: ts, Solid x) (a b : Nat) :
    trimSpace (spaces a ++ joinSp (t :: ts) ++ spaces b) = joinSp (t :: ts) := by
  obtain ⟨x, r, e, hx⟩ := solid_head (h t (by simp))
  have hne : t :: ts ≠ [] := by simp
  obtain ⟨pre, hpre⟩ := joinSp_last (List.getLast?_eq_some_getLast hne)
  obtain ⟨r', c, e', hc⟩ := solid_last (h _ (List.getLast_mem hne))
  exact trimSpace_spaces (fun u => by rw [joinSp_eq, e]; exact dropSpaceRune_solid _ hx)
    (by rw [hpre, e', List.append_assoc]) (fun u => dropSpaceRuneRev_solid u hc) a b

theorem collapse_tok (g : Nat) {t : Str} (ht : Solid t) (R : Str) :
    collapseSpaces (spaces g ++ t ++ R) = spaces (min g 1) ++ t ++ collapseSpaces R := by
  obtain ⟨b, r, e, hb⟩ := solid_head ht
  rw [List.append_assoc, collapse_spaces_append g (by rw [e]; simpa using ne32_of_solid hb),
    collapse_append_no32 R (no32_of_solid ht), List.append_assoc]

theorem collapse_render_tail (rest : List (Nat × Str)) (e : Nat) (hg : ∀ q ∈ rest, 1 ≤ q.1)
    (hs : ∀ t ∈ rest.map (·.2), Solid t) :
    collapseSpaces (render rest e) =
      ((rest.map (·.2)).map (32 :: ·)).flatten ++ spaces (min e 1) := by
  induction rest with
  | nil =>
    have := collapse_spaces_append e (r := []) (by simp)
    simpa [render, collapseSpaces] using this
  | cons q rest ih =>
    rw [render, collapse_tok _ (hs q.2 List.mem_cons_self),
      ih (fun x hx => hg x (by simp [hx])) (fun t ht => hs t (List.mem_cons_of_mem _ ht)),
      Nat.min_eq_right (hg q (by simp))]
    simp [spaces]

theorem cleanSpace_render (toks : List (Nat × Str)) (gEnd : Nat) (hg : GapsOK toks)
    (hs : ∀ t ∈ toks.map (·.2), Solid t) :
    cleanSpace (render toks gEnd) = joinSp (toks.map (·.2)) := by
  cases toks with
  | nil => exact absurd hg (by simp [GapsOK])
  | cons p rest =>
    have := trimSpace_joinSp (ts := rest.map (·.2)) (by exact hs) (min p.1 1) (min gEnd 1)
    unfold cleanSpace
    rw [render, collapse_tok _ (hs p.2 List.mem_cons_self),
      collapse_render_tail rest gEnd hg fun t ht => hs t (List.mem_cons_of_mem _ ht)]
    rw [joinSp_eq] at this
    simpa [joinSp_eq, List.append_assoc] using this

/-- `s` is the tokens `toks` written with some admissible spacing -/
def Spacing (s : Str) (toks : List Str) : Prop :=
  ∃ gt e, gt.map (·.2) = toks ∧ GapsOK gt ∧ s = render gt e

theorem Spacing.clean {s : Str} {toks : List Str} (h : Spacing s toks) (hs : ∀ t ∈ toks, Solid t) :
    cleanSpace s = joinSp toks := by
  obtain ⟨gt, e, rfl, hg, rfl⟩ := h
  exact cleanSpace_render gt e hg hs

theorem spacing_joinSp {toks : List Str} (h : toks ≠ []) : Spacing (joinSp toks) toks := by
  obtain ⟨t, ts, rfl⟩ := List.exists_cons_of_ne_nil h
  refine ⟨(0, t) :: ts.map (fun x => (1, x)), 0, by simp [Function.comp_def], ?_, ?_⟩
  · intro q hq
    obtain ⟨x, _, rfl⟩ := List.mem_map.mp hq
    exact Nat.le_refl 1
  · simp [render_eq, joinSp_eq, spaces, Function.comp_def]

/-! ## the single-date pattern on tokens -/

theorem spanWord_space (r : Str) : spanWord (32 :: r) = ([], 32 :: r) := by
  simp [spanWord, spanWordAux, isWordB, isDigitB, isUpperB, isLowerB]

theorem spanWord_word_append {w : Str} (hw : ∀ b ∈ w, isWordB b = true) {r : Str}
    (hr : spanWord r = ([], r)) : spanWord (w ++ r) = (w, r) := by
  induction w with
  | nil => exact hr
  | cons a w ih =>
    have ha : isWordB a = true := hw a (by simp)
    have := ih (fun b hb => hw b (by simp [hb]))
    unfold spanWord at this ⊢
    simp [spanWordAux, ha, this]

theorem matchMonthYear_month (day : Str) {w y : Str} (hne : w ≠ [])
    (hw : ∀ b ∈ w, isWordB b = true) (hy : isDigits y = true) :
    matchMonthYear day (w ++ 32 :: y) = some (day, w ++ [32], y) := by
  unfold matchMonthYear
  rw [spanWord_word_append hw (spanWord_space y)]
  have : w.isEmpty = false := by cases w <;> simp at hne ⊢
  simp [this, hy]

theorem matchMonthYear_year (day : Str) {y : Str} (hy : isDigits y = true) :
    matchMonthYear day y = some (day, [], y) := by
  unfold matchMonthYear
  have := spanWord_word_append (isDigits_word hy) (r := []) rfl
  rw [List.append_nil] at this
  rw [this]
  simp [hy]

theorem matchTail_day {d r : Str} (hd : isDigits d = true) {x : Str × Str × Str}
    (h : matchMonthYear (d ++ [32]) r = some x) : matchTail (d ++ 32 :: r) = some x := by
  unfold matchTail
  obtain ⟨h1, h2⟩ := takeWhile_append_stop isDigitB d (32 :: r)
    (isDigits_all hd) (by intro c e; simp at e; rw [← e]; decide)
  rw [h1, h2]
  have : d.isEmpty = false := by have := isDigits_ne_nil hd; cases d <;> simp at this ⊢
  simp [this, h]

theorem matchTail_noday {a : UInt8} (h : isDigitB a = false) (r : Str) :
    matchTail (a :: r) = matchMonthYear [] (a :: r) := by
  unfold matchTail
  have h1 : (a :: r).takeWhile isDigitB = [] := by simp [h]
  rw [h1]
  split <;> rfl

theorem matchTail_y {y : Str} (hy : isDigits y = true) : matchTail y = some ([], [], y) := by
  unfold matchTail
  obtain ⟨h1, h2⟩ := takeWhile_append_stop isDigitB y [] (isDigits_all hy) (by simp)
  simp only [List.append_nil] at h1 h2
  rw [h2]
  exact matchMonthYear_year [] hy

/-! ## keyword prefixes -/

theorem lowerStr_cons (a : UInt8) (s : Str) : lowerStr (a :: s) = toLowerB a :: lowerStr s := rfl
theorem lowerStr_append (s t : Str) : lowerStr (s ++ t) = lowerStr s ++ lowerStr t := by
  simp [lowerStr]
theorem lowerStr_length (s : Str) : (lowerStr s).length = s.length := by simp [lowerStr]

theorem hasPrefixCI_iff (k s : Str) :
    hasPrefixCI k s = true ↔ k.length ≤ s.length ∧ lowerStr (s.take k.length) = lowerStr k := by
  induction k generalizing s with
  | nil => simp [hasPrefixCI, lowerStr]
  | cons k0 k ih =>
    cases s with
    | nil => simp [hasPrefixCI]
    | cons a s =>
      rw [hasPrefixCI, Bool.and_eq_true, ih, beq_iff_eq]
      simp only [List.length_cons, List.take_succ_cons, lowerStr_cons, List.cons.injEq,
        Nat.add_le_add_iff_right]
      constructor
      · rintro ⟨h1, h2, h3⟩; exact ⟨h2, h1.symm, h3⟩
      · rintro ⟨h2, h1, h3⟩; exact ⟨h1.symm, h2, h3⟩

theorem hasPrefixCI_take {k s : Str} (h : hasPrefixCI k s = true) :
    lowerStr (s.take k.length) = lowerStr k :=
  ((hasPrefixCI_iff k s).mp h).2

theorem length_eq_of_lower_eq {s t : Str} (h : lowerStr s = lowerStr t) : s.length = t.length := by
  rw [← lowerStr_length s, ← lowerStr_length t, h]

theorem hasPrefixCI_of_lower_eq (k : Str) {s t : Str} (h : lowerStr s = lowerStr t) :
    hasPrefixCI k s = hasPrefixCI k t := by
  have ht : ∀ u : Str, lowerStr (u.take k.length) = (lowerStr u).take k.length :=
    fun u => List.map_take
  rw [Bool.eq_iff_iff, hasPrefixCI_iff, hasPrefixCI_iff, ht, ht, h, length_eq_of_lower_eq h]

theorem hasPrefixCI_tok {k : Str} (hk : ∀ b ∈ k, b ≠ 32) (T B : Str) :
    hasPrefixCI k (T ++ 32 :: B) = hasPrefixCI k T := by
  induction k generalizing T with
  | nil => simp [hasPrefixCI]
  | cons k0 k ih =>
    cases T with
    | nil =>
      have h0 : k0 ≠ 32 := hk k0 (by simp)
      obtain ⟨_, _, _, h32⟩ := classes_lower k0
      have : toLowerB k0 ≠ toLowerB 32 := fun e => h0 (h32.mp (e.trans toLowerB_32))
      simp [hasPrefixCI, this]
    | cons t0 T =>
      have := ih (fun b hb => hk b (by simp [hb])) T
      simp [hasPrefixCI, this]

theorem hasPrefixCI_head_ne {k0 a : UInt8} (k s : Str) (h : toLowerB k0 ≠ toLowerB a) :
    hasPrefixCI (k0 :: k) (a :: s) = false := by
  simp [hasPrefixCI, h]

/-! ## keyword iteration -/

theorem mem_insertByLen {x w : Str} {l : List Str} : x ∈ insertByLen w l ↔ x = w ∨ x ∈ l := by
  induction l with
  | nil => simp [insertByLen]
  | cons a l ih =>
    unfold insertByLen
    split
    · rw [List.mem_cons, ih, List.mem_cons]; exact or_left_comm
    · exact List.mem_cons

theorem mem_sortLenDesc {x : Str} {l : List Str} : x ∈ sortLenDesc l ↔ x ∈ l := by
  induction l with
  | nil => exact Iff.rfl
  | cons a l ih =>
    show x ∈ insertByLen a (sortLenDesc l) ↔ _
    rw [mem_insertByLen, ih, List.mem_cons]

def firstHit (ks : List Str) (T : Str) : Option Str := ks.find? (fun k => hasPrefixCI k T)

theorem firstHit_lower_eq (ks : List Str) {s t : Str} (h : lowerStr s = lowerStr t) :
    firstHit ks s = firstHit ks t := by
  unfold firstHit
  have : (fun k => hasPrefixCI k s) = (fun k => hasPrefixCI k t) := by
    funext k; exact hasPrefixCI_of_lower_eq k h
  rw [this]

theorem matchDateKw_skip {l1 : List Str} {s : Str} (h : ∀ k ∈ l1, hasPrefixCI k s = false)
    (l2 : List Str) : matchDateKw (l1 ++ l2) s = matchDateKw l2 s := by
  induction l1 with
  | nil => rfl
  | cons k l1 ih =>
    rw [List.cons_append, matchDateKw, if_neg (by simp [h k (by simp)])]
    exact ih fun k' hk' => h k' (by simp [hk'])

theorem matchDateKw_no_prefix {ks : List Str} {s : Str} (h : ∀ k ∈ ks, hasPrefixCI k s = false) :
    matchDateKw ks s = matchAfterKw [] s := by
  have := matchDateKw_skip h []
  rwa [List.append_nil] at this

theorem matchDateKw_tok {ks : List Str} (hks : ∀ k ∈ ks, ∀ b ∈ k, b ≠ 32) {T B k : Str}
    (hf : firstHit ks T = some k) (hl : k.length = T.length) {p : DateParts}
    (hp : matchAfterKw T (32 :: B) = some p) :
    matchDateKw ks (T ++ 32 :: B) = some p := by
  obtain ⟨hk, l1, l2, rfl, hl1⟩ := List.find?_eq_some_iff_append.mp hf
  have hpre : ∀ k' ∈ l1 ++ k :: l2, hasPrefixCI k' (T ++ 32 :: B) = hasPrefixCI k' T :=
    fun k' hk' => hasPrefixCI_tok (hks k' hk') T B
  rw [matchDateKw_skip fun k' hk' => by rw [hpre k' (by simp [hk'])]; simpa using hl1 k' hk',
    matchDateKw, hpre k (by simp), if_pos hk, hl, List.take_left, List.drop_left, hp]

theorem matchAfterKw_space {kw B : Str} {x : Str × Str × Str} (h : matchTail B = some x) :
    matchAfterKw kw (32 :: B) = some ⟨kw, x.1, x.2.1, x.2.2⟩ := by
  simp [matchAfterKw, h]

theorem matchAfterKw_nospace {kw : Str} {b : UInt8} {B : Str} (hb : b ≠ 32) {x : Str × Str × Str}
    (h : matchTail (b :: B) = some x) :
    matchAfterKw kw (b :: B) = some ⟨kw, x.1, x.2.1, x.2.2⟩ := by
  unfold matchAfterKw
  split
  · next t e => simp at e; exact absurd e.1 hb
  · simp [h]

end Gedcom

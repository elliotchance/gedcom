/-
  "Nothing invented", with ancestry: every node of the result, together with the tags of its
  ancestors from the root down, stems from a node of an input with the same tag, value, pointer
  and the same ancestor tags.  (Ancestor *tags*, not ancestor headers: a merged node carries the
  left node's value, and nodes of the right input hang below it when the two are Equal — Equal
  nodes have the same tag, `equalsShallow_tag`, but not necessarily the same value.)
-/
import Gedcom.Lemmas.Merge
import Gedcom.Model.Decoder
import Gedcom.Lemmas.Node
namespace Gedcom

abbrev Hdr := Str × Str × Str

/-- a node as seen from the root: the tags of its proper ancestors (root first) and its own tag,
    value and pointer -/
abbrev TagPath := List Str × Hdr

mutual
/-- every node of the tree with its ancestor tags; `pre` = tags above the tree's root -/
def tagPaths (pre : List Str) : Node → List TagPath
  | .mk t v p ks => (pre, (t, v, p)) :: tagPathsL (pre ++ [t]) ks
def tagPathsL (pre : List Str) : List Node → List TagPath
  | [] => []
  | k :: ks => tagPaths pre k ++ tagPathsL pre ks
end

theorem mem_tagPathsL {pre : List Str} {x : TagPath} {ks : List Node} :
    x ∈ tagPathsL pre ks ↔ ∃ k ∈ ks, x ∈ tagPaths pre k := by
  induction ks with
  | nil => simp [tagPathsL]
  | cons k ks ih => simp [tagPathsL, ih]

theorem tagPaths_eq (pre : List Str) (n : Node) :
    tagPaths pre n = (pre, (n.tag, n.value, n.ptr)) :: tagPathsL (pre ++ [n.tag]) n.kids := by
  cases n; simp [tagPaths, Node.tag, Node.value, Node.ptr, Node.kids]

/-- every node of `v`, with its ancestor tags, is a node of one of `xs` with the same ancestor
    tags (below any common prefix) -/
def FromPaths (xs : List Node) (v : Node) : Prop :=
  ∀ pre x, x ∈ tagPaths pre v → x ∈ tagPathsL pre xs

theorem FromPaths.mono {xs ys : List Node} {v : Node} (h : FromPaths xs v) (hs : ∀ x ∈ xs, x ∈ ys) :
    FromPaths ys v := by
  intro pre x hx
  obtain ⟨k, hk, hk'⟩ := mem_tagPathsL.mp (h pre x hx)
  exact mem_tagPathsL.mpr ⟨k, hs k hk, hk'⟩

theorem FromPaths.self {xs : List Node} {v : Node} (h : v ∈ xs) : FromPaths xs v :=
  fun _ _ hx => mem_tagPathsL.mpr ⟨v, h, hx⟩

theorem FromPaths.trans {xs vs : List Node} {v : Node} (h : FromPaths vs v)
    (hs : ∀ x ∈ vs, FromPaths xs x) : FromPaths xs v := by
  intro pre x hx
  obtain ⟨k, hk, hk'⟩ := mem_tagPathsL.mp (h pre x hx)
  exact hs k hk pre x hk'

/-- contract: every ancestor-tag path of the merged node is one of an argument -/
def PathFn (f : MergeFn) : Prop :=
  ∀ a b s m s', f a b s = (some m, s') → FromPaths [a.erase, b.erase] m.erase

theorem Made.paths {R : MSt → MSt → Prop} {fl : MergeFlags} {f : MergeFn} {l r : List INode}
    {st fin : MSt} {e : Elem} (hf : PathFn f) (h : Made R fl f l r st fin e) :
    FromPaths ((l ++ r).map INode.erase) e.node.erase := by
  cases h with
  | @copy p a s hp _ _ =>
    exact FromPaths.self
      (List.mem_map.mpr ⟨a, Src.mem_iff.mpr ⟨p, hp⟩, (copyIf_erase _ _ _).symm⟩)
  | @merged i j a b y n s s' ha hb hy _ hfm _ =>
    refine (hf _ _ _ _ _ hfm).mono fun x hx => ?_
    rcases List.mem_cons.mp hx with rfl | hx
    · exact List.mem_map.mpr ⟨a, Src.mem_iff.mpr ⟨.L i, ha⟩, hy.symm⟩
    · rw [List.mem_singleton.mp hx]
      exact List.mem_map.mpr ⟨b, Src.mem_iff.mpr ⟨.R j, hb⟩, rfl⟩

theorem mergeNodeSlices_paths (fl : MergeFlags) (f : MergeFn) (hf : PathFn f) (l r : List INode)
    (st : MSt) :
    ∀ n ∈ (mergeNodeSlices fl f l r st).1, FromPaths ((l ++ r).map INode.erase) n.erase := by
  intro n hn
  obtain ⟨e, he, rfl⟩ := List.mem_map.mp hn
  exact ((mergeNodeSlicesP_made (Follows.any fl f l r) st).2.2 e he).paths hf

/-- `n.SetNodes(ks)` where `ks` stems from the children of `n` and of a node `c` with the tag of
    `n` -/
theorem FromPaths_setKids {X : List Node} {n c : INode} {ks : List INode}
    (hn : FromPaths X n.erase) (hc : FromPaths X c.erase) (ht : c.erase.tag = n.erase.tag)
    (hk : ∀ k ∈ ks, FromPaths ((c.kids ++ n.kids).map INode.erase) k.erase) :
    FromPaths X (n.setKids ks).erase := by
  intro pre x hx
  rw [INode.setKids_erase, tagPaths_eq] at hx
  simp only [Node.tag, Node.value, Node.ptr, Node.kids] at hx
  rcases List.mem_cons.mp hx with rfl | hx
  · apply hn
    rw [tagPaths_eq, INode.erase_eq n]
    simp [Node.tag, Node.value, Node.ptr]
  · obtain ⟨k, hk', hk''⟩ := mem_tagPathsL.mp hx
    obtain ⟨k0, hk0, rfl⟩ := List.mem_map.mp hk'
    obtain ⟨y, hy, hy'⟩ := mem_tagPathsL.mp (hk k0 hk0 _ x hk'')
    have hnt : n.erase.tag = n.tag := by rw [INode.erase_eq]; rfl
    rw [List.map_append, ← INode.erase_kids, ← INode.erase_kids] at hy
    rcases List.mem_append.mp hy with hy | hy
    · apply hc
      rw [tagPaths_eq, ht, hnt]
      exact List.mem_cons_of_mem _ (mem_tagPathsL.mpr ⟨y, hy, hy'⟩)
    · apply hn
      rw [tagPaths_eq, hnt]
      exact List.mem_cons_of_mem _ (mem_tagPathsL.mpr ⟨y, hy, hy'⟩)

theorem foldRight_paths (fl : MergeFlags) (eqf : MergeFn) (hf : PathFn eqf) (root : Nat)
    (rootTag : Str) (kids cur : List INode) (st : MSt) :
    ∀ n ∈ (foldRight fl eqf root rootTag cur kids st).1,
      FromPaths ((kids ++ cur).map INode.erase) n.erase :=
  (foldRight_forall fl eqf root rootTag (fun n => FromPaths ((kids ++ cur).map INode.erase) n.erase)
    (fun _ => True) (fun _ _ _ => trivial)
    (fun n child s hn hc hE _ =>
      ⟨FromPaths_setKids hn hc (equalsShallow_tag hE).symm
        (mergeNodeSlices_paths fl eqf hf child.kids n.kids s), trivial⟩)
    (fun child s hc _ => ⟨by rw [addedChild_erase]; exact hc, trivial⟩)
    kids cur st
    (fun n hn => FromPaths.self (List.mem_map_of_mem (List.mem_append_right _ hn)))
    (fun c hc => FromPaths.self (List.mem_map_of_mem (List.mem_append_left _ hc))) trivial).1

theorem eqMergeWith_paths (mn : INode → INode → MSt → MergeOutcome)
    (h : ∀ l r st m st', mn l r st = .ok m st' → FromPaths [l.erase, r.erase] m.erase) :
    PathFn (eqMergeWith mn) :=
  fun a b s m s' hf => h a b s m s' (eqMergeWith_some hf).2

theorem mergeNodesF_paths (fl : MergeFlags) (fuel : Nat) :
    ∀ (l r : INode) (st : MSt) (m : INode) (st' : MSt), mergeNodesF fl fuel l r st = .ok m st' →
      FromPaths [l.erase, r.erase] m.erase := by
  refine mergeNodesF_rule (fun mn ih l r st htag => ?_) fuel
  have hl : FromPaths [l.erase, r.erase] (copyM l st).1.erase := by
    rw [copyM_erase]; exact FromPaths.self (by simp)
  have hr : FromPaths [l.erase, r.erase] r.erase := FromPaths.self (by simp)
  exact FromPaths_setKids hl hr (by rw [copyM_erase, INode.erase_tag, INode.erase_tag, htag])
    (foldRight_paths fl _ (eqMergeWith_paths _ ih) _ _ _ _ _)

theorem eqMergeF_paths (fl : MergeFlags) (fuel : Nat) : PathFn (eqMergeF fl fuel) :=
  eqMergeWith_paths _ (mergeNodesF_paths fl fuel)

theorem neverMerge_paths : PathFn neverMerge := by
  intro a b s m s' h; simp [neverMerge] at h

mutual
/-- every HUSB / WIFE / CHIL node of the tree has a FAM node among its proper ancestors
    (`above` = a FAM node lies above the tree) -/
def rolesBelowFam (above : Bool) : Node → Bool
  | .mk t _ _ ks => (!needsFamily t || above) && rolesBelowFamL (above || t == tagFAM) ks
def rolesBelowFamL (above : Bool) : List Node → Bool
  | [] => true
  | k :: ks => rolesBelowFam above k && rolesBelowFamL above ks
end

theorem rolesBelowFamL_paths : ∀ (ks : List Node) (pre : List Str) (above : Bool),
    above = pre.contains tagFAM →
    (rolesBelowFamL above ks = true ↔
      ∀ x ∈ tagPathsL pre ks, needsFamily x.2.1 = true → x.1.contains tagFAM = true) := by
  intro ks
  induction ks using Forest.induct with
  | nil =>
    intros
    simp [rolesBelowFamL, tagPathsL]
  | cons t v p ks ns ihk ihn =>
    intro pre above ha
    subst ha
    have hrec := ihk (pre ++ [t]) (pre.contains tagFAM || t == tagFAM) (by
      rw [List.contains_append, List.contains_cons, List.contains_nil, Bool.or_false,
        Bool.beq_comm])
    -- `(!a || b) = true` is `a = true → b = true`
    simp only [rolesBelowFamL, rolesBelowFam, Bool.and_eq_true, hrec, ihn pre _ rfl, tagPathsL, tagPaths,
      List.mem_append, List.mem_cons, or_imp, forall_and, forall_eq, Bool.or_eq_true,
      Bool.not_eq_true', ← Bool.not_eq_true, ← Decidable.imp_iff_not_or]

theorem rolesBelowFam_paths (n : Node) (pre : List Str) (above : Bool) (ha : above = pre.contains tagFAM) :
    rolesBelowFam above n = true ↔
      ∀ x ∈ tagPaths pre n, needsFamily x.2.1 = true → x.1.contains tagFAM = true := by
  have := rolesBelowFamL_paths [n] pre above ha
  rwa [rolesBelowFamL, rolesBelowFamL, Bool.and_true, tagPathsL, tagPathsL, List.append_nil] at this

theorem rolesBelowFam_fromPaths {xs : List Node} {v : Node} (h : FromPaths xs v)
    (hx : ∀ x ∈ xs, rolesBelowFam false x = true) : rolesBelowFam false v = true := by
  rw [rolesBelowFam_paths v [] false (by simp)]
  intro x hxv hn
  obtain ⟨k, hk, hk'⟩ := mem_tagPathsL.mp (h [] x hxv)
  exact (rolesBelowFam_paths k [] false (by simp)).mp (hx k hk) x hk' hn

/-! ## bridge to the role-order condition of `C01.Legal` (Gedcom/Model/Decoder.lean) -/

/-- the decoder spells the role tags as byte lists, the merge model as `lit` of a string: the
    same bytes (evaluated) -/
theorem isRoleTag_eq (t : Str) : Dec.isRoleTag t = needsFamily t := by
  have h1 : lit "HUSB" = Dec.tHUSB := by decide +kernel
  have h2 : lit "WIFE" = Dec.tWIFE := by decide +kernel
  have h3 : lit "CHIL" = Dec.tCHIL := by decide +kernel
  simp only [Dec.isRoleTag, needsFamily, h1, h2, h3]

theorem tFAM_eq : Dec.tFAM = tagFAM := by decide +kernel

theorem famAfterF_of_seen : ∀ (ks : List Node), Dec.famAfterF true ks = true := by
  intro ks
  induction ks using Forest.induct with
  | nil => rw [Dec.famAfterF]
  | cons t v p ks ns ihk ihn => rwa [Dec.famAfterF, Dec.famAfterT, Bool.true_or, ihk]

theorem rolesOKF_of_below : ∀ (ks : List Node) (above seen : Bool), rolesBelowFamL above ks = true →
    (above = true → seen = true) → Dec.rolesOKF seen ks = true := by
  intro ks
  induction ks using Forest.induct with
  | nil =>
    intros
    rw [Dec.rolesOKF]
  | cons t v p ks ns ihk ihn =>
    intro above seen h hs
    simp only [rolesBelowFamL, rolesBelowFam, Bool.and_eq_true, Bool.or_eq_true, Bool.not_eq_true'] at h
    rw [Dec.rolesOKF, Dec.rolesOKT]
    simp only [Bool.and_eq_true, Bool.or_eq_true, Bool.not_eq_true', isRoleTag_eq]
    refine ⟨⟨h.1.1.imp_right hs, ihk (above || t == tagFAM) _ h.1.2 ?_⟩, ihn above _ h.2 ?_⟩
    · intro ha
      simp only [Bool.or_eq_true] at ha ⊢
      exact ha.imp hs fun ha => by rw [tFAM_eq]; exact ha
    · intro ha
      rw [hs ha, Dec.famAfterT, Bool.true_or]
      exact famAfterF_of_seen ks

/-- a tree in which every role node lies below a FAM node satisfies the role-order condition
    whatever came before it -/
theorem rolesOKT_of_below : ∀ (n : Node) (above seen : Bool), rolesBelowFam above n = true →
    (above = true → seen = true) → Dec.rolesOKT seen n = true := by
  intro n above seen h hs
  have := rolesOKF_of_below [n] above seen (by simp [rolesBelowFamL, h]) hs
  rw [Dec.rolesOKF, Bool.and_eq_true] at this
  exact this.1

theorem rolesBelowFamL_iff (above : Bool) (ks : List Node) :
    rolesBelowFamL above ks = true ↔ ∀ k ∈ ks, rolesBelowFam above k = true := by
  induction ks with
  | nil => simp [rolesBelowFamL]
  | cons k ks ih => simp [rolesBelowFamL, ih]

theorem rolesOKF_of_records (f : List Node) (h : ∀ k ∈ f, rolesBelowFam false k = true) :
    Dec.rolesOKF false f = true :=
  rolesOKF_of_below f false false ((rolesBelowFamL_iff false f).mpr h) (fun h => by cases h)

end Gedcom

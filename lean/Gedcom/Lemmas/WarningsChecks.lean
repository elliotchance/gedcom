/- C20: each check up to the code's own test — a warning is reported exactly when a record meets the
   test, "for any reading of the test": the property theorems put in what the test says of exact days
   or of dates of every shape (core Lean only; `siblings_reported` needs the symmetry of its test and
   stands in WarningsSiblings). -/
import Gedcom.Lemmas.Warnings
import Gedcom.Lemmas.Basics
namespace Gedcom.Warn

theorem mem_unparsable {b b' : Bool} {p p' l : Nat} {evs : List Ev} :
    Warning.unparsableDate b p l ∈ unparsable b' p' evs ↔
      b = b' ∧ p' = p ∧ ∃ e ∈ evs, ∃ x ∈ e.dates, x.valid = false ∧ x.label = l := by
  simp only [unparsable, datesOf, List.mem_flatMap, List.mem_ite_nil_left, List.mem_singleton,
    Warning.unparsableDate.injEq, Bool.not_eq_true]
  constructor
  · rintro ⟨x, ⟨e, he, hx⟩, hv, rfl, rfl, rfl⟩
    exact ⟨rfl, rfl, e, he, x, hx, hv, rfl⟩
  · rintro ⟨rfl, rfl, e, he, x, hx, hv, rfl⟩
    exact ⟨x, ⟨e, he, hx⟩, hv, rfl, rfl, rfl⟩

theorem mem_multipleSexes {i : Indi} {p n : Nat} :
    Warning.multipleSexes p n ∈ multipleSexes i ↔ i.ptr = p ∧ i.sexes.length = n ∧ 1 < n := by
  unfold multipleSexes
  rw [mem_ite_singleton, Warning.multipleSexes.injEq]
  constructor
  · rintro ⟨⟨rfl, rfl⟩, h⟩
    exact ⟨rfl, rfl, h⟩
  · rintro ⟨rfl, rfl, h⟩
    exact ⟨⟨rfl, rfl⟩, h⟩

theorem mem_inverseSpouses {d : Doc} {f : Fam} {fp hp wp : Nat} :
    Warning.inverseSpouses fp hp wp ∈ inverseSpouses d f ↔
      f.ptr = fp ∧ f.husb = some hp ∧ f.wife = some wp ∧
        firstSex (indiOf d hp) = some .f ∧ firstSex (indiOf d wp) = some .m := by
  unfold inverseSpouses
  -- a missing HUSB or WIFE resolves to nobody, who has no SEX
  cases f.husb with
  | none => simp [firstSex]
  | some h =>
    cases f.wife with
    | none => simp [firstSex]
    | some w =>
      simp only [mem_ite_singleton, Warning.inverseSpouses.injEq, Option.bind_some, Option.getD_some,
        Bool.and_eq_true, beq_iff_eq, Option.some.injEq]
      constructor
      · rintro ⟨⟨rfl, rfl, rfl⟩, hc⟩; exact ⟨rfl, rfl, rfl, hc⟩
      · rintro ⟨rfl, rfl, rfl, hc⟩; exact ⟨⟨rfl, rfl, rfl⟩, hc⟩

/-- the code's test on a child and a parent -/
def bornBefore (d : Doc) (c p : Nat) : Prop :=
  validO (birthOf (indiOf d c)) = true ∧ validO (birthOf (indiOf d p)) = true ∧
    yearsLtV (birthOf (indiOf d c)) (birthOf (indiOf d p)) = true

/-- `o` is the HUSB or WIFE pointer: an absent pointer resolves to nobody, whose birth date is not
    valid -/
theorem mem_cbbp_parent {d : Doc} {o : Option Nat} {cb : Option DateV} {fp fp' p c c' : Nat} :
    Warning.childBornBeforeParent fp p c ∈
      (if validO (birthOf (o.bind (indiOf d))) && yearsLtV cb (birthOf (o.bind (indiOf d)))
       then [Warning.childBornBeforeParent fp' (o.getD 0) c'] else []) ↔
    fp = fp' ∧ c = c' ∧ o = some p ∧ validO (birthOf (indiOf d p)) = true ∧
      yearsLtV cb (birthOf (indiOf d p)) = true := by
  cases o with
  | none => simp [birthOf, validO]
  | some q =>
    simp only [mem_ite_singleton, Warning.childBornBeforeParent.injEq, Option.bind_some,
      Option.getD_some, Bool.and_eq_true, Option.some.injEq]
    constructor
    · rintro ⟨⟨rfl, rfl, rfl⟩, h⟩; exact ⟨rfl, rfl, rfl, h⟩
    · rintro ⟨rfl, rfl, rfl, h⟩; exact ⟨⟨rfl, rfl, rfl⟩, h⟩

theorem mem_childrenBornBeforeParentsRaw {d : Doc} {f : Fam} {fp p c : Nat} :
    Warning.childBornBeforeParent fp p c ∈ childrenBornBeforeParentsRaw d f ↔
      f.ptr = fp ∧ c ∈ f.chil ∧ (f.husb = some p ∨ f.wife = some p) ∧ bornBefore d c p := by
  simp only [childrenBornBeforeParentsRaw, List.mem_flatMap, bornBefore]
  constructor
  · rintro ⟨c', hc', h⟩
    split at h
    · exact absurd h List.not_mem_nil
    · rename_i hv
      have hv : validO (birthOf (indiOf d c')) = true := by simpa using hv
      rcases List.mem_append.mp h with h | h
      · obtain ⟨rfl, rfl, hh, hvp, hlt⟩ := mem_cbbp_parent.mp h
        exact ⟨rfl, hc', Or.inl hh, hv, hvp, hlt⟩
      · obtain ⟨rfl, rfl, hh, hvp, hlt⟩ := mem_cbbp_parent.mp h
        exact ⟨rfl, hc', Or.inr hh, hv, hvp, hlt⟩
  · rintro ⟨rfl, hc, hpar, hv, hvp, hlt⟩
    refine ⟨c, hc, ?_⟩
    rw [if_neg (by simp [hv])]
    rcases hpar with hh | hh
    · exact List.mem_append_left _ (mem_cbbp_parent.mpr ⟨rfl, rfl, hh, hvp, hlt⟩)
    · exact List.mem_append_right _ (mem_cbbp_parent.mpr ⟨rfl, rfl, hh, hvp, hlt⟩)

/-- inside one family the pair set only removes repetitions -/
theorem mem_cbbp_fam {d : Doc} {f : Fam} {fp p c : Nat} :
    Warning.childBornBeforeParent fp p c ∈ childrenBornBeforeParents d f ↔
      Warning.childBornBeforeParent fp p c ∈ childrenBornBeforeParentsRaw d f := by
  constructor
  · exact fun h => (oncePerPair_sublist _).subset h
  · intro h
    obtain ⟨f', hf'⟩ := oncePerPair_cbbp_kept ⟨fp, h⟩
    have e1 := (mem_childrenBornBeforeParentsRaw.mp ((oncePerPair_sublist _).subset hf')).1
    have e2 := (mem_childrenBornBeforeParentsRaw.mp h).1
    rw [← e2, e1]; exact hf'

theorem rawWarnings_cbbp_iff {d : Doc} {now : Date} {fp p c : Nat} :
    Warning.childBornBeforeParent fp p c ∈ rawWarnings d now ↔
      ∃ f, Rec.fam f ∈ d ∧ f.ptr = fp ∧ c ∈ f.chil ∧ (f.husb = some p ∨ f.wife = some p) ∧
        bornBefore d c p := by
  simp only [mem_rawWarnings_cbbp, mem_cbbp_fam, mem_childrenBornBeforeParentsRaw]

theorem cbbp_reported {d : Doc} {now : Date} {p c : Nat} :
    (∃ fp, Warning.childBornBeforeParent fp p c ∈ warnings d now) ↔
      ∃ f, Rec.fam f ∈ d ∧ c ∈ f.chil ∧ (f.husb = some p ∨ f.wife = some p) ∧ bornBefore d c p := by
  constructor
  · rintro ⟨fp, h⟩
    obtain ⟨f, hf, _, rest⟩ := rawWarnings_cbbp_iff.mp ((oncePerPair_sublist _).subset h)
    exact ⟨f, hf, rest⟩
  · rintro ⟨f, hf, rest⟩
    exact oncePerPair_cbbp_kept ⟨f.ptr, rawWarnings_cbbp_iff.mpr ⟨f, hf, rfl, rest⟩⟩

/-- what `appendMarriedOutOfRange` tests on an age, for the young and the old warning -/
def marriedTest (a : Ages) (old : Bool) : Prop :=
  (old = false ∧ a.known = true ∧ a.hi < Generated.minMarriageAge * Generated.yearNs) ∨
  (old = true ∧ a.hi > Generated.maxMarriageAge * Generated.yearNs)

theorem marriedTest_unknown (old : Bool) : ¬ marriedTest unknownAges old := by
  rintro (⟨_, h, _⟩ | ⟨_, h⟩)
  · cases h
  · exact absurd h (by decide)

theorem mem_marriedCheck {fp sp k fp' sp' k' : Nat} {old : Bool} {a : Ages} :
    Warning.marriedOutOfRange fp' sp' old k' ∈ marriedCheck fp k a sp ↔
      fp = fp' ∧ sp = sp' ∧ k = k' ∧ marriedTest a old := by
  simp only [marriedCheck, marriedTest, List.mem_append, mem_ite_singleton,
    Warning.marriedOutOfRange.injEq, Bool.and_eq_true, decide_eq_true_eq]
  constructor
  · rintro (⟨⟨rfl, rfl, rfl, rfl⟩, h⟩ | ⟨⟨rfl, rfl, rfl, rfl⟩, h⟩)
    · exact ⟨rfl, rfl, rfl, Or.inl ⟨rfl, h⟩⟩
    · exact ⟨rfl, rfl, rfl, Or.inr ⟨rfl, h⟩⟩
  · rintro ⟨rfl, rfl, rfl, ⟨rfl, h⟩ | ⟨rfl, h⟩⟩
    · exact Or.inl ⟨⟨rfl, rfl, rfl, rfl⟩, h⟩
    · exact Or.inr ⟨⟨rfl, rfl, rfl, rfl⟩, h⟩

theorem mem_marriedSpouse {d : Doc} {o : Option Nat} {e : Ev} {fp k fp' sp k' : Nat} {old : Bool} :
    Warning.marriedOutOfRange fp' sp old k' ∈
      (match o.bind (indiOf d) with
       | some h => marriedCheck fp k (ageAtEvent h e) h.ptr
       | none => []) ↔
    fp = fp' ∧ k = k' ∧ o = some sp ∧ ∃ i, indiOf d sp = some i ∧ marriedTest (ageAtEvent i e) old := by
  constructor
  · intro h
    split at h
    · rename_i i hb
      obtain ⟨rfl, rfl, rfl, hc⟩ := mem_marriedCheck.mp h
      -- the pointer resolves to `i`, whose own pointer it is
      cases o with
      | none => cases hb
      | some q =>
        obtain rfl := (indiOf_some hb).2
        exact ⟨rfl, rfl, rfl, i, hb, hc⟩
    · exact absurd h List.not_mem_nil
  · rintro ⟨rfl, rfl, rfl, i, hi, hc⟩
    rw [Option.bind_some, hi]
    exact mem_marriedCheck.mpr ⟨rfl, (indiOf_some hi).2, rfl, hc⟩

theorem mem_marriedAt {d : Doc} {f : Fam} {k fp sp k' : Nat} {old : Bool} {e : Ev} :
    Warning.marriedOutOfRange fp sp old k' ∈ marriedAt d f k e ↔
      e.kind = .marr ∧ f.ptr = fp ∧ k = k' ∧ (f.husb = some sp ∨ f.wife = some sp) ∧
        ∃ i, indiOf d sp = some i ∧ marriedTest (ageAtEvent i e) old := by
  unfold marriedAt
  by_cases hk : e.kind = .marr
  · simp only [hk, bne_self_eq_false, Bool.false_eq_true, if_false, List.mem_append, true_and]
    constructor
    · rintro (h | h)
      · obtain ⟨hp, hk', ho, hi⟩ := mem_marriedSpouse.mp h
        exact ⟨hp, hk', Or.inl ho, hi⟩
      · obtain ⟨hp, hk', ho, hi⟩ := mem_marriedSpouse.mp h
        exact ⟨hp, hk', Or.inr ho, hi⟩
    · rintro ⟨hp, hk', ho | ho, hi⟩
      · exact Or.inl (mem_marriedSpouse.mpr ⟨hp, hk', ho, hi⟩)
      · exact Or.inr (mem_marriedSpouse.mpr ⟨hp, hk', ho, hi⟩)
  · have : (e.kind != EvKind.marr) = true := by simpa using hk
    simp [this, hk]

/-- for any reading `T` of the test -/
theorem married_reported {d : Doc} {now : Date} {fp sp k : Nat} {old : Bool} {T : Indi → Ev → Prop}
    (hT : ∀ {f e i}, Rec.fam f ∈ d → e ∈ f.events → indiOf d sp = some i →
      (marriedTest (ageAtEvent i e) old ↔ T i e)) :
    Warning.marriedOutOfRange fp sp old k ∈ warnings d now ↔
      ∃ f, Rec.fam f ∈ d ∧ f.ptr = fp ∧ (f.husb = some sp ∨ f.wife = some sp) ∧
        ∃ e, f.events[k]? = some e ∧ e.kind = .marr ∧ ∃ i, indiOf d sp = some i ∧ T i e := by
  refine mem_warnings_married.trans (exists_congr fun f => and_congr_right fun hf => ?_)
  rw [marriedOutOfRange, marriedFrom_eq, List.mem_flatMap]
  constructor
  · rintro ⟨⟨e, j⟩, hj, hm⟩
    have hj := List.mem_zipIdx_iff_getElem?.mp hj
    obtain ⟨hk, hp, rfl, hsp, i, hi, ht⟩ := mem_marriedAt.mp hm
    exact ⟨hp, hsp, e, hj, hk, i, hi, (hT hf (List.mem_of_getElem? hj) hi).mp ht⟩
  · rintro ⟨hp, hsp, e, hj, hk, i, hi, ht⟩
    exact ⟨(e, k), List.mem_zipIdx_iff_getElem?.mpr hj, mem_marriedAt.mpr
      ⟨hk, hp, rfl, hsp, i, hi, (hT hf (List.mem_of_getElem? hj) hi).mpr ht⟩⟩

theorem mem_tooOld {i : Indi} {now : Date} {p : Nat} :
    Warning.individualTooOld p ∈ tooOld i now ↔
      i.ptr = p ∧ (ageNow i now).hi > Generated.maxLivingAge * Generated.yearNs ∧
        (estDeath i).isSome = true := by
  unfold tooOld
  simp only [mem_ite_singleton, Warning.individualTooOld.injEq, Bool.and_eq_true, decide_eq_true_eq]
  exact and_congr_left' eq_comm

theorem tooOld_reported {d : Doc} {now : Date} {p : Nat} :
    Warning.individualTooOld p ∈ warnings d now ↔
      ∃ i, Rec.indi i ∈ d ∧ i.ptr = p ∧
        (ageNow i now).hi > Generated.maxLivingAge * Generated.yearNs ∧ (estDeath i).isSome = true :=
  mem_warnings_tooOld.trans (exists_congr fun _ => and_congr_right fun _ => mem_tooOld)

/-- the event-order group of a tag: birth < baptism (incl. LDS) < death < burial -/
def groupOf : EvKind → Option Nat
  | .birt => some 0
  | .bapm => some 1
  | .bapl => some 1
  | .deat => some 2
  | .buri => some 3
  | _ => none

def Dated (i : Indi) (k : EvKind) (x : DateV) : Prop := ∃ e ∈ i.events, e.kind = k ∧ x ∈ e.dates

theorem mem_groupEvents {i : Indi} {tags : List EvKind} {k : EvKind} {x : DateV} :
    (k, x) ∈ groupEvents i tags ↔ k ∈ tags ∧ Dated i k x := by
  simp only [groupEvents, List.mem_flatMap, List.mem_map, eventsOf, List.mem_filter, beq_iff_eq,
    Prod.mk.injEq, Dated]
  constructor
  · rintro ⟨t, ht, e, ⟨he, hk⟩, dt, hdt, rfl, rfl⟩
    exact ⟨ht, e, he, hk, hdt⟩
  · rintro ⟨ht, e, he, hk, hdt⟩
    exact ⟨k, ht, e, ⟨he, hk⟩, x, hdt, rfl, rfl⟩

theorem groupOf_iff {k : EvKind} {n : Nat} :
    groupOf k = some n ↔ ∃ tags, orderGroups[n]? = some tags ∧ k ∈ tags := by
  match n with
  | 0 | 1 | 2 | 3 =>
    simp only [orderGroups, List.getElem?_cons_zero, List.getElem?_cons_succ, Option.some.injEq,
      exists_eq_left']
    cases k <;> decide
  | n + 4 =>
    constructor
    · intro h
      cases k <;> simp [groupOf] at h
    · rintro ⟨_, h, _⟩
      simp [orderGroups] at h

theorem mem_orderFrom {p : Nat} {w : Warning} :
    ∀ gs : List (List (EvKind × DateV)), w ∈ orderFrom p gs ↔
      ∃ (n m : Nat) (g fg : List (EvKind × DateV)), n < m ∧ gs[n]? = some g ∧ gs[m]? = some fg ∧
        ∃ ev ∈ g, ∃ fut ∈ fg, w ∈ orderPair p ev fut := by
  intro gs
  induction gs with
  | nil => simp [orderFrom]
  | cons g later ih =>
    simp only [orderFrom, List.mem_append, List.mem_flatMap]
    constructor
    · rintro (⟨ev, hev, fg, hfg, fut, hfut, hw⟩ | h)
      · obtain ⟨m, hm⟩ := List.mem_iff_getElem?.mp hfg
        exact ⟨0, m + 1, g, fg, by omega, by simp, by simpa using hm, ev, hev, fut, hfut, hw⟩
      · obtain ⟨n, m, g', fg, hnm, hn, hm, rest⟩ := ih.mp h
        exact ⟨n + 1, m + 1, g', fg, by omega, by simpa using hn, by simpa using hm, rest⟩
    · rintro ⟨n, m, g', fg, hnm, hn, hm, ev, hev, fut, hfut, hw⟩
      match n, m with
      | 0, m + 1 =>
        simp only [List.getElem?_cons_zero, Option.some.injEq] at hn
        subst hn
        simp only [List.getElem?_cons_succ] at hm
        exact Or.inl ⟨ev, hev, fg, List.mem_of_getElem? hm, fut, hfut, hw⟩
      | n + 1, m + 1 =>
        simp only [List.getElem?_cons_succ] at hn hm
        exact Or.inr (ih.mpr ⟨n, m, g', fg, by omega, hn, hm, ev, hev, fut, hfut, hw⟩)
      | _, 0 => omega

theorem mem_incorrectEventOrder {i : Indi} {w : Warning} :
    w ∈ incorrectEventOrder i ↔
      ∃ k1 x1 k2 x2 g1 g2, groupOf k1 = some g1 ∧ groupOf k2 = some g2 ∧ g1 < g2 ∧
        Dated i k1 x1 ∧ Dated i k2 x2 ∧ w ∈ orderPair i.ptr (k1, x1) (k2, x2) := by
  unfold incorrectEventOrder
  simp only [mem_orderFrom, List.getElem?_map, Option.map_eq_some_iff]
  constructor
  · rintro ⟨n, m, _, _, hnm, ⟨t1, ht1, rfl⟩, ⟨t2, ht2, rfl⟩, ⟨k1, x1⟩, hev, ⟨k2, x2⟩, hfut, hw⟩
    obtain ⟨hk1, hd1⟩ := mem_groupEvents.mp hev
    obtain ⟨hk2, hd2⟩ := mem_groupEvents.mp hfut
    exact ⟨k1, x1, k2, x2, n, m, groupOf_iff.mpr ⟨t1, ht1, hk1⟩, groupOf_iff.mpr ⟨t2, ht2, hk2⟩,
      hnm, hd1, hd2, hw⟩
  · rintro ⟨k1, x1, k2, x2, g1, g2, hg1, hg2, hlt, hd1, hd2, hw⟩
    obtain ⟨t1, ht1, hk1⟩ := groupOf_iff.mp hg1
    obtain ⟨t2, ht2, hk2⟩ := groupOf_iff.mp hg2
    exact ⟨g1, g2, _, _, hlt, ⟨t1, ht1, rfl⟩, ⟨t2, ht2, rfl⟩, (k1, x1), mem_groupEvents.mpr ⟨hk1, hd1⟩,
      (k2, x2), mem_groupEvents.mpr ⟨hk2, hd2⟩, hw⟩

theorem div_nsPerDay (n : Int) :
    n * nsPerDay / nsPerDay = n ∧ ((n + 1) * nsPerDay - 1) / nsPerDay = n := by
  simp only [nsPerDay]
  omega

theorem dayS_ok (t : Date) : dayS (.ok t) = t.firstDay := (div_nsPerDay _).1

theorem dayE_ok (t : Date) : dayE (.ok t) = t.lastDay := (div_nsPerDay _).2

/-- one comparison of the event-order check, for dates of every shape: two exact days are compared
    like any other two valid dates -/
theorem orderPair_eq (p : Nat) (ev fut : EvKind × DateV) :
    orderPair p ev fut =
      if ev.2.valid && fut.2.valid &&
          decide (compare (dayS fut.2) (dayE fut.2) (dayS ev.2) (dayE ev.2) = .entirelyBefore) then
        [Warning.incorrectEventOrder p fut.1 fut.2 ev.1 ev.2]
      else [] := by
  obtain ⟨ek, ed⟩ := ev
  obtain ⟨fk, fd⟩ := fut
  unfold orderPair
  cases ed <;> cases fd <;> simp only []
  case ok.ok a b =>
    simp only [compareDates, dayS_ok, dayE_ok, DateV.valid, Bool.true_and]
    by_cases h : compare b.firstDay b.lastDay a.firstDay a.lastDay = .entirelyBefore <;> simp [h]

theorem mem_orderPair {q p : Nat} {ev fut : EvKind × DateV} {k1 k2 : EvKind} {x1 x2 : DateV} :
    Warning.incorrectEventOrder p k2 x2 k1 x1 ∈ orderPair q ev fut ↔
      p = q ∧ ev = (k1, x1) ∧ fut = (k2, x2) ∧ x1.valid = true ∧ x2.valid = true ∧
        compare (dayS x2) (dayE x2) (dayS x1) (dayE x1) = .entirelyBefore := by
  obtain ⟨ek, ed⟩ := ev
  obtain ⟨fk, fd⟩ := fut
  simp only [orderPair_eq, mem_ite_singleton, Warning.incorrectEventOrder.injEq, Prod.mk.injEq,
    Bool.and_eq_true, decide_eq_true_eq]
  constructor
  · rintro ⟨⟨rfl, rfl, rfl, rfl, rfl⟩, ⟨hv1, hv2⟩, hc⟩
    exact ⟨rfl, ⟨rfl, rfl⟩, ⟨rfl, rfl⟩, hv1, hv2, hc⟩
  · rintro ⟨rfl, ⟨rfl, rfl⟩, ⟨rfl, rfl⟩, hv1, hv2, hc⟩
    exact ⟨⟨rfl, rfl, rfl, rfl, rfl⟩, ⟨hv1, hv2⟩, hc⟩

/-- for any reading `C` of the test -/
theorem event_order_reported {d : Doc} {now : Date} {p : Nat} {k1 k2 : EvKind} {x1 x2 : DateV}
    {C : Prop}
    (hC : ∀ {i}, Rec.indi i ∈ d → Dated i k1 x1 → Dated i k2 x2 →
      ((x1.valid = true ∧ x2.valid = true ∧
        compare (dayS x2) (dayE x2) (dayS x1) (dayE x1) = .entirelyBefore) ↔ C)) :
    Warning.incorrectEventOrder p k2 x2 k1 x1 ∈ warnings d now ↔
      ∃ i, Rec.indi i ∈ d ∧ i.ptr = p ∧ ∃ g1 g2, groupOf k1 = some g1 ∧ groupOf k2 = some g2 ∧
        g1 < g2 ∧ Dated i k1 x1 ∧ Dated i k2 x2 ∧ C := by
  rw [mem_warnings_eventOrder]
  constructor
  · rintro ⟨i, hi, h⟩
    obtain ⟨k1', x1', k2', x2', g1, g2, hg1, hg2, hlt, hd1, hd2, hw⟩ := mem_incorrectEventOrder.mp h
    obtain ⟨rfl, he, hf, hv⟩ := mem_orderPair.mp hw
    cases he
    cases hf
    exact ⟨i, hi, rfl, g1, g2, hg1, hg2, hlt, hd1, hd2, (hC hi hd1 hd2).mp hv⟩
  · rintro ⟨i, hi, rfl, g1, g2, hg1, hg2, hlt, hd1, hd2, hc⟩
    exact ⟨i, hi, mem_incorrectEventOrder.mpr ⟨k1, x1, k2, x2, g1, g2, hg1, hg2, hlt, hd1, hd2,
      mem_orderPair.mpr ⟨rfl, rfl, rfl, (hC hi hd1 hd2).mpr hc⟩⟩⟩

end Gedcom.Warn

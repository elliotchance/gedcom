/- The decoder's stack of open nodes: closing down to a level, attaching finished trees, trimming
   and continuing the deepest one; the loop around `step`. -/
import Gedcom.Lemmas.Line
namespace Gedcom.Dec

def setFam (b : Bool) (s : St) : St := { s with seenFam := b }

/-- append finished trees to the deepest open node, or to the roots -/
def attach (s : St) (ts : List Node) : St :=
  match s with
  | ⟨r, [], sf⟩ => ⟨r ++ ts, [], sf⟩
  | ⟨r, f :: fs, sf⟩ => ⟨r, { f with kids := f.kids ++ ts } :: fs, sf⟩

@[simp] theorem setFam_stack (b : Bool) (s : St) : (setFam b s).stack = s.stack := rfl
@[simp] theorem setFam_roots (b : Bool) (s : St) : (setFam b s).roots = s.roots := rfl
@[simp] theorem setFam_seen (b : Bool) (s : St) : (setFam b s).seenFam = b := rfl
@[simp] theorem setFam_setFam (a b : Bool) (s : St) : setFam a (setFam b s) = setFam a s := rfl
@[simp] theorem setFam_self (s : St) : setFam s.seenFam s = s := rfl

@[simp] theorem closeOne_len (s : St) : (closeOne s).stack.length = s.stack.length - 1 := by
  rcases s with ⟨r, _ | ⟨f, _ | ⟨g, fs⟩⟩, sf⟩ <;> simp [closeOne]
@[simp] theorem closeOne_seen (s : St) : (closeOne s).seenFam = s.seenFam := by
  rcases s with ⟨r, _ | ⟨f, _ | ⟨g, fs⟩⟩, sf⟩ <;> simp [closeOne]
theorem closeOne_setFam (b : Bool) (s : St) : closeOne (setFam b s) = setFam b (closeOne s) := by
  rcases s with ⟨r, _ | ⟨f, _ | ⟨g, fs⟩⟩, sf⟩ <;> simp [closeOne, setFam]

theorem closeN_len (k : Nat) (s : St) : (closeN k s).stack.length = s.stack.length - k := by
  induction k generalizing s with
  | zero => simp [closeN]
  | succ k ih => simp [closeN, ih]; omega
theorem closeN_seen (k : Nat) (s : St) : (closeN k s).seenFam = s.seenFam := by
  induction k generalizing s with
  | zero => simp [closeN]
  | succ k ih => simp [closeN, ih]
theorem closeN_setFam (k : Nat) (b : Bool) (s : St) : closeN k (setFam b s) = setFam b (closeN k s) := by
  induction k generalizing s with
  | zero => simp [closeN]
  | succ k ih => simp [closeN, closeOne_setFam, ih]

theorem closeTo_len (n : Nat) (s : St) (h : n ≤ s.stack.length) :
    (closeTo n s).stack.length = n := by
  simp [closeTo, closeN_len]; omega
@[simp] theorem closeTo_seen (n : Nat) (s : St) : (closeTo n s).seenFam = s.seenFam := by
  simp [closeTo, closeN_seen]
theorem closeTo_setFam (n : Nat) (b : Bool) (s : St) : closeTo n (setFam b s) = setFam b (closeTo n s) := by
  simp [closeTo, closeN_setFam]

theorem closeN_add (a b : Nat) (s : St) : closeN (a + b) s = closeN b (closeN a s) := by
  induction a generalizing s with
  | zero => simp [closeN]
  | succ a ih => simp [Nat.succ_add, closeN, ih]

theorem closeTo_closeTo (n m : Nat) (s : St) (h : n ≤ m) :
    closeTo n (closeTo m s) = closeTo n s := by
  unfold closeTo
  rw [closeN_len, ← closeN_add]
  congr 1; omega

theorem closeTo_self (s : St) (n : Nat) (h : s.stack.length ≤ n) : closeTo n s = s := by
  simp [closeTo, Nat.sub_eq_zero_of_le h, closeN]

@[simp] theorem attach_nil (s : St) : attach s [] = s := by
  rcases s with ⟨r, _ | ⟨f, fs⟩, sf⟩ <;> simp [attach]
theorem attach_attach (s : St) (a b : List Node) : attach (attach s a) b = attach s (a ++ b) := by
  rcases s with ⟨r, _ | ⟨f, fs⟩, sf⟩ <;> simp [attach]
theorem attach_setFam (b : Bool) (s : St) (ts : List Node) :
    attach (setFam b s) ts = setFam b (attach s ts) := by
  rcases s with ⟨r, _ | ⟨f, fs⟩, sf⟩ <;> simp [attach, setFam]
@[simp] theorem attach_stack_len (s : St) (ts : List Node) : (attach s ts).stack.length = s.stack.length := by
  rcases s with ⟨r, _ | ⟨f, fs⟩, sf⟩ <;> simp [attach]

theorem closeTo_push (s : St) (h : Hdr) (cs : List Node) :
    closeTo s.stack.length ⟨s.roots, ⟨h, cs⟩ :: s.stack, s.seenFam⟩ = attach s [.mk h.tag h.value h.ptr cs] := by
  rcases s with ⟨r, _ | ⟨f, fs⟩, sf⟩ <;> simp [closeTo, closeN, closeOne, attach, Frame.close]

/-- the deepest open node's value is already in trimmed form -/
def TopOK (s : St) : Prop := ∀ f fs, s.stack = f :: fs → trimSpace f.hdr.value = f.hdr.value

theorem trimTop_of_TopOK (s : St) (h : TopOK s) : trimTop s = s := by
  rcases s with ⟨r, _ | ⟨f, fs⟩, sf⟩
  · rfl
  · have := h f fs rfl
    simp [trimTop, this]

theorem TopOK_push (s : St) (h : Hdr) (hv : trimSpace h.value = h.value) : TopOK (push s h) := by
  intro f fs hf
  simp only [push, List.cons.injEq] at hf
  rw [← hf.1]; exact hv

@[simp] theorem trimTop_len (s : St) : (trimTop s).stack.length = s.stack.length := by
  rcases s with ⟨r, _ | ⟨f, fs⟩, sf⟩ <;> simp [trimTop]
@[simp] theorem trimTop_seen (s : St) : (trimTop s).seenFam = s.seenFam := by
  rcases s with ⟨r, _ | ⟨f, fs⟩, sf⟩ <;> simp [trimTop]

theorem appendTop_appendTop (a b : Str) (s : St) : appendTop b (appendTop a s) = appendTop (a ++ b) s := by
  rcases s with ⟨r, _ | ⟨f, fs⟩, sf⟩ <;> simp [appendTop, List.append_assoc]

theorem appendTop_nil (s : St) : appendTop [] s = s := by
  rcases s with ⟨r, _ | ⟨f, fs⟩, sf⟩ <;> simp [appendTop]

@[simp] theorem appendTop_seen (a : Str) (s : St) : (appendTop a s).seenFam = s.seenFam := by
  rcases s with ⟨r, _ | ⟨f, fs⟩, sf⟩ <;> simp [appendTop]

theorem appendTop_len (a : Str) (s : St) : (appendTop a s).stack.length = s.stack.length := by
  rcases s with ⟨r, _ | ⟨f, fs⟩, sf⟩ <;> rfl

theorem appendTop_push (s : St) (t v p a : Str) :
    appendTop a (push s ⟨t, v, p⟩) = push s ⟨t, v ++ a, p⟩ := by
  simp [push, appendTop]

/-- the two spellings of "not a role line before any family" -/
theorem role_guard (a b : Bool) : (!a || b) = true ↔ (a && !b) = false := by
  cases a <;> cases b <;> decide

theorem run_next (o : Opts) (s s' : St) (n : Nat) (l : Str) (ls : List Str)
    (h : step o s l = .next s') : run o s n (l :: ls) = run o s' (n + 1) ls := by
  simp [run, h]

/-- `decode` with the pair `stripBOM` returns taken apart, so that rewriting the run reduces the `match` -/
theorem decode_eq (o : Opts) (s : Str) : decode o s =
    match run o ⟨[], [], false⟩ 1 (splitLines (stripBOM s).2) with
    | .inl out => out
    | .inr st => .ok ⟨(stripBOM s).1, (closeTo 0 (trimTop st)).roots⟩ := rfl

end Gedcom.Dec
